import C2paModel.Lemmas.C40Eval
import C2paModel.Gen.C40Sites
/-
C40 — synchronous and asynchronous APIs behave identically.

Statement: for every operation offered in both forms, running the asynchronous form on the
same inputs, settings and signer yields the same outcome.

Every such pair in sdk/src is ONE body expanded twice by `#[async_generic]`; the two expansions
differ exactly at the `if _sync {A} else {B}` sites. Hence the two halves of the file.

The expansion theorem (`twins_equal`, over the step programs of Model/C40): if every site of a body
and of every generic callee body is a twin site (the async arm erases to the sync arm) and the
primitive callee pairs the caller supplies in two forms agree, the two expansions compute the same
result with the same fuel; both hypotheses are needed (witnesses). It is instantiated on one real
function, `verify_cose`, whose program is tied to its rows of the table.

The tables of the current source (`Gen/C40Sites.lean`, regenerated on every run and decided by the
kernel, most of them in the one evaluation `tables_decided`): every site is a token twin or one of
the `reviewed` sites, each held to its own weaker, still token-exact relation; no async arm leaves
a future un-awaited; the inventory of attributed functions is complete and contains the operations
the statement names; every hand-written `fn X_async`, adapter `impl` pair and `_async` callee is
accounted for. Two of the reviewed sites have sections of their own at the end: the settings value
passed to `cose_sign` (read and write sets disjoint) and the signer accessors, where the code
falsifies the full statement (`accessors_differ_from_settings`).
-/
namespace C2pa.C40

/-! ### The expansion theorem -/

def EnvTwins (env : Nat → Option Prog) : Prop := ∀ n body, env n = some body → twins body = true

/-- **Twin sites ⇒ equal expansions.** For all programs, environments of generic callees,
interpretations, fuel and states. -/
theorem twins_equal {σ ε : Type} (env : Nat → Option Prog) (I : Interp σ ε)
    (henv : EnvTwins env) (hleaf : LeafAgree env I) (p : Prog) (hp : twins p = true)
    (fuel : Nat) (s : σ) :
    evalF env I fuel .sync p s = evalF env I fuel .async p s := by
  -- callee bodies run with less fuel: strong induction gives their agreement below `fuel`
  induction fuel using Nat.strongRecOn generalizing p s with
  | _ F ih =>
    exact eq_of_erase_expand ⟨hleaf, fun f hf n body hn s => ih f hf body (henv n body hn) s⟩
      (twins_erase_expand p hp).symm F (Nat.le_refl F) s

/-- The macro's desugaring is what is evaluated, for either flavour `fl`: `expand fl` removes every site. -/
theorem expansion_sound {σ ε : Type} (env : Nat → Option Prog) (I : Interp σ ε) (fl : Flavour)
    (p : Prog) (fuel : Nat) (s : σ) :
    evalF env I fuel fl p s = evalF env I fuel fl (expand fl p) s ∧ noSite (expand fl p) = true :=
  ⟨eq_expand fuel fl p fuel (Nat.le_refl fuel) s, noSite_expand fl p⟩

/-- The twin hypothesis is needed: a site whose sync arm skips a step the async arm performs
(the shape of "one flavour skips a check") makes the two forms differ. -/
theorem nontwin_can_differ :
    ∃ (p : Prog) (s : TState), twins p = false ∧
      evalF testEnv tInterp 8 .sync p s ≠ evalF testEnv tInterp 8 .async p s :=
  ⟨.seq (.prim 0) (.seq (.site .skip (.prim 9)) (.prim 2)),
   { trace := [], conds := 0, ctr := 0, failAt := some 9 }, by decide, by
     simp [evalF, tInterp, tstep, C2pa.C40.ofExcept]⟩

/-- The leaf hypothesis is needed: with a twin site but a callee pair that disagrees
(non-equivalent sync/async signers) the two forms differ. -/
theorem leaf_disagreement_can_differ :
    ∃ (p : Prog) (s : TState), twins p = true ∧
      evalF (fun _ => none) tInterp 8 .sync p s ≠ evalF (fun _ => none) tInterp 8 .async p s :=
  ⟨.site (.leaf 1) (.leafA 1), { trace := [], conds := 0, ctr := 0, failAt := none }, by decide, by
     simp [evalF, tInterp, tstep, C2pa.C40.ofExcept]⟩

/-! ### The table of the current source -/

/-- Sites whose arms are not literal twins, reviewed one by one. Each must still satisfy the
relation of its kind (checked by the kernel below); any other edit of these sites, and any
new non-twin site, fails `all_sites_twins_or_listed`. -/
def reviewed : List Reviewed := [
  -- `self.maybe_add_timestamp(..)?;` vs `self.maybe_add_timestamp_async(..).await?` (unit value)
  { file := "builder.rs", fn := "sign", idx := 0, kind := .unitSemi },
  -- `ctx.signer()?` vs `ctx.async_signer()?`: the caller-supplied signer of each flavour
  { file := "builder.rs", fn := "save_to_stream", idx := 0, kind := .flavouredName },
  -- `SignerWrapper(signer)` vs `AsyncSignerWrapper(signer)`: forwarding adapters
  { file := "cose_sign.rs", fn := "cose_sign", idx := 0, kind := .flavouredName },
  -- `signer.sign(&tbs)?` vs `signer.sign(tbs).await?`
  { file := "crypto/cose/sign.rs", fn := "sign_v1", idx := 2, kind := .argMode },
  { file := "crypto/cose/sign.rs", fn := "sign_v2_embedded", idx := 1, kind := .argMode },
  -- `cose_sign(.., &adjusted_settings)` vs `cose_sign_async(.., settings)`
  { file := "store.rs", fn := "sign_claim", idx := 0, kind := .settingsProj }
]

/-- a callee name is accounted for: a generic function, a hand-written pair, a trait pair or a
reviewed orphan -/
def knownCallee (c : String) : Bool :=
  Gen.functions.any (fun f => f.2.1 == c) || Gen.handPairs.any (fun p => p.fn == c && !p.test) ||
    Gen.crossScope.any (fun x => x.2.1 == c && !x.2.2) || Gen.asyncOrphans.any (fun x => x.2.1 == c && !x.2.2)

abbrev siteOk (s : Site) : Bool :=
  s.coveredBy reviewed && awaitBalanced s.asyncArm && (asyncCallees s.asyncArm).all knownCallee &&
    Gen.functions.any (fun f => f.1 == s.file && f.2.1 == s.fn)

/-- The flavoured parameter types are exactly these: the things a caller supplies in two forms,
i.e. the primitive callee pairs of `LeafAgree`. -/
def flavouredTypes : List Tok :=
  [.pfA "Signer", .pfA "CoseSigner", .pfA "PostValidator", .pfA "DynamicAssertion", .pfA "HttpResolver"]

/-- `verifyCoseProg` with an async arm that skips the time-stamp validation: the program of
`verify_cose_skipping_tst_differs`, named here because `tables_decided` compares it with the table. -/
def verifyCoseSkippingTst : Prog :=
  .seq (.prim 0) (.seq (.prim 1) (.seq (.ite 0 (.prim 2) (.site (.leaf 1) .skip)) (.site (.leaf 2) (.leafA 2))))

/-- The regenerated tables, decided by the kernel, as one conjunction because the tables share
their string literals. Its groups: the site table, the hand-written pairs, the adapter pairs, the
signatures, `verify_cose`, and `verifyCoseSkippingTst`. Most table theorems below are its parts. -/
theorem tables_decided :
    (Gen.sites.all siteOk = true ∧ requiredPairs.all (isGeneric Gen.functions) = true ∧
      reviewed.all (fun r => Gen.siteChunks.any (fun ch => ch.any (fun s =>
        r.file == s.file && r.fn == s.fn && r.idx == s.idx && !s.isTwin))) = true) ∧
    (Gen.handPairs.all (fun p =>
        p.covered reviewedHand && (asyncCallees p.asyncBody).all knownCallee) = true ∧
      reviewedHand.all (fun r => Gen.handPairs.any (fun p =>
        !p.test && r.file == p.file && r.fn == p.fn && r.idx == p.idx)) = true) ∧
    (Gen.implPairs.all (fun p =>
        (p.test || p.syncMethods == p.asyncMethods) && (p.test || p.methodsOk)) = true ∧
      reviewedMethods.all (fun r => Gen.implPairs.any (fun p =>
        !p.test && p.traitName == r.1 && p.ty == r.2.1 &&
          p.methods.any (fun m => m.name == r.2.2.1 && !m.ok none))) = true) ∧
    Gen.signatures.all (fun g =>
      g.isTwin && g.flavoured.all (fun t => flavouredTypes.contains t)) = true ∧
    (progMatchesTable verifyCoseCallee ["validate_cose_tst_info", "verify_signature"] verifyCoseProg
        (Gen.sites.filter (fun s => s.file == "cose_validator.rs" && s.fn == "verify_cose")) = true ∧
      (Gen.sites.filter (fun s => s.file == "cose_validator.rs" && s.fn == "verify_cose")).all
        (fun s => s.isTwin && awaitBalanced s.asyncArm) = true ∧
      isGeneric Gen.functions ("cose_validator.rs", "verify_cose") = true ∧
      isGeneric Gen.functions ("crypto/cose/sigtst.rs", "validate_cose_tst_info") = true ∧
      isGeneric Gen.functions ("crypto/cose/verifier.rs", "verify_signature") = true) ∧
    progMatchesTable verifyCoseCallee ["validate_cose_tst_info", "verify_signature"] verifyCoseSkippingTst
      (Gen.sites.filter (fun s => s.file == "cose_validator.rs" && s.fn == "verify_cose")) = false := by
  decide +kernel

theorem sites_decided : Gen.sites.all siteOk = true := tables_decided.1.1

theorem hand_pairs_decided :
    Gen.handPairs.all (fun p =>
      p.covered reviewedHand && (asyncCallees p.asyncBody).all knownCallee) = true :=
  tables_decided.2.1.1

theorem impl_pairs_decided :
    Gen.implPairs.all (fun p =>
      (p.test || p.syncMethods == p.asyncMethods) && (p.test || p.methodsOk)) = true :=
  tables_decided.2.2.1.1

theorem signatures_decided :
    Gen.signatures.all (fun g =>
      g.isTwin && g.flavoured.all (fun t => flavouredTypes.contains t)) = true :=
  tables_decided.2.2.2.1

theorem skipping_tst_mismatches_table :
    progMatchesTable verifyCoseCallee ["validate_cose_tst_info", "verify_signature"] verifyCoseSkippingTst
      (Gen.sites.filter (fun s => s.file == "cose_validator.rs" && s.fn == "verify_cose")) = false :=
  tables_decided.2.2.2.2.2

theorem all_and {α : Type} {l : List α} {p q : α → Bool} (h : l.all (fun a => p a && q a) = true) :
    l.all p = true ∧ l.all q = true := by
  simp only [List.all_eq_true, Bool.and_eq_true] at h ⊢
  exact ⟨fun a ha => (h a ha).1, fun a ha => (h a ha).2⟩

theorem site_ok {s : Site} (hs : s ∈ Gen.sites) :
    s.coveredBy reviewed = true ∧ awaitBalanced s.asyncArm = true ∧
      (asyncCallees s.asyncArm).all knownCallee = true ∧
      Gen.functions.any (fun f => f.1 == s.file && f.2.1 == s.fn) = true := by
  simpa only [siteOk, Bool.and_eq_true, and_assoc] using List.all_eq_true.1 sites_decided s hs

/-- **Every `if _sync` site of the current source is a twin site or a reviewed one.** -/
theorem all_sites_twins_or_listed : Gen.sites.all (fun s => s.coveredBy reviewed) = true :=
  List.all_eq_true.2 fun _ hs => (site_ok hs).1

/-- Every reviewed entry is in use (no stale exception). -/
theorem reviewed_all_used :
    reviewed.all (fun r => Gen.siteChunks.any (fun ch => ch.any (fun s =>
      r.file == s.file && r.fn == s.fn && r.idx == s.idx && !s.isTwin))) = true :=
  tables_decided.1.2.2

/-- The operations the property statement names (and the internal pairs they are made of) are
**macro-generated** pairs of non-test code. Removing `#[async_generic]` from one of them and
writing two bodies by hand fails this (and the hand-written pair must then pass
`hand_pairs_reviewed`). -/
theorem required_pairs_generic : requiredPairs.all (isGeneric Gen.functions) = true :=
  tables_decided.1.2.1

/-- Every `_sync` token of sdk/src is one of the parsed sites (no `_async` conditions exist: the
translator fails closed on them); the list of attributed functions found by the lexer-based
scan has as many entries as there are `#[async_generic` attribute lines in the raw text
(independent scan; the harness repeats it a third time in Rust: request `inv`); every site lies
in a listed function; every required pair is present. -/
theorem inventory_complete :
    (Gen.siteChunks.map List.length).sum = Gen.syncTokenCount ∧ 0 < Gen.syncTokenCount ∧
      Gen.functions.length = Gen.functionCount ∧ Gen.functionCount = Gen.attrScanCount ∧
      requiredPairs.length ≤ Gen.functionCount ∧
      requiredPairs.all (isGeneric Gen.functions) = true ∧
      Gen.sites.all (fun s => Gen.functions.any (fun f => f.1 == s.file && f.2.1 == s.fn)) = true :=
  ⟨by decide +kernel, by decide +kernel, by decide +kernel, by decide +kernel, by decide +kernel,
    required_pairs_generic, List.all_eq_true.2 fun _ hs => (site_ok hs).2.2.2⟩

/-- Every `async_signature(..)` differs from the synchronous parameter list only in flavoured
type names (`Signer`/`AsyncSigner`, `CoseSigner`/`AsyncCoseSigner`, `PostValidator`/…). -/
theorem all_signatures_flavoured_only : Gen.signatures.all Sig.isTwin = true :=
  (all_and signatures_decided).1

theorem flavoured_parameter_types :
    Gen.signatures.all (fun g => g.flavoured.all (fun t => flavouredTypes.contains t)) = true :=
  (all_and signatures_decided).2

/-! ### Hand-written pairs -/

/-- **Every hand-written `fn X_async` with a sibling `fn X`** (non-test code) is a reviewed
entry and satisfies the relation of its kind, re-decided by the kernel on the regenerated
bodies: token-twin and await-balanced bodies (`X509SignatureVerifier`, `BuiltInSignatureVerifier`
`::check_signature(_async)`, `did_web::resolve(_async)`), bodies that are such twins once the one
log label naming the function is renamed (`IcaSignatureVerifier::check_signature(_async)`), a
bodiless trait declaration, a plain `fn` accessor of the asynchronous slot, or a pair with different bodies
that a named harness differential compares (`Ingredient::from_stream(_async)`). A new
hand-written pair, or an edit that makes two twin bodies diverge, fails this. -/
theorem hand_pairs_reviewed : Gen.handPairs.all (fun p => p.covered reviewedHand) = true :=
  (all_and hand_pairs_decided).1

theorem reviewed_hand_all_used :
    reviewedHand.all (fun r => Gen.handPairs.any (fun p =>
      !p.test && r.file == p.file && r.fn == p.fn && r.idx == p.idx)) = true :=
  tables_decided.2.1.2

/-- `fn X_async` / `fn X` in different scopes of one file (non-test code) are the
`SyncHttpResolver` / `AsyncHttpResolver` method pairs only. -/
theorem cross_scope_reviewed :
    Gen.crossScope.all (fun c => c.2.2 || reviewedCross.contains (c.1, c.2.1)) = true := by
  decide +kernel

/-- `fn X_async` without any `fn X` (non-test code) are the three reviewed deprecated
`Ingredient` constructors. -/
theorem async_orphans_reviewed :
    Gen.asyncOrphans.all (fun c => c.2.2 || reviewedOrphans.any (fun r => r.1 == c.1 && r.2.1 == c.2.1)) = true := by
  decide +kernel

/-- **The callee pairs are enumerated**: every `_async` function an async arm (or a hand-written
twin body) calls is a generic function (its own sites are in the table), a reviewed hand-written
pair, a method of the resolver trait pair, or a `fn X_async` without sibling
(`async_orphans_reviewed`). There is no implicit `LeafAgree` leaf with an `_async` name. -/
theorem all_async_callees_known :
    Gen.sites.all (fun s => (asyncCallees s.asyncArm).all knownCallee) = true ∧
    Gen.handPairs.all (fun p => (asyncCallees p.asyncBody).all knownCallee) = true :=
  ⟨List.all_eq_true.2 fun _ hs => (site_ok hs).2.2.1, (all_and hand_pairs_decided).2⟩

/-! ### Adapter pairs -/

/-- **Both flavours of every adapter forward the same trait methods.** For every pair
`impl T for X` / `impl AsyncT for AsyncX` of non-test code (`SignerWrapper`/`AsyncSignerWrapper`
as `CoseSigner` and as `TimeStampProvider`, `Box<T>` as `Signer`, `CallbackSigner`, the resolver
stacks, the identity assertion builders, the X.509 credential holders) the two `impl` blocks
define the same set of methods: none is overridden in one flavour and left to the trait's
default body in the other. -/
theorem adapter_pairs_forward_same_methods :
    Gen.implPairs.all (fun p => p.test || p.syncMethods == p.asyncMethods) = true :=
  (all_and impl_pairs_decided).1

/-- Each method the two `impl` blocks of an adapter pair have in common has token-twin,
await-balanced bodies, or is one of the reviewed methods (`reviewedMethods`) bound to its own relation;
for `.asyncOptIn` (`GenericResolver::http_resolve`) that relation is `awaitBalanced` of the async body
alone, the sync body is compared by hand. -/
theorem adapter_methods_twin_or_reviewed :
    Gen.implPairs.all (fun p => p.test || p.methodsOk) = true :=
  (all_and impl_pairs_decided).2

theorem reviewed_methods_all_used :
    reviewedMethods.all (fun r => Gen.implPairs.any (fun p => !p.test && p.traitName == r.1 && p.ty == r.2.1 &&
      p.methods.any (fun m => m.name == r.2.2.1 && !m.ok none))) = true :=
  tables_decided.2.2.1.2

/-- the adapters the signing path goes through are in the table (so
`adapter_pairs_forward_same_methods` and `adapter_methods_twin_or_reviewed` are about them) -/
theorem signer_adapters_present :
    ([("CoseSigner", "SignerWrapper < '_ >"), ("TimeStampProvider", "SignerWrapper < '_ >"),
      ("Signer", "Box < T >"), ("Signer", "CallbackSigner")] : List (String × String)).all
      (fun k => Gen.implPairs.any (fun p => !p.test && p.traitName == k.1 && p.ty == k.2 &&
        !p.syncMethods.isEmpty)) = true := by
  decide +kernel

theorem async_only_impls_reviewed :
    Gen.asyncOnlyImpls.all (fun i => i.2.2.2 || reviewedAsyncOnly.contains (i.2.1, i.2.2.1)) = true := by
  decide +kernel

/-! ### Awaited futures -/

/-- **No async arm creates a future without awaiting it**: in every async arm of the current
source every call of an `_async` function (after removing `Box::pin( … )` wrappers) other than the
plain-`fn` accessors of the asynchronous resolver slot (`syncNamedAccessors`: `resolver_async`, …) and
every call of a same-named `async` trait method (`flavouredMethods`) is directly followed by `.await`, and no
`async` block occurs. Together with `all_sites_twins_or_listed` an arm that normalises to the
sync arm really runs the calls it names. -/
theorem all_async_arms_await_balanced :
    Gen.sites.all (fun s => awaitBalanced s.asyncArm) = true :=
  List.all_eq_true.2 fun _ hs => (site_ok hs).2.1

/-- The hole `awaitBalanced` closes: arms that `related .twin` accepts although the future is
never driven — a missing `.await`, an un-awaited `Box::pin(..)`, an `async` block that is dropped,
and a same-named trait method without `.await`. -/
theorem unawaited_future_is_token_twin :
    (related .twin (["log", "(", "x", ")", ";"].map classify) (["log_async", "(", "x", ")", ";"].map classify) = true ∧
      awaitBalanced (["log_async", "(", "x", ")", ";"].map classify) = false) ∧
    (related .twin (["f", "(", "x", ")", ";"].map classify)
        (["Box", ":", ":", "pin", "(", "f_async", "(", "x", ")", ")", ";"].map classify) = true ∧
      awaitBalanced (["Box", ":", ":", "pin", "(", "f_async", "(", "x", ")", ")", ";"].map classify) = false) ∧
    (related .twin (["let", "_", "=", "{", "check", "(", "x", ")", "}", ";"].map classify)
        (["let", "_", "=", "async", "{", "check", "(", "x", ")", "}", ";"].map classify) = true ∧
      awaitBalanced (["let", "_", "=", "async", "{", "check", "(", "x", ")", "}", ";"].map classify) = false) ∧
    (related .twin (["let", "_", "=", "signer", ".", "sign", "(", "tbs", ")", ";"].map classify)
        (["let", "_", "=", "signer", ".", "sign", "(", "tbs", ")", ";"].map classify) = true ∧
      awaitBalanced (["let", "_", "=", "signer", ".", "sign", "(", "tbs", ")", ";"].map classify) = false) := by
  decide +kernel

/-- what `callsAwaited` (the scan `awaitBalanced` runs after removing `Box::pin`) demands of a
token list that starts with an `_async` call -/
theorem await_balanced_head (s : String) (r : List Tok) (hs : ¬ s ∈ syncNamedAccessors)
    (h : callsAwaited (.sfx s :: r) = true) : callAwaited r = true ∧ callsAwaited r = true := by
  simpa [callsAwaited, hs] using h

/-! ### `twins_equal` at work: `verify_cose` -/

/-- The program `verifyCoseProg` has the sites of `verify_cose` in the regenerated table: the same
number, order and nesting, and each arm calls exactly the callee pair of the program in the
flavour of the arm. -/
theorem verify_cose_matches_table :
    progMatchesTable verifyCoseCallee ["validate_cose_tst_info", "verify_signature"] verifyCoseProg
      (Gen.sites.filter (fun s => s.file == "cose_validator.rs" && s.fn == "verify_cose")) = true ∧
    (Gen.sites.filter (fun s => s.file == "cose_validator.rs" && s.fn == "verify_cose")).all
      (fun s => s.isTwin && awaitBalanced s.asyncArm) = true ∧
    isGeneric Gen.functions ("cose_validator.rs", "verify_cose") = true ∧
    isGeneric Gen.functions ("crypto/cose/sigtst.rs", "validate_cose_tst_info") = true ∧
    isGeneric Gen.functions ("crypto/cose/verifier.rs", "verify_signature") = true :=
  tables_decided.2.2.2.2.1

theorem verify_cose_twins : twins verifyCoseProg = true := by decide

/-- **`verify_cose` and `verify_cose_async` compute the same result**: for every meaning of the
shared steps (verifier choice, `parse_cose_sign1`, the time-stamp override), every state, every
environment of generic callee bodies with twin sites only (`validate_cose_tst_info`,
`verify_signature` and everything below them: `all_sites_twins_or_listed`) and agreeing
primitive callee pairs. -/
theorem verify_cose_flavours_agree {σ ε : Type} (env : Nat → Option Prog) (I : Interp σ ε)
    (henv : EnvTwins env) (hleaf : LeafAgree env I) (fuel : Nat) (s : σ) :
    evalF env I fuel .sync verifyCoseProg s = evalF env I fuel .async verifyCoseProg s :=
  twins_equal env I henv hleaf verifyCoseProg verify_cose_twins fuel s

/-- What the table protects against: `verify_cose` with an async arm that skips the time-stamp
validation is not a twin program, does not match the table, and the two flavours differ. -/
theorem verify_cose_skipping_tst_differs :
    let bad : Prog := .seq (.prim 0) (.seq (.prim 1) (.seq (.ite 0 (.prim 2) (.site (.leaf 1) .skip)) (.site (.leaf 2) (.leafA 2))))
    twins bad = false ∧
    progMatchesTable verifyCoseCallee ["validate_cose_tst_info", "verify_signature"] bad
      (Gen.sites.filter (fun s => s.file == "cose_validator.rs" && s.fn == "verify_cose")) = false ∧
    ∃ s : TState, evalF (fun _ => none) { tInterp with async := tInterp.sync } 4 .sync bad s ≠
      evalF (fun _ => none) { tInterp with async := tInterp.sync } 4 .async bad s := by
  refine ⟨by decide, skipping_tst_mismatches_table, ⟨{ trace := [], conds := 0, ctr := 0, failAt := none }, ?_⟩⟩
  simp [evalF, tInterp, tstep, C2pa.C40.ofExcept]

/-! ### The `settingsProj` site -/

/-- A callee that reads only fields `R` gives the same result on the adjusted settings when
no field of `R` is overwritten. -/
theorem settings_projection_safe {α : Type} (R W : List String) (f : Settings → α)
    (hf : ReadsOnly R f) (hdis : ∀ k, k ∈ R → k ∉ W) (v s : Settings) :
    f (adjust W v s) = f s := by
  apply hf
  intro k hk
  have hk' : ¬ k ∈ W := hdis k hk
  simp [adjust, hk']

/-- In the current source `cose_sign` reads `settings` only through `signing_cert_valid`, which
reads `trust.trust_config`; `adjusted_settings` differs from `settings` in
`verify.verify_timestamp_trust` only. (Regenerated; `*` marks a use the translator cannot
classify and makes this fail.) -/
theorem sign_claim_settings_disjoint :
    (∀ k, k ∈ Gen.coseSignSettingsReads → k ∉ Gen.adjustedSettingsWrites) ∧
      ¬ "*" ∈ Gen.coseSignSettingsReads ∧ ¬ "*" ∈ Gen.adjustedSettingsWrites := by
  decide +kernel

/-- The two facts combined on the regenerated tables: whatever `cose_sign` computes from the
settings (any function that reads only the fields `cose_sign` reads in the current source) is
the same on `adjusted_settings` and on `settings`, whatever values `Store::sign_claim` writes
into the adjusted fields. -/
theorem cose_sign_sees_same_settings {α : Type} (f : Settings → α)
    (hf : ReadsOnly Gen.coseSignSettingsReads f) (v s : Settings) :
    f (adjust Gen.adjustedSettingsWrites v s) = f s :=
  settings_projection_safe Gen.coseSignSettingsReads Gen.adjustedSettingsWrites f hf
    sign_claim_settings_disjoint.1 v s

/-! ### The `flavouredName` site of `Builder::save_to_stream`: `ctx.signer()` / `ctx.async_signer()` -/

/-- Full statement for the accessor pair (false for the code as it is). -/
def AccessorsAgree : Prop := ∀ slot, ctxSigner slot = ctxAsyncSigner slot

/-- With a caller-supplied signer of each flavour the accessors agree. -/
theorem accessors_agree_partial : ctxSigner .custom = ctxAsyncSigner .custom := rfl

/-- The model of the two accessors (`ctxSigner` / `ctxAsyncSigner`, written after `Context::signer` /
`async_signer`) falsifies the full statement: a signer that exists only in the settings is found by
the sync accessor and not by the async one (known finding `sync-async-differ:settings-signer`,
replayed on the implementation by the harness). Without signer settings both fail, with
different error kinds. -/
theorem accessors_differ_from_settings : ¬ AccessorsAgree := by
  intro h; have := h (.fromSettings true); simp [ctxSigner, ctxAsyncSigner] at this

/-! ### Non-vacuity -/
example : twins (.seq (.prim 0) (.site (.seq (.leaf 1) (.site (.leaf 2) (.leafA 3)))
    (.seq (.leafA 1) (.site (.leaf 4) (.leafA 2))))) = true := by decide
example : EnvTwins testEnv := by
  intro n body h
  unfold testEnv at h
  split at h
  · simp [testProg] at h; subst h; decide
  · simp [testProg] at h; subst h; decide
  · cases h
example : related .twin (["f", "(", "x", ",", ")", "?"].map classify)
    (["f_async", "(", "x", ")", ".", "await", "?"].map classify) = true := by
  decide +kernel
example : related .twin (["f", "(", "x", ")"].map classify)
    (["Box", ":", ":", "pin", "(", "f_async", "(", "x", ")", ")", ".", "await"].map classify) = true := by
  decide +kernel
example : related .twin (["check", "(", "x", ")", "?", ";", "f", "(", "x", ")"].map classify)
    (["f_async", "(", "x", ")", ".", "await"].map classify) = false := by
  decide +kernel
example : (Tok.sfx "with_store").text = "with_store_async" ∧ classify "with_store_async" = .sfx "with_store" := by
  decide +kernel
-- `verify_cose_flavours_agree` is not vacuous: an interpretation whose callee pairs agree, and the
-- run reaches both sites
example : LeafAgree (fun _ => none) { tInterp with async := tInterp.sync } := fun _ _ => rfl
example : EnvTwins (fun _ => none) := fun _ _ h => by cases h
example : evalF (fun _ => none) { tInterp with async := tInterp.sync } 4 .async verifyCoseProg
    { trace := [], conds := 0, ctr := 0, failAt := none } =
    some (.next { trace := ["p0", "p1", "L1", "L2"], conds := 0, ctr := 0, failAt := none }) := by
  simp [verifyCoseProg, evalF, tInterp, tstep, C2pa.C40.ofExcept]
  decide
example : awaitBalanced (["Box", ":", ":", "pin", "(", "f_async", "(", "g", "(", "x", ")", ")", ")", ".", "await", "?"].map classify) = true := by
  decide +kernel
example : awaitBalanced (["ctx", ".", "resolver_async", "(", ")", ".", "http_resolve_async", "(", "r", ")", ".", "await"].map classify) = true := by
  decide +kernel
example : ReadsOnly Gen.coseSignSettingsReads (fun s : Settings => s "trust.trust_config" + 1) := by
  intro s t h; simp [h "trust.trust_config" (by decide)]
example : ReadsOnly ["a"] (fun s : Settings => s "a" + 1) := by
  intro s t h; simp [h "a" (by simp)]

end C2pa.C40
