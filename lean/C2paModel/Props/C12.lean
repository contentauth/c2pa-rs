import C2paModel.Lemmas.C07PngBox
/-
C12 — hash-binding layout maps are ordered, disjoint and cover the file.

Statement: for every format that supports box hashing, the box list computed for any asset is
ordered by offset, non-overlapping, within the file, and covers every byte of the file except
the manifest container. The manifest region reported for data hashing lies within the file
and never overlaps a non-manifest region.

The box-map side has two separated parts; the data-hash side comes after them.

**Specification part** (`boxesA`, `boxesFrom`, `Tiles`, `boxmap_wf`, `boxmap_cai_flags`,
`box_bytes`). `boxesA c` is the *specification* map of a layer-A container `c`: what a correct
box map looks like — one box per segment, *including* a box for data that trails the last
structural element. `Tiles base l e` says the boxes of `l` are laid end to end from `base` to
`e`; ordered / disjoint / inside / covering are consequences. These theorems say that the
specification is consistent (such a map exists and has all four properties). They are **not**
statements about the implementation: nothing in them mentions a handler's `get_box_map`.

**Implementation part** (`png_boxmap_wf`, `png_boxmap_cover_iff`, `png_boxmap_partial`,
`png_boxmap_covers_file_false`, `png_boxmap_c2pa_exact`, `png_boxmap_vs_spec`,
`sidecar_boxmap`). These are about `Png.boxMap` / `Sidecar.boxMap`, the byte-exact models of
`PngIO::get_box_map` / `C2paIO::get_box_map` (compared with the real code on every run by the
differential harness), and hold for *all* byte lists. For PNG the result is: the map tiles
`[0, end of IEND)`; it is ordered, non-overlapping and inside the file; it covers the whole
file **iff** nothing follows IEND. The coverage clause of C12 is therefore *false* for the
implementation as it is (`png_boxmap_covers_file_false`, open finding `boxmap-trailing-png`):
bytes after IEND are in no box, so they are not bound by a box hash. `png_boxmap_vs_spec`
states the exact difference between the implementation's map and the specification map: the
box of the trailing data (and the zero-length excluded placeholder, which covers nothing).

**Data-hash side** (`cai_region_inside`, `locA_wf`, `png_locations_wf`, `sidecar_locations_nil`):
the manifest region reported for data hashing, on layer A and for `Png.locations`.
-/
namespace C2pa.C07

/-! ## the specification map `boxesA` (not tied to the implementation) -/

/-- The boxes lie end to end from `base` to `e`. -/
def Tiles : Nat → List Box → Nat → Prop
  | base, [], e => base = e
  | base, b :: rest, e => b.start = base ∧ Tiles (base + b.len) rest e

theorem boxesFrom_tiles (base : Nat) (c : List Seg) :
    Tiles base (boxesFrom base c) (base + (ser c).length) := by
  induction c generalizing base with
  | nil => simp [boxesFrom, Tiles, ser]
  | cons s rest ih =>
    refine ⟨rfl, ?_⟩
    have := ih (base + s.raw.length)
    rw [ser_cons, List.length_append]
    simpa [Nat.add_assoc] using this

theorem boxesFrom_append (base : Nat) (l₁ l₂ : List Seg) :
    boxesFrom base (l₁ ++ l₂) = boxesFrom base l₁ ++ boxesFrom (base + (ser l₁).length) l₂ := by
  induction l₁ generalizing base with
  | nil => simp [boxesFrom, ser]
  | cons s r ih =>
    simp only [List.cons_append, boxesFrom, ih, ser_cons, List.length_append, Nat.add_assoc]

theorem tiles_inside {base e : Nat} {l : List Box} (h : Tiles base l e) :
    base ≤ e ∧ ∀ b ∈ l, base ≤ b.start ∧ b.start + b.len ≤ e := by
  induction l generalizing base with
  | nil => simp [Tiles] at h; subst h; simp
  | cons x rest ih =>
    obtain ⟨hx, hr⟩ := h
    obtain ⟨hle, hall⟩ := ih hr
    refine ⟨by omega, ?_⟩
    intro b hb
    rcases List.mem_cons.1 hb with rfl | hb
    · omega
    · have := hall b hb; omega

/-- Ordered and non-overlapping: a later box starts at or after the end of an earlier one. -/
theorem tiles_ordered {base e : Nat} {l : List Box} (h : Tiles base l e) :
    l.Pairwise (fun a b => a.start + a.len ≤ b.start) := by
  induction l generalizing base with
  | nil => exact List.Pairwise.nil
  | cons x rest ih =>
    obtain ⟨hx, hr⟩ := h
    refine List.Pairwise.cons ?_ (ih hr)
    intro b hb
    have := (tiles_inside hr).2 b hb
    omega

theorem tiles_cover {base e : Nat} {l : List Box} (h : Tiles base l e) (j : Nat)
    (hj : base ≤ j ∧ j < e) : ∃ b ∈ l, b.start ≤ j ∧ j < b.start + b.len := by
  induction l generalizing base with
  | nil => simp [Tiles] at h; omega
  | cons x rest ih =>
    obtain ⟨hx, hr⟩ := h
    by_cases hin : j < base + x.len
    · exact ⟨x, List.mem_cons_self, by omega, by omega⟩
    · obtain ⟨b, hb, h1, h2⟩ := ih hr (by omega)
      exact ⟨b, List.mem_cons_of_mem _ hb, h1, h2⟩

theorem tiles_append {a m e : Nat} {l₁ l₂ : List Box} (h₁ : Tiles a l₁ m) (h₂ : Tiles m l₂ e) :
    Tiles a (l₁ ++ l₂) e := by
  induction l₁ generalizing a with
  | nil => have : a = m := h₁; subst this; exact h₂
  | cons x r ih => exact ⟨h₁.1, ih h₁.2⟩

/-- The specification map `boxesA c` — one box per
segment of the container, trailing data included — is ordered, non-overlapping, inside the
file and covers every byte. This shows that the C12 requirements are satisfiable by a map of
this shape; it says nothing about what the implementation computes. The implementation's PNG
map satisfies the first three clauses but not the fourth: `png_boxmap_partial`,
`png_boxmap_covers_file_false`. -/
theorem boxmap_wf (c : List Seg) :
    (boxesA c).Pairwise (fun a b => a.start + a.len ≤ b.start) ∧
    (∀ b ∈ boxesA c, b.start + b.len ≤ (ser c).length) ∧
    (∀ j, j < (ser c).length → ∃ b ∈ boxesA c, b.start ≤ j ∧ j < b.start + b.len) := by
  have h : Tiles 0 (boxesA c) (0 + (ser c).length) := boxesFrom_tiles 0 c
  rw [Nat.zero_add] at h
  exact ⟨tiles_ordered h, fun b hb => ((tiles_inside h).2 b hb).2,
    fun j hj => tiles_cover h j ⟨Nat.zero_le _, hj⟩⟩

/-- The C2PA flags of the specification boxes are, position by position, the `isM` flags of the
segments: the flagged boxes are exactly those of the manifest segments. (With `boxmap_wf` no other box
overlaps them. Which boxes the implementation flags is `png_boxmap_c2pa_exact`.) -/
theorem boxmap_cai_flags (base : Nat) (c : List Seg) :
    (boxesFrom base c).map (·.cai) = c.map isM := by
  induction c generalizing base with
  | nil => rfl
  | cons s rest ih => simp [boxesFrom, ih]

/-- A segment's bytes lie in `ser c` at offset `|ser L|`, which is where `boxesFrom` puts its box, with
its length `|m.raw|`. (The statement is about `ser` alone; no box occurs in it.) -/
theorem box_bytes (c : List Seg) (L R : List Seg) (m : Seg) (h : c = L ++ m :: R) :
    slice (ser c) (ser L).length m.raw.length = m.raw := by
  subst h
  rw [ser_append, ser_cons, ← List.append_assoc]
  exact slice_mid _ _ _

/-! ## the implementation: `Png.boxMap` (byte-exact model of `PngIO::get_box_map`) -/

theorem Png.boxOf_tiles (has : Bool) (c : Png.Chunk) : Tiles c.start (Png.boxOf has c) c.fin := by
  rw [Png.boxOf_eq]
  refine ⟨rfl, ?_⟩
  split
  · exact ⟨by show c.fin = c.start + (c.length + 12); simp only [Png.Chunk.fin]; omega,
      by show c.start + (c.length + 12) + 0 = c.fin; simp only [Png.Chunk.fin]; omega⟩
  · show c.start + (c.length + 12) = c.fin; simp only [Png.Chunk.fin]; omega

theorem Png.chunkBoxes_tiles (has : Bool) : ∀ (rs : List Png.RC) (pos : Nat), (∀ r ∈ rs, r.ok) →
    Tiles pos ((Png.place pos rs).flatMap (Png.boxOf has)) (pos + (Png.encAll rs).length)
  | [], _, _ => rfl
  | r :: rest, pos, hok => by
    have ih := Png.chunkBoxes_tiles has rest (pos + (r.data.length + 12))
      fun x hx => hok x (List.mem_cons_of_mem _ hx)
    rw [Png.encAll_cons, List.length_append, Png.enc_length r (hok r List.mem_cons_self), ← Nat.add_assoc]
    exact tiles_append (Png.boxOf_tiles has ⟨pos, r.data.length, r.name⟩) ih

/-- The implementation's map tiles `[0, end of IEND)`. -/
theorem png_boxmap_tiles (b : Bytes) (l : List Box) (ps : List Png.Chunk)
    (h : Png.boxMap b = some l) (hc : Png.chunks b = some ps) : Tiles 0 l (Png.finOf ps) := by
  rw [Png.boxMap_eq b ps hc] at h
  injection h with h; subst h
  obtain ⟨rs, tail, hp, rfl⟩ := Png.parsed_of_chunks hc
  exact ⟨rfl, hp.finOf_eq ▸ Png.chunkBoxes_tiles _ rs 8 hp.stream.all_ok⟩

/-- Whenever `get_box_map` succeeds, the
chunk walk succeeded with some `ps`, and the returned list (PNGh box, one box per chunk, and
the zero-length excluded C2PA placeholder after IHDR when there is no caBX chunk) tiles
`[0, Png.finOf ps)` where `Png.finOf ps` is the end of IEND; hence it is ordered,
non-overlapping and inside the file. Nothing is said about bytes from `Png.finOf ps` on:
see `png_boxmap_cover_iff`. -/
theorem png_boxmap_wf (b : Bytes) (l : List Box) (h : Png.boxMap b = some l) :
    ∃ ps, Png.chunks b = some ps ∧ Tiles 0 l (Png.finOf ps) ∧ 8 < Png.finOf ps ∧
      Png.finOf ps ≤ b.length ∧ l.Pairwise (fun x y => x.start + x.len ≤ y.start) ∧
      (∀ x ∈ l, x.start + x.len ≤ b.length) := by
  obtain ⟨ps, hc⟩ := Png.chunks_of_boxMap b l h
  have ht := png_boxmap_tiles b l ps h hc
  obtain ⟨h20, hf⟩ := Png.chunks_tile hc
  refine ⟨ps, hc, ht, by omega, hf, tiles_ordered ht, ?_⟩
  intro x hx
  have := ((tiles_inside ht).2 x hx).2
  omega

/-- The map covers every byte of the file exactly when nothing follows IEND. -/
theorem png_boxmap_cover_iff (b : Bytes) (l : List Box) (ps : List Png.Chunk)
    (h : Png.boxMap b = some l) (hc : Png.chunks b = some ps) :
    (∀ j, j < b.length → ∃ x ∈ l, x.start ≤ j ∧ j < x.start + x.len) ↔
      b.drop (Png.finOf ps) = [] := by
  have ht := png_boxmap_tiles b l ps h hc
  have hf := (Png.chunks_tile hc).2
  rw [List.drop_eq_nil_iff]
  constructor
  · intro hcov
    apply Classical.byContradiction
    intro hn
    obtain ⟨x, hx, h1, h2⟩ := hcov (Png.finOf ps) (by omega)
    have := ((tiles_inside ht).2 x hx).2
    omega
  · intro hle j hj
    exact tiles_cover ht j ⟨Nat.zero_le _, by omega⟩

/-- The full coverage clause of C12 for the PNG handler: every byte of every file that has a
box map lies in some box. -/
def PngBoxMapCoversFile : Prop :=
  ∀ (b : Bytes) (l : List Box), Png.boxMap b = some l →
    ∀ j, j < b.length → ∃ x ∈ l, x.start ≤ j ∧ j < x.start + x.len

/-- The minimal PNG (signature, empty IHDR, empty IEND) followed by one byte: 33 bytes. -/
def pngTrailingWitness : Bytes :=
  Png.sig ++ Png.mkChunk Png.IHDR [] ++ Png.mkChunk Png.IEND [] ++ [0]

/-- The witness spelled out (the chunk CRCs are the real CRC-32 values). -/
theorem pngTrailingWitness_eq : pngTrailingWitness =
    [137, 80, 78, 71, 13, 10, 26, 10, 0, 0, 0, 0, 73, 72, 68, 82, 168, 161, 174, 10,
     0, 0, 0, 0, 73, 69, 78, 68, 174, 66, 96, 130, 0] := by decide +kernel

/-- The implementation's map of the witness ends at 32 = end of IEND. -/
theorem pngTrailingWitness_boxMap :
    Png.boxMap pngTrailingWitness = some
      [⟨"PNGh", 0, 8, false, false⟩, ⟨"IHDR", 8, 12, false, false⟩,
       ⟨"C2PA", 20, 0, true, true⟩, ⟨"IEND", 20, 12, false, false⟩] := by
  rw [pngTrailingWitness_eq]; decide +kernel

/-- **The coverage clause is false for the implementation as it is.** Witness: byte 32 of
`pngTrailingWitness` (the byte after IEND) is in no box. The witness class (valid PNG + data
after IEND) is replayed on the real `PngIO::get_box_map` by the harness generator's
trailing-data variants; known open finding `boxmap-trailing-png`. -/
theorem png_boxmap_covers_file_false : ¬ PngBoxMapCoversFile := by
  intro h
  exact absurd (h _ _ pngTrailingWitness_boxMap 32 (by rw [pngTrailingWitness_eq]; decide))
    (by decide)

/-- **What does hold for the implementation**: for every file with a box map, the map is
ordered, non-overlapping, inside the file, covers every byte before the end of IEND — and
covers no byte from the end of IEND on. -/
theorem png_boxmap_partial (b : Bytes) (l : List Box) (ps : List Png.Chunk)
    (h : Png.boxMap b = some l) (hc : Png.chunks b = some ps) :
    l.Pairwise (fun x y => x.start ≤ y.start) ∧
    l.Pairwise (fun x y => x.start + x.len ≤ y.start) ∧
    (∀ x ∈ l, x.start + x.len ≤ b.length) ∧
    Png.finOf ps ≤ b.length ∧
    (∀ j, j < Png.finOf ps → ∃ x ∈ l, x.start ≤ j ∧ j < x.start + x.len) ∧
    (∀ j, Png.finOf ps ≤ j → ¬ ∃ x ∈ l, x.start ≤ j ∧ j < x.start + x.len) := by
  have ht := png_boxmap_tiles b l ps h hc
  have hf := (Png.chunks_tile hc).2
  have hin := (tiles_inside ht).2
  refine ⟨(tiles_ordered ht).imp (fun hxy => by omega), tiles_ordered ht, ?_, hf,
    fun j hj => tiles_cover ht j ⟨Nat.zero_le _, hj⟩, ?_⟩
  · intro x hx; have := (hin x hx).2; omega
  · rintro j hj ⟨x, hx, _, h2⟩
    have := (hin x hx).2; omega

/-- (a) Every caBX chunk has a
C2PA box over exactly its bytes; (b) a box flagged C2PA is either the box of a caBX chunk, or
— only when there is no caBX chunk at all — the zero-length excluded placeholder at the end of
an IHDR chunk; (c) the only excluded boxes are zero-length C2PA placeholders. (With two caBX
chunks both get a C2PA box, so "the C2PA box starts at the first caBX chunk" would be false.) -/
theorem png_boxmap_c2pa_exact (b : Bytes) (l : List Box) (ps : List Png.Chunk)
    (h : Png.boxMap b = some l) (hc : Png.chunks b = some ps) :
    (∀ c ∈ ps, c.name = Png.caBX → (⟨"C2PA", c.start, c.length + 12, true, false⟩ : Box) ∈ l) ∧
    (∀ x ∈ l, x.cai = true →
      (∃ c ∈ ps, c.name = Png.caBX ∧ x = ⟨"C2PA", c.start, c.length + 12, true, false⟩) ∨
      ((∀ c ∈ ps, c.name ≠ Png.caBX) ∧
        ∃ c ∈ ps, c.name = Png.IHDR ∧ x = ⟨"C2PA", c.fin, 0, true, true⟩)) ∧
    (∀ x ∈ l, x.excl = true → x.len = 0 ∧ x.cai = true) := by
  rw [Png.boxMap_eq b ps hc] at h
  injection h with h; subst h
  refine ⟨?_, ?_, ?_⟩
  · intro c hcm hn
    apply List.mem_cons_of_mem
    exact List.mem_flatMap.2 ⟨c, hcm, by rw [Png.boxOf_caBX _ c hn]; exact List.mem_singleton.2 rfl⟩
  · intro x hx hcai
    rcases List.mem_cons.1 hx with rfl | hx
    · cases hcai
    · obtain ⟨c, hcm, hxc⟩ := List.mem_flatMap.1 hx
      rcases Png.mem_boxOf_cai hxc hcai with ⟨h1, h2⟩ | ⟨h1, h2, h3⟩
      · exact Or.inl ⟨c, hcm, h1, h2⟩
      · exact Or.inr ⟨Png.any_caBX_false h1, c, hcm, h2, h3⟩
  · intro x hx he
    rcases List.mem_cons.1 hx with rfl | hx
    · cases he
    · obtain ⟨c, _, hxc⟩ := List.mem_flatMap.1 hx
      exact Png.mem_boxOf_excl hxc he

/-- The specification map of the file's layer-A container
(`Png.segs`) is the implementation's map without the placeholder, plus — when data follows
IEND — the box of that trailing data. This is the whole difference between `boxmap_wf`
(specification: covers everything) and `png_boxmap_partial` (implementation: covers up to the
end of IEND). -/
theorem png_boxmap_vs_spec (b : Bytes) (l : List Box) (c : List Seg) (ps : List Png.Chunk)
    (h : Png.boxMap b = some l) (hc : Png.chunks b = some ps) (hs : Png.segs b = some c) :
    boxesA c = l.filter (fun x => !x.excl) ++
      (if (b.drop (Png.finOf ps)).isEmpty then []
       else [⟨"trailing", Png.finOf ps, b.length - Png.finOf ps, false, false⟩]) := by
  rw [Png.boxMap_eq b ps hc] at h
  injection h with h; subst h
  have hle := (Png.chunks_tile hc).2
  obtain ⟨rs, tail, hp, rfl⟩ := Png.parsed_of_chunks hc
  have hf := hp.finOf_eq
  have hd := hf ▸ hp.drop_tail
  rw [Png.segs_parsed hp] at hs
  injection hs with hs; subst hs
  have htrail : boxesFrom (8 + (Png.encAll rs).length) (Png.trailSegs tail) =
      if tail.isEmpty then [] else [⟨"trailing", 8 + (Png.encAll rs).length, tail.length, false, false⟩] := by
    unfold Png.trailSegs; split <;> rfl
  rw [hd, ← List.length_drop, hd, hf, ← htrail]
  show boxesFrom 0 ([Png.hdrSeg] ++ (rs.map Png.rcSeg ++ Png.trailSegs tail)) = _
  rw [boxesFrom_append, boxesFrom_append, Png.chunkBoxes_spec _ rs _ hp.stream.all_ok, Png.ser_map_rcSeg]
  rfl

/-! ## the implementation: sidecar (`.c2pa`) -/

/-- The sidecar map is a single empty C2PA box: the whole file is the manifest container, so
there is nothing to cover. -/
theorem sidecar_boxmap (b : Bytes) : Sidecar.boxMap b = some [⟨"C2PA", 0, 0, true, false⟩] := rfl

/-! ## data-hash side (layer A) -/

/-- The Cai region of a written asset is inside the file (the `Other` regions are in
`locations_wf`, `Props/C08.lean`). -/
theorem cai_region_inside (F : Fmt) (c : List Seg) (s : Bytes) :
    caiOff F c + (F.wrap s).length ≤ (ser (writeA F c s)).length := by
  rw [ser_writeA]; simp only [List.length_append, caiOff, offAt]; omega

/-- The three regions of `locA off len total` with `off + len ≤ total`: each is inside
`[0, total)` and the two Other regions do not meet the Cai region. -/
theorem locA_wf (off len total : Nat) (h : off + len ≤ total) :
    ∀ x ∈ locA off len total, x.off + x.len ≤ total ∧
      (x.cai = false → x.off + x.len ≤ off ∨ off + len ≤ x.off) := by
  intro x hx
  simp only [locA, List.mem_cons, List.not_mem_nil, or_false] at hx
  rcases hx with rfl | rfl | rfl
  · exact ⟨h, fun h' => by cases h'⟩
  · exact ⟨by simp; omega, fun _ => Or.inl (by simp)⟩
  · exact ⟨by simp; omega, fun _ => Or.inr (by simp)⟩

/-! ## data-hash side, implementation: `Png.locations` -/

/-- **The manifest region reported for data hashing by the PNG handler** (any file, with or
without a manifest): the regions are `locA off len total` with `off + len ≤ total`, hence
(by `locA_wf`) the manifest region lies within `total` and overlaps no Other region. With a
caBX chunk, `total` is the file length and the region is that chunk; without one, `total = |b| + 12`
and the region is a 12-byte container after IHDR (`Png.locations_fresh`, Lemmas/C07PngRefine). -/
theorem png_locations_wf (b : Bytes) (l : List Loc) (ps : List Png.Chunk)
    (h : Png.locations b = some l) (hc : Png.chunks b = some ps) :
    (∃ c ∈ ps, c.name = Png.caBX ∧ l = locA c.start (c.length + 12) b.length ∧
        c.start + (c.length + 12) ≤ b.length) ∨
    ((∀ c ∈ ps, c.name ≠ Png.caBX) ∧ ∃ ih ∈ ps, ih.name = Png.IHDR ∧
        l = locA ih.fin 12 (b.length + 12) ∧ ih.fin + 12 ≤ b.length + 12) := by
  have hle := (Png.chunks_tile hc).2
  obtain ⟨rs, _, hp, hps⟩ := Png.parsed_of_chunks hc
  have hin : ∀ c ∈ ps, c.fin ≤ b.length := fun c hm =>
    Nat.le_trans (Png.mem_place_inside rs 8 hp.stream.all_ok c (hps ▸ hm)) (hp.finOf_eq ▸ hps ▸ hle)
  unfold Png.locations at h
  rw [hc] at h
  simp only at h
  cases hcai : Png.firstCai ps with
  | some c =>
    rw [hcai] at h
    injection h with h
    obtain ⟨hm, hn⟩ := Png.mem_of_find hcai
    have := hin c hm
    exact Or.inl ⟨c, hm, hn, h.symm, by unfold Png.Chunk.fin at this; omega⟩
  | none =>
    rw [hcai] at h
    have hno : ∀ c ∈ ps, c.name ≠ Png.caBX := by
      intro c hm hn
      have := List.find?_eq_none.1 hcai c hm
      simp [hn] at this
    cases hih : Png.firstIhdr ps with
    | none => rw [hih] at h; cases h
    | some ih =>
      rw [hih] at h
      injection h with h
      obtain ⟨hm, hn⟩ := Png.mem_of_find hih
      have := hin ih hm
      exact Or.inr ⟨hno, ih, hm, hn, h.symm, by omega⟩

/-- The sidecar handler reports no regions; the same statement as `sidecar_locations` in Props/C08, which
this file does not import. -/
theorem sidecar_locations_nil (b : Bytes) : Sidecar.locations b = some [] := rfl

/-! ### non-vacuity -/

example : boxesA [⟨.header, "h", [1, 2]⟩, ⟨.manifest, "C2PA", [7, 9, 9]⟩, ⟨.media, "m", [3]⟩]
    = [⟨"h", 0, 2, false, false⟩, ⟨"C2PA", 2, 3, true, false⟩, ⟨"m", 5, 1, false, false⟩] := by decide

/-- `Png.boxMap` on a PNG without caBX and without trailing data: the placeholder follows
IHDR, and the four boxes tile the whole 32-byte file. -/
def exPngPlain : Bytes := Png.sig ++ Png.mkChunk Png.IHDR [] ++ Png.mkChunk Png.IEND []
theorem exPngPlain_eq : exPngPlain =
    [137, 80, 78, 71, 13, 10, 26, 10, 0, 0, 0, 0, 73, 72, 68, 82, 168, 161, 174, 10,
     0, 0, 0, 0, 73, 69, 78, 68, 174, 66, 96, 130] := by decide +kernel
example : Png.boxMap exPngPlain = some
    [⟨"PNGh", 0, 8, false, false⟩, ⟨"IHDR", 8, 12, false, false⟩,
     ⟨"C2PA", 20, 0, true, true⟩, ⟨"IEND", 20, 12, false, false⟩] := by
  rw [exPngPlain_eq]; decide +kernel
example : exPngPlain.drop 32 = [] := by rw [exPngPlain_eq]; decide +kernel

/-- `Png.boxMap` on a PNG with a caBX chunk (3-byte store): no placeholder. -/
def exPngCai : Bytes :=
  Png.sig ++ Png.mkChunk Png.IHDR [] ++ Png.mkChunk Png.caBX [1, 2, 3] ++ Png.mkChunk Png.IEND []
theorem exPngCai_eq : exPngCai =
    [137, 80, 78, 71, 13, 10, 26, 10, 0, 0, 0, 0, 73, 72, 68, 82, 168, 161, 174, 10,
     0, 0, 0, 3, 99, 97, 66, 88, 1, 2, 3, 98, 237, 32, 146,
     0, 0, 0, 0, 73, 69, 78, 68, 174, 66, 96, 130] := by decide +kernel
example : Png.boxMap exPngCai = some
    [⟨"PNGh", 0, 8, false, false⟩, ⟨"IHDR", 8, 12, false, false⟩,
     ⟨"C2PA", 20, 15, true, false⟩, ⟨"IEND", 35, 12, false, false⟩] := by
  rw [exPngCai_eq]; decide +kernel

/-- Two caBX chunks both get a C2PA box (why `png_boxmap_c2pa_exact` is stated per chunk). -/
def exPngTwoCai : Bytes :=
  Png.sig ++ Png.mkChunk Png.IHDR [] ++ Png.mkChunk Png.caBX [1] ++ Png.mkChunk Png.caBX []
    ++ Png.mkChunk Png.IEND []
theorem exPngTwoCai_eq : exPngTwoCai =
    [137, 80, 78, 71, 13, 10, 26, 10, 0, 0, 0, 0, 73, 72, 68, 82, 168, 161, 174, 10,
     0, 0, 0, 1, 99, 97, 66, 88, 1, 237, 81, 212, 130,
     0, 0, 0, 0, 99, 97, 66, 88, 230, 61, 210, 167,
     0, 0, 0, 0, 73, 69, 78, 68, 174, 66, 96, 130] := by decide +kernel
example : Png.boxMap exPngTwoCai = some
    [⟨"PNGh", 0, 8, false, false⟩, ⟨"IHDR", 8, 12, false, false⟩,
     ⟨"C2PA", 20, 13, true, false⟩, ⟨"C2PA", 33, 12, true, false⟩,
     ⟨"IEND", 45, 12, false, false⟩] := by
  rw [exPngTwoCai_eq]; decide +kernel

/-- The witness has 33 bytes, its map ends at 32, and the specification map has the extra box. -/
example : pngTrailingWitness.length = 33 := by rw [pngTrailingWitness_eq]; decide +kernel
example : (Png.segs pngTrailingWitness).map boxesA = some
    [⟨"PNGh", 0, 8, false, false⟩, ⟨"IHDR", 8, 12, false, false⟩,
     ⟨"IEND", 20, 12, false, false⟩, ⟨"trailing", 32, 1, false, false⟩] := by
  rw [pngTrailingWitness_eq]; decide +kernel

/-- Not a PNG: no map, the `png_boxmap_*` hypotheses are not met. -/
example : Png.boxMap [1, 2, 3] = none := by decide

end C2pa.C07
