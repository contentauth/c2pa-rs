import C2paModel.Model.C36
import C2paModel.Props.C04
import C2paModel.Lemmas.DecideRun
import C2paModel.Lemmas.List
/-
C36 — property theorems. The statement (properties.jsonl):

  A time-stamp token is used as the signing time only if its message imprint matches the claim
  signature it accompanies and its CMS signature verifies; otherwise a time-stamp failure is
  reported and the signing time is not taken from it. A signing certificate that has expired is
  accepted only when a matching, valid time-stamp places the signing inside the certificate's
  validity period.

All theorems quantify over every token (any number of `SignerInfo`s with arbitrary facts), every
header, every signing-certificate fact record and every configuration; the expired-certificate
theorems are for `cert_check = true` (what `verify_store` passes for the active manifest) and a
certificate that parses as v3 (`hc`, `hv`).

In order: one `SignerInfo` (`Accept`: what `step` demands, `step_spec`); the loop over them, that is
`verify_time_stamp` (a time is returned ⇔ there is a first acceptable signer, otherwise a report);
the COSE header (exactly one token, bound to the message its header kind covers); the expired
signing certificate (accepted only with a used time inside its validity, Invalid otherwise); which
header entry is looked at, and what the legacy `sigTst` token covers; the displayed time;
time-stamp assertions (`extTime`, `extLog`); a rejected header token in the claim's log; the
expired certificate again, down to the token.
-/
namespace C2pa.C36

open C2pa.C04 (Code Kind)

/-- What `step` demands of a `SignerInfo` before its time is returned. -/
def Accept (data : Msg) (vt : Bool) (s : SInfo) : Prop :=
  s.certFound = true ∧ s.tstOk = true ∧
  (s.signedAttrs = true → s.md = .value true ∧ s.digestAlgKnown = true) ∧
  s.encodable = true ∧ (s.signedAttrs = true ∨ s.hasContent = true) ∧
  s.sigOk = true ∧
  (s.notBefore - s.margin ≤ effTime s ∧ effTime s ≤ s.notAfter + s.margin) ∧
  s.imprintAlgKnown = true ∧ s.imprint = data ∧
  (vt = true → s.chainParses = true ∧ s.profileOk = true ∧ s.trusted = true) ∧
  s.sigAlgSupported = true

/-- The statement's binding condition: the imprint is the digest of `data`, and the CMS signature
verifies over signed attributes whose message digest is that of the TSTInfo (or over the TSTInfo
itself when there are no signed attributes). -/
def Bound (data : Msg) (s : SInfo) : Prop :=
  s.certFound = true ∧ s.imprint = data ∧ s.imprintAlgKnown = true ∧ s.sigOk = true ∧
  (s.signedAttrs = true → s.md = .value true) ∧ s.sigAlgSupported = true

theorem Accept.bound {data vt s} (h : Accept data vt s) : Bound data s := by
  obtain ⟨hcert, _, hmd, _, _, hsig, _, halg, himp, _, hsup⟩ := h
  exact ⟨hcert, himp, halg, hsig, fun a => (hmd a).1, hsup⟩

/-- **Accepted ⇒ the CMS signature was verified by a validator the SDK has** — never "no validator,
so not checked". -/
theorem Accept.signature_verified {data vt s} (h : Accept data vt s) :
    s.sigAlgSupported = true ∧ s.sigOk = true := by
  obtain ⟨_, _, _, hsig, _, hsup⟩ := h.bound
  exact ⟨hsup, hsig⟩

/-! `Accept` lists its conjuncts in the order in which `step` tests them, except `sigAlgSupported`,
which `step` tests together with `sigOk` and `Accept` puts last. -/

theorem Accept.attrs {data vt s} (h : Accept data vt s) :
    s.signedAttrs = true → s.md = .value true ∧ s.digestAlgKnown = true := h.2.2.1
theorem Accept.encodable {data vt s} (h : Accept data vt s) : s.encodable = true := h.2.2.2.1
theorem Accept.signedInput {data vt s} (h : Accept data vt s) :
    s.signedAttrs = true ∨ s.hasContent = true := h.2.2.2.2.1
theorem Accept.validity {data vt s} (h : Accept data vt s) :
    s.notBefore - s.margin ≤ effTime s ∧ effTime s ≤ s.notAfter + s.margin := h.2.2.2.2.2.2.1
theorem Accept.imprintAlg {data vt s} (h : Accept data vt s) : s.imprintAlgKnown = true :=
  h.bound.2.2.1
theorem Accept.imprint {data vt s} (h : Accept data vt s) : s.imprint = data := h.bound.2.1
theorem Accept.trust {data vt s} (h : Accept data vt s) :
    vt = true → s.chainParses = true ∧ s.profileOk = true ∧ s.trusted = true :=
  h.2.2.2.2.2.2.2.2.2.1

def okLog : List Entry := [succ cValidated, succ cTsTrusted]

/-- The four informational time-stamp codes. -/
def IsTsInfo (c : Code) : Prop :=
  c = cMismatch ∨ c = cMalformed ∨ c = cOutside ∨ c = cTsUntrusted

theorem IsTsInfo.mismatch : IsTsInfo cMismatch := .inl rfl
theorem IsTsInfo.malformed : IsTsInfo cMalformed := .inr (.inl rfl)
theorem IsTsInfo.outside : IsTsInfo cOutside := .inr (.inr (.inl rfl))
theorem IsTsInfo.untrusted : IsTsInfo cTsUntrusted := .inr (.inr (.inr rfl))

theorem validated_ne_trusted : cValidated ≠ cTsTrusted := by
  unfold cValidated cTsTrusted; decide_run

theorem succ_ne_info (c d : Code) : succ c ≠ info d := by simp [succ, info]

theorem succ_not_mem_map_failE (c : Code) (l : List Code) : succ c ∉ l.map failE := by
  intro h
  obtain ⟨d, _, hd⟩ := List.mem_map.1 h
  exact nomatch (Prod.mk.inj hd).2

/-- What a rejection leaves in the log. -/
def Reported (l : List Entry) : Prop :=
  (∃ c, IsTsInfo c ∧ info c ∈ l) ∧ succ cTsTrusted ∉ l

theorem Reported.append_info {l : List Entry} {c : Code} (hl : succ cTsTrusted ∉ l)
    (hc : IsTsInfo c) : Reported (l ++ [info c]) :=
  ⟨⟨c, hc, List.mem_append_right _ (List.mem_singleton_self _)⟩,
    fun hm => (List.mem_append.1 hm).elim hl fun h => succ_ne_info _ _ (List.mem_singleton.1 h)⟩

theorem Reported.info {c : Code} (hc : IsTsInfo c) : Reported [info c] :=
  Reported.append_info (l := []) List.not_mem_nil hc

theorem attrCheck_spec (s : SInfo) :
    match attrCheck s with
    | none => s.signedAttrs = true → s.md = .value true ∧ s.digestAlgKnown = true
    | some r => ¬ (s.signedAttrs = true → s.md = .value true ∧ s.digestAlgKnown = true) ∧
        ∃ e c, IsTsInfo c ∧ r = .fail e [info c] := by
  unfold attrCheck
  cases s.signedAttrs
  · nofun
  · rw [if_pos rfl]
    cases s.md with
    | value m =>
      cases s.digestAlgKnown
      · exact .intro (fun h => nomatch (h rfl).2) ⟨_, _, .malformed, rfl⟩
      · cases m
        · exact .intro (fun h => nomatch (h rfl).1) ⟨_, _, .mismatch, rfl⟩
        · exact fun _ => ⟨rfl, rfl⟩
    | _ => exact .intro (fun h => nomatch (h rfl).1) ⟨_, _, .malformed, rfl⟩

theorem trustCheck_spec (s : SInfo) (pre : List Entry) (hpre : succ cTsTrusted ∉ pre) :
    match trustCheck s pre with
    | none => s.chainParses = true ∧ s.profileOk = true ∧ s.trusted = true
    | some r => ¬ (s.chainParses = true ∧ s.profileOk = true ∧ s.trusted = true) ∧
        ∃ e l, r = .fail e l ∧ Reported l := by
  unfold trustCheck
  cases s.chainParses
  · exact .intro (fun h => nomatch h.1) ⟨_, _, rfl, .append_info hpre .untrusted⟩
  cases s.profileOk
  · refine .intro (fun h => nomatch h.2.1) ⟨_, _, rfl, .append_info (fun hm => ?_) .untrusted⟩
    exact (List.mem_append.1 hm).elim hpre (succ_not_mem_map_failE _ _)
  cases s.trusted
  · exact .intro (fun h => nomatch h.2.2) ⟨_, _, rfl, .append_info hpre .untrusted⟩
  · exact ⟨rfl, rfl, rfl⟩

theorem withinValidity_iff (s : SInfo) :
    withinValidity s = true ↔
      (s.notBefore - s.margin ≤ effTime s ∧ effTime s ≤ s.notAfter + s.margin) := by
  simp [withinValidity]

theorem sigVerified_iff (s : SInfo) :
    sigVerified s = true ↔ s.sigAlgSupported = true ∧ s.sigOk = true :=
  Bool.and_eq_true_iff

/-- What `step` returns, read against `Accept`. -/
def StepSpec (data : Msg) (vt : Bool) (s : SInfo) : Step → Prop
  | .ok t l => Accept data vt s ∧ t = effTime s ∧ l = okLog
  | .fail _ l => ¬ Accept data vt s ∧ Reported l

theorem guard_spec {α : Type} {P : α → Prop} {b : Bool} {x y : α} (hx : b = false → P x)
    (hy : b = true → P y) : P (if !b then x else y) := by
  cases b
  · exact hx rfl
  · exact hy rfl

theorem step_spec (data : Msg) (vt : Bool) (s : SInfo) : StepSpec data vt s (step data vt s) := by
  -- one `guard_spec`/`iteInduction` per guard of `step`, in its order: where the guard fires, the
  -- conjunct of `Accept` it tests fails and the log is one informational code; the hypotheses
  -- `h1`, `h2`, `hr`, `h4` … `h9` of the guards passed assemble `Accept` at the end
  have no {b : Bool} (h : b = false) (a : b = true) : False := Bool.false_ne_true (h.symm.trans a)
  unfold step
  refine guard_spec (fun h => .intro (fun a => no h a.1) (.info .untrusted)) fun h1 => ?_
  refine guard_spec (fun h => .intro (fun a => no h a.2.1) (.info .malformed)) fun h2 => ?_
  have hr := attrCheck_spec s
  generalize attrCheck s = o at hr ⊢
  cases o with
  | some r =>
    obtain ⟨hn, e, c, hc, rfl⟩ := hr
    exact .intro (fun a => hn a.attrs) (.info hc)
  | none =>
  refine guard_spec (fun h => .intro (fun a => no h a.encodable) (.info .malformed)) fun h4 => ?_
  refine iteInduction (fun h => .intro (fun a => ?_) (.info .malformed)) fun h5 => ?_
  · rcases a.signedInput with hsrc | hsrc <;> simp [hsrc] at h
  refine guard_spec (fun h => .intro (fun a => no h ((sigVerified_iff s).2 a.signature_verified))
    (.info .untrusted)) fun h6 => ?_
  refine guard_spec (fun h => .intro (fun a => no h ((withinValidity_iff s).2 a.validity))
    (.info .outside)) fun h7 => ?_
  refine guard_spec (fun h => .intro (fun a => no h a.imprintAlg) (.info .untrusted)) fun h8 => ?_
  refine iteInduction (fun h => .intro (fun a => ?_) (.info .mismatch)) fun h9 => ?_
  · simp [a.imprint] at h
  have h6 := (sigVerified_iff s).1 h6
  have acc (ht : vt = true → s.chainParses = true ∧ s.profileOk = true ∧ s.trusted = true) :
      Accept data vt s :=
    ⟨h1, h2, hr, h4,
      by revert h5; cases s.signedAttrs <;> cases s.hasContent <;> simp, h6.2,
      (withinValidity_iff s).1 h7, h8, by simpa using h9, ht, h6.1⟩
  dsimp only
  cases vt with
  | false => exact ⟨acc nofun, rfl, rfl⟩
  | true =>
    have ht := trustCheck_spec s [succ cValidated]
      fun h => validated_ne_trusted (Prod.mk.inj (List.mem_singleton.1 h)).1.symm
    generalize trustCheck s [succ cValidated] = o at ht ⊢
    cases o with
    | none => exact ⟨acc fun _ => ht, rfl, rfl⟩
    | some r =>
      obtain ⟨hn, e, l, rfl, hl⟩ := ht
      exact .intro (fun a => hn (a.trust rfl)) hl

theorem step_ok_iff (data : Msg) (vt : Bool) (s : SInfo) (t : Int) (l : List Entry) :
    step data vt s = .ok t l ↔ Accept data vt s ∧ t = effTime s ∧ l = okLog := by
  have h := step_spec data vt s
  constructor
  · intro hs; rw [hs] at h; exact h
  · rintro ⟨ha, rfl, rfl⟩
    cases hs : step data vt s with
    | ok t l => rw [hs] at h; rw [h.2.1, h.2.2]
    | fail e l => rw [hs] at h; exact absurd ha h.1

theorem step_fail_reports (data : Msg) (vt : Bool) (s : SInfo) (e : Err) (l : List Entry)
    (h : step data vt s = .fail e l) : ¬ Accept data vt s ∧ Reported l := by
  have := step_spec data vt s
  rwa [h] at this

/-! ### the loop over the `SignerInfo`s -/

/-- Rejected signers are passed over: what is left of them is the error and the report of the last
one (the loop resets its log at every signer). -/
theorem loop_skip (data : Msg) (vt : Bool) : ∀ (pre : List SInfo) (e : Err) (cur : List Entry),
    (∀ p ∈ pre, ¬ Accept data vt p) →
      ∃ e' l, (pre = [] ∧ e' = e ∧ l = cur ∨ Reported l) ∧
        ∀ rest, loop data vt (pre ++ rest) e cur = loop data vt rest e' l
  | [], e, cur, _ => ⟨e, cur, .inl ⟨rfl, rfl, rfl⟩, fun _ => rfl⟩
  | p :: pre, _, _, hp => by
    cases hstep : step data vt p with
    | ok t l => exact absurd ((step_ok_iff data vt p t l).1 hstep).1 (hp p (List.mem_cons_self ..))
    | fail e l =>
      obtain ⟨e', l', h, heq⟩ :=
        loop_skip data vt pre e l fun q hq => hp q (List.mem_cons_of_mem _ hq)
      refine ⟨e', l', .inr ?_, fun rest => by rw [List.cons_append, loop, hstep]; exact heq rest⟩
      rcases h with ⟨_, _, rfl⟩ | h
      · exact (step_fail_reports data vt p e l' hstep).2
      · exact h

theorem verify_accept (data : Msg) (vt : Bool) (pre : List SInfo) (s : SInfo) (post : List SInfo)
    (hp : ∀ p ∈ pre, ¬ Accept data vt p) (hs : Accept data vt s) :
    verifyTimeStamp (.parsed (pre ++ s :: post)) data vt = ⟨.ok (effTime s), okLog⟩ := by
  obtain ⟨e, l, _, h⟩ := loop_skip data vt pre .invalidData [] hp
  rw [show verifyTimeStamp (.parsed (pre ++ s :: post)) data vt
      = loop data vt (pre ++ s :: post) .invalidData [] by cases pre <;> rfl,
    h, loop, (step_ok_iff data vt s _ _).2 ⟨hs, rfl, rfl⟩]

theorem verify_cases (tok : Token) (data : Msg) (vt : Bool) :
    (∃ pre s post, tok = .parsed (pre ++ s :: post) ∧ (∀ p ∈ pre, ¬ Accept data vt p) ∧
        Accept data vt s) ∨
      ∃ e l, verifyTimeStamp tok data vt = ⟨.error e, l⟩ ∧ Reported l := by
  cases tok with
  | unparsable => exact .inr ⟨_, _, rfl, .info .malformed⟩
  | noCerts => exact .inr ⟨_, _, rfl, .info .untrusted⟩
  | badCerts => exact .inr ⟨_, _, rfl, .info .untrusted⟩
  | parsed ss =>
    rcases Data.split_first (Accept data vt) ss with h | ⟨pre, s, post, rfl, h⟩
    · cases ss with
      | nil => exact .inr ⟨_, _, rfl, .info .malformed⟩
      | cons a ss =>
        obtain ⟨e, l, hl, heq⟩ := loop_skip data vt (a :: ss) .invalidData [] h
        exact .inr ⟨e, l, by rw [← List.append_nil (a :: ss)]; exact heq [],
          hl.resolve_left fun h => nomatch h.1⟩
    · exact .inl ⟨pre, s, post, rfl, h⟩

/-- **A time-stamp token is used iff it is bound and valid.** `verify_time_stamp` returns a time
exactly when the token parses and its first acceptable `SignerInfo` exists; the time returned is
that signer's. -/
theorem timestamp_used_iff_bound_and_valid (tok : Token) (data : Msg) (vt : Bool) (t : Int) :
    (verifyTimeStamp tok data vt).result = .ok t ↔
      ∃ pre s post, tok = .parsed (pre ++ s :: post) ∧ (∀ p ∈ pre, ¬ Accept data vt p) ∧
        Accept data vt s ∧ t = effTime s := by
  constructor
  · intro h
    rcases verify_cases tok data vt with ⟨pre, s, post, rfl, hp, hs⟩ | ⟨e, l, hl, _⟩
    · rw [verify_accept data vt pre s post hp hs] at h
      exact ⟨pre, s, post, rfl, hp, hs, (Except.ok.inj h).symm⟩
    · rw [hl] at h; cases h
  · rintro ⟨pre, s, post, rfl, hp, hs, rfl⟩
    rw [verify_accept data vt pre s post hp hs]

/-- **Otherwise a time-stamp failure is reported.** Whenever `verify_time_stamp` does not return a
time, the log it appends contains one of `timeStamp.mismatch / malformed / outsideValidity /
untrusted` (informational) and does not contain `timeStamp.trusted`. -/
theorem rejected_token_reported (tok : Token) (data : Msg) (vt : Bool) (e : Err)
    (h : (verifyTimeStamp tok data vt).result = .error e) :
    (∃ c, IsTsInfo c ∧ info c ∈ (verifyTimeStamp tok data vt).log) ∧
      succ cTsTrusted ∉ (verifyTimeStamp tok data vt).log := by
  rcases verify_cases tok data vt with ⟨pre, s, post, rfl, hp, hs⟩ | ⟨e, l, hl, hr⟩
  · rw [verify_accept data vt pre s post hp hs] at h; cases h
  · rw [hl]; exact hr

/-- `timeStamp.trusted` is logged exactly when the token is used. -/
theorem trusted_code_iff_used (tok : Token) (data : Msg) (vt : Bool) :
    succ cTsTrusted ∈ (verifyTimeStamp tok data vt).log ↔
      ∃ t, (verifyTimeStamp tok data vt).result = .ok t := by
  rcases verify_cases tok data vt with ⟨pre, s, post, rfl, hp, hs⟩ | ⟨e, l, hl, hr⟩
  · rw [verify_accept data vt pre s post hp hs]
    exact ⟨fun _ => ⟨_, rfl⟩, fun _ => List.mem_cons_of_mem _ (List.mem_singleton_self _)⟩
  · rw [hl]
    exact ⟨fun h => absurd h hr.2, fun ⟨t, ht⟩ => nomatch ht⟩

/-- **Used only if the imprint matches and the CMS signature verifies** (the statement's
"only if", with the signer named). -/
theorem timestamp_used_only_if_bound (tok : Token) (data : Msg) (vt : Bool) (t : Int)
    (h : (verifyTimeStamp tok data vt).result = .ok t) :
    ∃ ss s, tok = .parsed ss ∧ s ∈ ss ∧ Bound data s ∧ t = effTime s := by
  obtain ⟨pre, s, post, rfl, _, hs, ht⟩ := (timestamp_used_iff_bound_and_valid tok data vt t).1 h
  exact ⟨_, s, rfl, List.mem_append_right _ (List.mem_cons_self ..), hs.bound, ht⟩

/-- **A token is used as signing time only if the CMS signature of the accepted `SignerInfo` was
verified by a validator the SDK has**: a key / digest pair without a validator (ecdsa-with-SHA1,
EC or RSA with SHA-224/MD5, RSASSA-PSS with SHA-1, Ed448, …) is a rejection, not a pass. -/
theorem timestamp_used_only_if_signature_verified (tok : Token) (data : Msg) (vt : Bool) (t : Int)
    (h : (verifyTimeStamp tok data vt).result = .ok t) :
    ∃ ss s, tok = .parsed ss ∧ s ∈ ss ∧ s.sigAlgSupported = true ∧ s.sigOk = true ∧ t = effTime s := by
  obtain ⟨pre, s, post, rfl, _, hs, ht⟩ := (timestamp_used_iff_bound_and_valid tok data vt t).1 h
  exact ⟨_, s, rfl, List.mem_append_right _ (List.mem_cons_self ..), hs.signature_verified.1, hs.signature_verified.2, ht⟩

/-- No validator ⇒ `Accept` fails, whatever else holds (even a "good" signature): by `step_spec` the
`SignerInfo` is rejected (with `timeStamp.untrusted` when the tests in front of this one pass). -/
theorem unsupported_sig_alg_rejected (data : Msg) (vt : Bool) (s : SInfo)
    (h : s.sigAlgSupported = false) : ¬ Accept data vt s := by
  intro ha; rw [ha.signature_verified.1] at h; cases h

/-- A `SignerInfo` that meets `Accept d true`: effective time 1001 (the signed attribute), TSA
certificate valid from 0 to 2000. -/
def goodSigner (d : Msg) : SInfo :=
  { certFound := true, tstOk := true, genTime := 1000, signedAttrs := true, attrTime := some 1001,
    md := .value true, digestAlgKnown := true, hasContent := true, encodable := true, sigOk := true,
    notBefore := 0, notAfter := 2000, margin := 1, imprintAlgKnown := true, imprint := d,
    chainParses := true, profileOk := true, profileLog := [], trusted := true }

example : (verifyTimeStamp (.parsed [goodSigner (headerMsg true)]) (headerMsg true) true).result
    = .ok 1001 := by decide
example : (verifyTimeStamp (.parsed [goodSigner (headerMsg false)]) (headerMsg true) true).result
    = .error .invalidData := by decide
example : (verifyTimeStamp (.parsed [{ goodSigner (headerMsg true) with sigAlgSupported := false }])
    (headerMsg true) true).result = .error .untrusted := by decide

/-! ### COSE header -/

theorem validateCoseTst_single (v2 : Bool) (tok : Token) (vt : Bool) :
    validateCoseTst (.present v2 (.toks [tok])) vt =
      ((match (verifyTimeStamp tok (headerMsg v2) vt).result with
        | .ok x => some x
        | .error _ => none), (verifyTimeStamp tok (headerMsg v2) vt).log) := rfl

/-- **The header time-stamp gives the signing time iff there is exactly one token and it is bound
to the message this header kind must cover** (`sigTst2`: the CBOR-wrapped signature; `sigTst`:
the payload; both inside the countersignature structure). -/
theorem header_time_iff (h : Header) (vt : Bool) (t : Int) :
    (validateCoseTst h vt).1 = some t ↔
      ∃ v2 tok, h = .present v2 (.toks [tok]) ∧
        (verifyTimeStamp tok (headerMsg v2) vt).result = .ok t := by
  have single (v2 tok) : (validateCoseTst (.present v2 (.toks [tok])) vt).1 = some t ↔
      (verifyTimeStamp tok (headerMsg v2) vt).result = .ok t := by
    rw [validateCoseTst_single]
    cases (verifyTimeStamp tok (headerMsg v2) vt).result <;> simp
  constructor
  · intro hv
    match h with
    | .present v2 (.toks [tok]) => exact ⟨v2, tok, rfl, (single v2 tok).1 hv⟩
    | .absent | .present _ .unparsable | .present _ (.toks []) | .present _ (.toks (_ :: _ :: _)) =>
      cases hv
  · rintro ⟨v2, tok, rfl, hr⟩
    exact (single v2 tok).2 hr

/-- A header that carries tokens but yields no time reports an informational time-stamp code. -/
theorem header_rejection_reported (v2 : Bool) (l : List Token) (vt : Bool) (hl : l ≠ [])
    (h : (validateCoseTst (.present v2 (.toks l)) vt).1 = none) :
    ∃ c, IsTsInfo c ∧ info c ∈ (validateCoseTst (.present v2 (.toks l)) vt).2 := by
  match l with
  | [] => exact absurd rfl hl
  | [tok] =>
    rw [validateCoseTst_single] at h ⊢
    cases hr : (verifyTimeStamp tok (headerMsg v2) vt).result with
    | ok x => rw [hr] at h; cases h
    | error e => exact (rejected_token_reported tok _ vt e hr).1
  | _ :: _ :: _ => exact ⟨_, .malformed, List.mem_singleton_self _⟩

/-! ### expired signing certificate -/

theorem validAt_iff (nb na t : Int) : validAt nb na t = true ↔ nb ≤ t ∧ t ≤ na := by
  simp [validAt]

theorem expired_ne_credInvalid : cExpired ≠ cCredInvalid := by
  unfold cExpired cCredInvalid; decide_run

/-- `signingCredential.expired` is logged by the profile check exactly when the certificate is v3
and the checked time (time-stamp if used, else now) is outside its validity. -/
theorem profile_expired_iff (s : Signing) (tst : Option Int) (now : Int) :
    failE cExpired ∈ profileLog s tst now ↔
      s.versionOk = true ∧
        validAt s.notBefore s.notAfter (checkTime tst now) = false := by
  have hne : failE cExpired ≠ failE cCredInvalid :=
    fun h => expired_ne_credInvalid (Prod.mk.inj h).1
  unfold profileLog
  cases s.versionOk <;> cases validAt s.notBefore s.notAfter (checkTime tst now) <;>
    cases s.restOk <;> simp [hne]

theorem expired_logged (ext : Option Int) (h : Header) (s : Signing) (cfg : Cfg)
    (hc : cfg.certCheck = true) (hv : s.versionOk = true)
    (hbad : ¬ (s.notBefore ≤ checkTime (usedTime ext h cfg).1 cfg.now ∧
      checkTime (usedTime ext h cfg).1 cfg.now ≤ s.notAfter)) :
    failE cExpired ∈ claimLog ext h s cfg := by
  have hp := (profile_expired_iff s (usedTime ext h cfg).1 cfg.now).2
    ⟨hv, Bool.eq_false_iff.2 (mt (validAt_iff _ _ _).1 hbad)⟩
  unfold claimLog coseLog
  rw [if_pos hc]
  exact List.mem_append_left _ (List.mem_append_left _ (List.mem_append_right _ hp))

/-- **An expired (or not yet valid) signing certificate is accepted only with a matching, valid
time-stamp inside its validity.** With `cert_check` on and a v3 certificate (`hc`, `hv`; without
either the profile check logs no `signingCredential.expired` at all): if the certificate is not
valid now and the validation log does
not contain `signingCredential.expired`, then a time was used, it lies inside the certificate's
validity, and it came either from a verified time-stamp assertion (`ext`) or from a single header
token for which `verify_time_stamp` succeeded (hence bound and valid by
`timestamp_used_iff_bound_and_valid`). -/
theorem expired_cert_needs_valid_timestamp (ext : Option Int) (h : Header) (s : Signing) (cfg : Cfg)
    (hc : cfg.certCheck = true) (hv : s.versionOk = true)
    (hnow : ¬ (s.notBefore ≤ cfg.now ∧ cfg.now ≤ s.notAfter))
    (hlog : failE cExpired ∉ claimLog ext h s cfg) :
    ∃ t, (usedTime ext h cfg).1 = some t ∧ s.notBefore ≤ t ∧ t ≤ s.notAfter ∧
      (ext = some t ∨
        (ext = none ∧ ∃ v2 tok, h = .present v2 (.toks [tok]) ∧
          (verifyTimeStamp tok (headerMsg v2) cfg.tsTrust).result = .ok t)) := by
  have hin := Decidable.not_not.1 (mt (expired_logged ext h s cfg hc hv) hlog)
  cases hu : (usedTime ext h cfg).1 with
  | none => rw [hu] at hin; exact absurd hin hnow
  | some t =>
    rw [hu] at hin
    refine ⟨t, rfl, hin.1, hin.2, ?_⟩
    cases ext with
    | some x => exact Or.inl hu
    | none => exact Or.inr ⟨rfl, (header_time_iff h cfg.tsTrust t).1 hu⟩

theorem expired_not_tolerated : C04.tolerated cExpired = false := by
  unfold C04.tolerated C04.cUntrusted C04.cawgX509Prefix cExpired; decide_run

/-- **Without such a time-stamp the manifest is Invalid** (`cert_check` on, v3 certificate).
Certificate not valid at the time that
is checked (the used time-stamp's time, or now when none is used) ⇒ `signingCredential.expired`
is a failure of the active manifest ⇒ state Invalid (C04), whatever other failures were logged. -/
theorem expired_cert_without_timestamp_invalid (extra : List Code) (ext : Option Int) (h : Header)
    (s : Signing) (cfg : Cfg) (hc : cfg.certCheck = true) (hv : s.versionOk = true)
    (hbad : ¬ (s.notBefore ≤ checkTime (usedTime ext h cfg).1 cfg.now ∧
      checkTime (usedTime ext h cfg).1 cfg.now ≤ s.notAfter)) :
    claimStateX extra ext h s cfg = .invalid :=
  C04.invalid_of_entry _ cExpired {} (List.mem_append_left _ (expired_logged ext h s cfg hc hv hbad))
    expired_not_tolerated

/-- A signing certificate valid from 0 to 1500, expired at the `now := 5000` of the examples: with
a bound, valid time-stamp inside its validity it is accepted (Trusted); with a time-stamp for
another message, or none, the manifest is Invalid. -/
def expiredCert : Signing :=
  { notBefore := 0, notAfter := 1500, versionOk := true, restOk := true, trustNoTime := true,
    trustAtTst := true, sigOk := true }

example : claimState none (.present true (.toks [.parsed [goodSigner (headerMsg true)]])) expiredCert
    { verifyTrust := true, tsTrust := true, now := 5000 } = .trusted := by
  unfold claimState claimStateX
  rw [show claimLog none _ expiredCert _ = [succ cValidated, succ cTsTrusted, succ C04.cTrusted,
    succ C04.cInsideValidity, succ C04.cSigValidated] from rfl]
  unfold C04.state C04.isTrusted C04.isValid cValidated cTsTrusted C04.cTrusted C04.cInsideValidity
    C04.cSigValidated
  decide_run
example : claimState none (.present true (.toks [.parsed [goodSigner (headerMsg false)]])) expiredCert
    { verifyTrust := true, tsTrust := true, now := 5000 } = .invalid :=
  expired_cert_without_timestamp_invalid [] _ _ _ _ rfl rfl (by decide)
example : claimState none .absent expiredCert
    { verifyTrust := true, tsTrust := true, now := 5000 } = .invalid :=
  expired_cert_without_timestamp_invalid [] _ _ _ _ rfl rfl (by decide)

/-! ### the header that is looked at -/

/-- **`get_cose_tst_info` takes the first `sigTst2`/`sigTst` entry in header order**; later entries
(even a `sigTst2` after a `sigTst`) are never looked at. -/
theorem headerOf_first (v2 : Bool) (c : Container) (rest : List (Bool × Container)) :
    headerOf ((v2, c) :: rest) = .present v2 c := rfl

/-- With both kinds present the unprotected-header order decides: a bound `sigTst2` token behind an
unusable `sigTst` entry gives no time, the same two entries in the other order do. -/
example : (validateCoseTst (headerOf [(false, .unparsable),
      (true, .toks [.parsed [goodSigner (headerMsg true)]])]) true).1 = none := rfl
example : (validateCoseTst (headerOf [(true, .toks [.parsed [goodSigner (headerMsg true)]]),
      (false, .unparsable)]) true).1 = some 1001 := rfl

/-- The statement says a token must match "the claim signature it accompanies". -/
def HeaderTokenCoversSignature : Prop := ∀ v2, (headerMsg v2).data = .sigCbor

/-- **False for the legacy `sigTst` header**: its token covers the claim bytes (COSE payload) inside
the countersignature structure, not the signature — the token stays valid when the same claim is
signed again (replayed by the harness: `transplant/v1`, class `v1-token-survives-resigning`). -/
theorem header_token_covers_signature_false : ¬ HeaderTokenCoversSignature := by
  intro h; have := h false; simp [headerMsg] at this

theorem header_token_covers_signature_partial : (headerMsg true).data = .sigCbor := rfl

theorem v1_header_covers_payload : headerMsg false = ⟨true, .payload⟩ := rfl

/-! ### the displayed signing time -/

/-- **`SignatureInfo.time` is only ever the time of a bound header token** (validated without the
trust part): exactly one token, a `SignerInfo` of it bound to the message this header kind covers. -/
theorem displayed_time_only_if_bound (h : Header) (t : Int) (hd : displayTime h = some t) :
    ∃ v2 tok ss s, h = .present v2 (.toks [tok]) ∧ tok = .parsed ss ∧ s ∈ ss ∧
      Bound (headerMsg v2) s ∧ t = effTime s := by
  obtain ⟨v2, tok, rfl, hr⟩ := (header_time_iff h false t).1 hd
  obtain ⟨ss, s, rfl, hs, hb, ht⟩ := timestamp_used_only_if_bound tok (headerMsg v2) false t hr
  exact ⟨v2, _, ss, s, rfl, rfl, hs, hb, ht⟩

/-! ### time-stamp assertions -/

/-- The store pass keeps the least of the times of the accepted tokens. -/
theorem extTime_eq_min (vt : Bool) : ∀ toks : List Token,
    extTime toks vt = (toks.filterMap fun tok => (verifyTimeStamp tok assertionMsg vt).result.toOption).min?
  | [] => rfl
  | a :: rest => by
    have ih := extTime_eq_min vt rest
    rw [extTime]
    cases ha : (verifyTimeStamp a assertionMsg vt).result with
    | error e => rw [List.filterMap_cons_none (by rw [ha]; rfl)]; exact ih
    | ok x =>
      rw [List.filterMap_cons_some (b := x) (by rw [ha]; rfl), List.min?_cons, ← ih]
      cases extTime rest vt with
      | none => rfl
      | some u => exact congrArg some (by rw [Option.elim, Int.min_def]; split <;> split <;> omega)

/-- **The time of a time-stamp assertion is used iff** it is the earliest of the times of the
tokens that `verify_time_stamp` accepts over the raw COSE signature (whatever their order). -/
theorem ext_time_iff (toks : List Token) (vt : Bool) (t : Int) :
    extTime toks vt = some t ↔
      (∃ tok ∈ toks, (verifyTimeStamp tok assertionMsg vt).result = .ok t) ∧
        ∀ tok ∈ toks, ∀ u, (verifyTimeStamp tok assertionMsg vt).result = .ok u → t ≤ u := by
  have hmem (u : Int) : u ∈ (toks.filterMap fun tok =>
      (verifyTimeStamp tok assertionMsg vt).result.toOption) ↔
        ∃ tok ∈ toks, (verifyTimeStamp tok assertionMsg vt).result = .ok u := by
    rw [List.mem_filterMap]
    refine exists_congr fun tok => and_congr_right fun _ => ?_
    cases (verifyTimeStamp tok assertionMsg vt).result <;> simp [Except.toOption]
  rw [extTime_eq_min, List.min?_eq_some_iff, hmem]
  exact and_congr_right fun _ =>
    ⟨fun h tok hm u hu => h u ((hmem u).2 ⟨tok, hm, hu⟩),
     fun h u hu => by obtain ⟨tok, hm, hk⟩ := (hmem u).1 hu; exact h tok hm u hk⟩

/-- **A time-stamp assertion gives the signing time only if one of its tokens is bound to the raw
claim signature** (imprint = the signature bytes, CMS signature and message-digest attribute ok). -/
theorem ext_time_only_if_bound (toks : List Token) (vt : Bool) (t : Int)
    (h : extTime toks vt = some t) :
    ∃ tok ∈ toks, ∃ ss s, tok = .parsed ss ∧ s ∈ ss ∧ Bound assertionMsg s ∧ t = effTime s := by
  obtain ⟨⟨tok, hm, hr⟩, _⟩ := (ext_time_iff toks vt t).1 h
  obtain ⟨ss, s, rfl, hs, hb, ht⟩ := timestamp_used_only_if_bound tok assertionMsg vt t hr
  exact ⟨_, hm, ss, s, rfl, hs, hb, ht⟩

theorem mem_extLog (x : Entry) (vt : Bool) : ∀ toks : List Token,
    x ∈ extLog toks vt ↔ ∃ tok ∈ toks,
      (∃ e, (verifyTimeStamp tok assertionMsg vt).result = .error e) ∧
        x ∈ (verifyTimeStamp tok assertionMsg vt).log
  | [] => by simp [extLog]
  | a :: rest => by
    rw [extLog, List.mem_append, mem_extLog x vt rest]
    cases ha : (verifyTimeStamp a assertionMsg vt).result <;> simp [ha]

/-- **A rejected assertion token is reported**: the store pass appends its informational
`timeStamp.*` entry to the validation log (store.rs as repaired for finding
`assertion-ts-failure-unreported`; the unrepaired code writes these entries into a scratch log that
is dropped). -/
theorem rejected_assertion_token_reported (toks : List Token) (vt : Bool) (tok : Token)
    (hm : tok ∈ toks) (e : Err) (he : (verifyTimeStamp tok assertionMsg vt).result = .error e) :
    ∃ c, IsTsInfo c ∧ info c ∈ extLog toks vt := by
  obtain ⟨c, hc, hin⟩ := (rejected_token_reported tok assertionMsg vt e he).1
  exact ⟨c, hc, (mem_extLog _ vt toks).2 ⟨tok, hm, ⟨e, he⟩, hin⟩⟩

/-- The store pass over the assertion tokens never logs `timeStamp.trusted`: it appends only the
entries of rejected tokens (`mem_extLog`). -/
theorem ext_log_no_trusted (toks : List Token) (vt : Bool) : succ cTsTrusted ∉ extLog toks vt := by
  intro h
  obtain ⟨tok, _, ⟨e, he⟩, hin⟩ := (mem_extLog _ vt toks).1 h
  exact (rejected_token_reported tok assertionMsg vt e he).2 hin

example : extTime [.parsed [goodSigner assertionMsg]] true = some 1001 := rfl
example : extTime [.parsed [goodSigner (headerMsg true)]] true = none := rfl
example : extLog [.parsed [goodSigner (headerMsg true)]] true = [info cMismatch] := rfl
/-- the earliest accepted time is kept, in whatever order the store meets the tokens -/
example : extTime [.parsed [{ goodSigner assertionMsg with attrTime := some 1500 }],
    .parsed [goodSigner assertionMsg], .unparsable] true = some 1001 := rfl
example : extTime [.unparsable, .parsed [goodSigner assertionMsg],
    .parsed [{ goodSigner assertionMsg with attrTime := some 1500 }]] true = some 1001 := rfl

/-! ### a rejected header token, lifted to the claim's log -/

/-- **Without a time-stamp assertion** a header that carries tokens but yields no time is reported
in the claim's validation log. -/
theorem header_rejection_reported_claim (v2 : Bool) (l : List Token) (s : Signing) (cfg : Cfg)
    (hl : l ≠ []) (h : (validateCoseTst (.present v2 (.toks l)) cfg.tsTrust).1 = none) :
    ∃ c, IsTsInfo c ∧ info c ∈ claimLog none (.present v2 (.toks l)) s cfg := by
  obtain ⟨c, hc, hin⟩ := header_rejection_reported v2 l cfg.tsTrust hl h
  refine ⟨c, hc, ?_⟩
  unfold claimLog coseLog
  exact List.mem_append_left _ (List.mem_append_left _ (List.mem_append_left _ hin))

/-- The statement's "otherwise a time-stamp failure is reported", for header tokens, whatever else
supplies the time. -/
def RejectedHeaderTokenReported : Prop :=
  ∀ (ext : Option Int) (v2 : Bool) (tok : Token) (s : Signing) (cfg : Cfg) (e : Err),
    (verifyTimeStamp tok (headerMsg v2) cfg.tsTrust).result = .error e →
    ∃ c, IsTsInfo c ∧ info c ∈ claimLog ext (.present v2 (.toks [tok])) s cfg

/-- **False when a time-stamp assertion supplies the time**: `verify_cose` then does not look at the
header at all (`Some(tst_info) => …` skips `validate_cose_tst_info`), so a header token for another
message stays unreported. Replayed by the harness (`ext+wrongmsg-hdr`, class
`hdr-token-unreported-with-assertion-ts`). -/
theorem rejected_header_token_reported_false : ¬ RejectedHeaderTokenReported := by
  intro h
  obtain ⟨c, _, hin⟩ := h (some 1000) true (.parsed [goodSigner (headerMsg false)]) expiredCert
    { verifyTrust := true, tsTrust := true, now := 5000 } .invalidData rfl
  have hl : claimLog (some 1000) (.present true (.toks [.parsed [goodSigner (headerMsg false)]]))
      expiredCert { verifyTrust := true, tsTrust := true, now := 5000 }
      = [C04.cTrusted, C04.cInsideValidity, C04.cSigValidated].map succ := rfl
  rw [hl] at hin
  obtain ⟨d, _, hd⟩ := List.mem_map.1 hin
  exact succ_ne_info d c hd

/-- `RejectedHeaderTokenReported` holds without a time-stamp assertion
(`header_rejection_reported_claim` for the single-token header). -/
theorem rejected_header_token_reported_partial (v2 : Bool) (tok : Token) (s : Signing) (cfg : Cfg)
    (e : Err) (he : (verifyTimeStamp tok (headerMsg v2) cfg.tsTrust).result = .error e) :
    ∃ c, IsTsInfo c ∧ info c ∈ claimLog none (.present v2 (.toks [tok])) s cfg := by
  apply header_rejection_reported_claim v2 [tok] s cfg (List.cons_ne_nil _ _)
  rw [validateCoseTst_single, he]

/-! ### expired signing certificate, with the assertion time tied to its tokens -/

/-- **An expired (or not yet valid) signing certificate is accepted only with a bound
time-stamp inside its validity** (hypotheses as in `expired_cert_needs_valid_timestamp`) — stated
down to the token: either a token of a time-stamp
assertion bound to the raw claim signature, or (no assertion time) the single header token bound to
the message its header kind covers; the token's effective time lies inside the validity period. -/
theorem expired_cert_needs_bound_timestamp (toks : List Token) (xvt : Bool) (h : Header)
    (s : Signing) (cfg : Cfg) (hc : cfg.certCheck = true) (hv : s.versionOk = true)
    (hnow : ¬ (s.notBefore ≤ cfg.now ∧ cfg.now ≤ s.notAfter))
    (hlog : failE cExpired ∉ claimLog (extTime toks xvt) h s cfg) :
    ∃ t, s.notBefore ≤ t ∧ t ≤ s.notAfter ∧
      ((∃ tok ∈ toks, ∃ ss si, tok = .parsed ss ∧ si ∈ ss ∧ Bound assertionMsg si ∧ t = effTime si) ∨
       (extTime toks xvt = none ∧ ∃ v2 tok ss si, h = .present v2 (.toks [tok]) ∧ tok = .parsed ss ∧
          si ∈ ss ∧ Bound (headerMsg v2) si ∧ t = effTime si)) := by
  obtain ⟨t, _, h1, h2, hsrc⟩ := expired_cert_needs_valid_timestamp (extTime toks xvt) h s cfg hc hv hnow hlog
  refine ⟨t, h1, h2, ?_⟩
  rcases hsrc with hx | ⟨hx, v2, tok, rfl, hr⟩
  · exact Or.inl (ext_time_only_if_bound toks xvt t hx)
  · obtain ⟨ss, si, rfl, hs, hb, ht⟩ := timestamp_used_only_if_bound tok (headerMsg v2) cfg.tsTrust t hr
    exact Or.inr ⟨hx, v2, _, ss, si, rfl, rfl, hs, hb, ht⟩

example : claimState (extTime [.parsed [goodSigner assertionMsg]] true) .absent expiredCert
    { verifyTrust := true, tsTrust := true, now := 5000 } = .trusted := by
  unfold claimState claimStateX
  rw [show claimLog _ .absent expiredCert _ = [succ C04.cTrusted, succ C04.cInsideValidity,
    succ C04.cSigValidated] from rfl]
  unfold C04.state C04.isTrusted C04.isValid C04.cTrusted C04.cInsideValidity C04.cSigValidated
  decide_run
example : claimState (extTime [.parsed [goodSigner (headerMsg true)]] true) .absent expiredCert
    { verifyTrust := true, tsTrust := true, now := 5000 } = .invalid :=
  expired_cert_without_timestamp_invalid [] _ _ _ _ rfl rfl (by decide)

end C2pa.C36
