import C2paModel.Lemmas.C29WriteCheck
/-
C29 — property theorems. The statement (properties.jsonl):

  With a base path configured, resource and archive operations never read, write, reveal
  the existence of, or export a file whose real location is outside the manifest root,
  whatever the identifier (parent components, absolute paths, backslashes, encoded
  separators) or the symbolic links present in the directory tree.

"Real location" is the physical location `PPath` of a node in the file-system model
(`Model/C29.lean`); the "real root" is `canon fs env root`. All theorems quantify over every
file system (any finite set of nodes, any symbolic links: absolute, relative, chained,
looping, dangling; the write theorems: every such tree in which each node has a directory as its
parent, `FS.WF`), every working directory, every resolution fuel, every base/root string (the write
theorems: a root that resolves and a base path with a prefix resolving inside it) and every identifier.
-/
namespace C2pa.C29

/-! ### `sanitize_archive_path` (write side, archive import, export) -/

/-- **sanitize_only_normal.** Whatever `sanitize_archive_path` accepts is a non-empty,
`/`-joined list of normal names: its `Path::components` are all `Normal`, so there is no
`..`, no `.`, no root (not absolute), no empty component, and no backslash anywhere. -/
theorem sanitize_only_normal (p s : Str) (h : sanitize p = .ok s) :
    (∃ names : Segs, names ≠ [] ∧ (∀ n ∈ names, NormalName n ∧ 92 ∉ n) ∧ s = joinSlash names ∧
      components s = names.map Comp.normal) ∧
    s ≠ [] ∧ isRooted s = false ∧ 92 ∉ s ∧ Comp.parent ∉ components s ∧
    Comp.root ∉ components s := by
  obtain ⟨hne, hN, hs⟩ := sanitize_ok h
  have hNN := fun n hn => (hN n hn).1
  have hcomp := components_of_normals _ hne hNN
  rw [← hs] at hcomp
  refine ⟨⟨_, hne, hN, hs, hcomp⟩, ?_, ?_, ?_, ?_, ?_⟩
  · rw [hs]; exact joinSlash_ne_nil _ hne fun n hn => (hNN n hn).1
  · rw [← rooted_splitSlash, hs, splitSlash_joinSlash _ hne fun n hn => (hNN n hn).2.2.2]
    exact rooted_normals _ hne hNN
  · intro h92
    rcases mem_joinSlash (hs ▸ h92) with h47 | ⟨n, hn, hm⟩
    · cases h47
    · exact (hN n hn).2 hm
  · rw [hcomp]; simp
  · rw [hcomp]; simp

example : sanitize [114, 47, 46, 47, 116] = .ok [114, 47, 116] := by rfl   -- "r/./t" ↦ "r/t"
example : sanitize [46, 46, 47, 120] = .error .bad := by rfl              -- "../x"
example : sanitize [47, 120] = .error .bad := by rfl                      -- "/x"
example : sanitize [46, 46, 92, 120] = .error .bad := by rfl              -- "..\x"

theorem uriToPath_sanitize {uri : Str} {label : Option Str} {s : Str}
    (h : uriToPath uri label = .ok s) : ∃ p, sanitize p = .ok s := by
  revert h
  fun_cases uriToPath uri label <;> exact fun h => ⟨_, h⟩

/-- **export_confined.** Every path `uri_to_path` produces (the relative path
`Reader::to_folder` writes below the destination folder) has normal components only — whatever
the URI and the manifest label taken from the asset. -/
theorem export_confined (uri : Str) (label : Option Str) (s : Str)
    (h : uriToPath uri label = .ok s) :
    (∃ names : Segs, names ≠ [] ∧ (∀ n ∈ names, NormalName n ∧ 92 ∉ n) ∧ s = joinSlash names ∧
      components s = names.map Comp.normal) ∧
    s ≠ [] ∧ isRooted s = false ∧ 92 ∉ s ∧ Comp.parent ∉ components s ∧
    Comp.root ∉ components s := by
  obtain ⟨p, hp⟩ := uriToPath_sanitize h
  exact sanitize_only_normal p s hp

theorem sanitize_noslash (id key : Str) (hns : 47 ∉ id) (h : sanitize id = .ok key) :
    key = id ∧ NormalName id ∧ 92 ∉ id := by
  obtain ⟨hne, hN, hs⟩ := sanitize_ok h
  rw [splitSlash_of_noslash id hns] at hne hN hs
  have hf : [id].filter (fun x => !isSkip x) = [id] := by
    rw [List.filter_cons] at hne ⊢
    split
    · rfl
    · rename_i hsk; rw [if_neg hsk] at hne; exact absurd rfl hne
  rw [hf] at hN hs
  exact ⟨hs, hN id (by simp)⟩

/-- **archive_entry_confined.** The key under which `Builder::old_from_archive` stores a
`resources/…` zip entry is a single normal name (no `/`, no `\`, not `.`/`..`/empty). -/
theorem archive_entry_confined (name key : Str) (h : archiveEntry name = some (.ok key)) :
    NormalName key ∧ 92 ∉ key := by
  revert h
  fun_cases archiveEntry name
  case case3 id hid =>
    intro h
    obtain ⟨rfl, hN⟩ :=
      sanitize_noslash id key (splitSlash_noslash name id (List.mem_of_getElem? hid))
        (Option.some.inj h)
    exact hN
  all_goals exact nofun

theorem archResources_ok {name : Str} {e1 : List (StoreId × Str)} (h : archResources name = .ok e1) :
    ∀ e ∈ e1, NormalName e.2 ∧ 92 ∉ e.2 := by
  revert h
  fun_cases archResources name
  case case1 => intro h; cases h; nofun
  case case2 => exact nofun
  case case3 key hk =>
    intro h e he
    cases h
    cases List.mem_singleton.1 he
    exact archive_entry_confined name key hk

theorem manifestTargets_key (ams : List (Option Str)) (label : Str) :
    ∀ e ∈ manifestTargets ams label, e.2 = manifestDataKey := by
  intro e he
  obtain ⟨⟨am, i⟩, _, hx⟩ := List.mem_filterMap.1 he
  dsimp only at hx
  split at hx
  · split at hx
    · cases hx; rfl
    · cases hx
  · cases hx

theorem archManifests_ok {ams : List (Option Str)} {name : Str} {e2 : List (StoreId × Str)}
    (h : archManifests ams name = .ok e2) : ∀ e ∈ e2, e.2 = manifestDataKey := by
  revert h
  fun_cases archManifests ams name
  case case4 label _ _ _ => intro h; cases h; exact manifestTargets_key ams label
  case case5 => intro h; cases h; nofun
  all_goals exact nofun

theorem archIngredients_ok {ams : List (Option Str)} {name : Str} {e3 : List (StoreId × Str)}
    (h : archIngredients ams name = .ok e3) :
    ∀ e ∈ e3, (e.1 ≠ .builder ∧ e.2 = []) ∨ (NormalName e.2 ∧ 92 ∉ e.2) := by
  revert h
  fun_cases archIngredients ams name
  case case5 idx _ id key hkey _ =>
    intro h e he
    cases h
    cases List.mem_singleton.1 he
    -- `id` is the third segment of the entry name, or empty when there is none
    have hns : 47 ∉ id := by
      cases hg : (splitSlash name)[2]? with
      | none => simp [id, hg]
      | some s => simpa [id, hg] using splitSlash_noslash name s (List.mem_of_getElem? hg)
    by_cases hne : id ≠ []
    · rw [if_pos hne] at hkey
      obtain ⟨rfl, hN⟩ := sanitize_noslash id key hns hkey
      exact .inr hN
    · rw [if_neg hne] at hkey
      cases hkey
      exact .inl ⟨nofun, rfl⟩
  case case6 => intro h; cases h; nofun
  all_goals exact nofun

/-- **archive_keys_confined.** Whatever zip entry name an archive carries (all three branches of
`Builder::old_from_archive`: `resources/…`, `manifests/…`, `ingredients/<n>/…`), every identifier
under which its data is stored — in the builder's or in an ingredient's resource store — is the
fixed name `manifest_data.c2pa`, or empty (only in an ingredient's store, for `ingredients/<n>`
without a name), or a single normal name: never a path with a separator, `..`, `.` or a
backslash. -/
theorem archive_keys_confined (ams : List (Option Str)) (name : Str) (effs : List (StoreId × Str))
    (h : archiveEffects ams name = .ok effs) :
    ∀ e ∈ effs, e.2 = manifestDataKey ∨ (e.1 ≠ .builder ∧ e.2 = []) ∨ (NormalName e.2 ∧ 92 ∉ e.2) := by
  revert h
  fun_cases archiveEffects ams name
  case case4 e1 h1 e2 h2 e3 h3 =>
    intro h e he
    cases h
    rcases List.mem_append.1 he with he | he
    · rcases List.mem_append.1 he with he | he
      · exact .inr (.inr (archResources_ok h1 e he))
      · exact .inl (archManifests_ok h2 e he)
    · exact .inr (archIngredients_ok h3 e he)
  all_goals exact nofun

-- "resources/a" is stored in the builder under "a"; "ingredients/1/t" in ingredient 1 under "t";
-- "ingredients/0" under ""; "resources/../x" and "ingredients/0/.." reject the archive
example : archiveEffects [none, none] [114, 101, 115, 111, 117, 114, 99, 101, 115, 47, 97] =
    .ok [(.builder, [97])] := by rfl
example : archiveEffects [none, none] [105, 110, 103, 114, 101, 100, 105, 101, 110, 116, 115, 47, 49, 47, 116] =
    .ok [(.ingredient 1, [116])] := by rfl
example : archiveEffects [none, none] [105, 110, 103, 114, 101, 100, 105, 101, 110, 116, 115, 47, 48] =
    .ok [(.ingredient 0, [])] := by rfl
example : archiveEffects [none] [114, 101, 115, 111, 117, 114, 99, 101, 115, 47, 46, 46, 47, 120] =
    .error .bad := by rfl
example : archiveEffects [none] [105, 110, 103, 114, 101, 100, 105, 101, 110, 116, 115, 47, 48, 47, 46, 46] =
    .error .bad := by rfl
-- "manifests/a_b" goes to the ingredient whose active manifest is "a:b"
example : archiveEffects [some [97, 58, 98], none] [109, 97, 110, 105, 102, 101, 115, 116, 115, 47, 97, 95, 98] =
    .ok [(.ingredient 0, manifestDataKey)] := by rfl

/-! ### `normalize_lexically`, `resolve_within_root`: lexical containment -/

theorem normStep_rooted (ns : List Str) {c : Comp} (hc : c ≠ .root) :
    ∃ ns' : List Str, normStep (.root :: ns.map Comp.normal) c = .root :: ns'.map Comp.normal := by
  cases c with
  | root => exact absurd rfl hc
  | cur => exact ⟨ns, rfl⟩
  | normal n => exact ⟨ns ++ [n], by simp [normStep]⟩
  | parent =>
    rcases List.eq_nil_or_concat ns with rfl | ⟨init, l, rfl⟩
    · exact ⟨[], rfl⟩
    · refine ⟨init, ?_⟩
      rw [List.concat_eq_append, List.map_append, ← List.cons_append]
      simp only [normStep, List.map_cons, List.map_nil, List.getLast?_concat, List.dropLast_concat]

theorem normalize_foldl_rooted : ∀ (cs : List Comp) (ns : List Str), (∀ c ∈ cs, c ≠ .root) →
    ∃ ns' : List Str, cs.foldl normStep (.root :: ns.map Comp.normal) = .root :: ns'.map Comp.normal
  | [], ns, _ => ⟨ns, rfl⟩
  | c :: cs, ns, hc => by
    obtain ⟨ns1, h1⟩ := normStep_rooted ns (hc c (by simp))
    rw [List.foldl_cons, h1]
    exact normalize_foldl_rooted cs ns1 fun x hx => hc x (by simp [hx])

/-- Lexical normalisation of an absolute path leaves the root followed by normal names only:
every `.` and `..` is gone (a `..` at the root is dropped). -/
theorem normalize_rooted_shape (p : Segs) (hr : rooted p = true) :
    ∃ ns : List Str, normalize (componentsSegs p) = .root :: ns.map Comp.normal := by
  unfold componentsSegs normalize
  simp only [hr, if_true, List.cons_append, List.nil_append, List.foldl_cons]
  refine normalize_foldl_rooted _ [] fun c hc => ?_
  obtain ⟨s, _, hs⟩ := List.mem_filterMap.1 hc
  exact single_ne_root hs

theorem resolveWithinRoot_ok {fs : FS} {env : Env} {base root : Segs} {id : Str} {j : Segs}
    (h : resolveWithinRoot fs env base root id = .ok j) :
    id ≠ [] ∧ 92 ∉ id ∧ isRooted id = false ∧ j = pathJoin base (splitSlash id) ∧
      normalize (componentsSegs root) <+: normalize (componentsSegs j) ∧
      ∀ q, canon fs env j = some q → ∃ R, canon fs env root = some R ∧ R <+: q := by
  revert h
  fun_cases resolveWithinRoot fs env base root id
  -- the joined path resolves, to a location below what the root resolves to
  case case6 h1 h2 h3 joined hlex t hc r hr hp =>
    intro h
    obtain rfl := Except.ok.inj h
    rw [Bool.not_eq_true', Bool.not_eq_false] at hlex
    refine ⟨h1, h2, Bool.eq_false_iff.2 h3, rfl, List.isPrefixOf_iff_prefix.1 hlex,
      fun q hq => ⟨r, hr, ?_⟩⟩
    cases hc.symm.trans hq
    exact List.isPrefixOf_iff_prefix.1 hp
  -- a path that does not resolve passes
  case case8 h1 h2 h3 joined hlex hc =>
    intro h
    obtain rfl := Except.ok.inj h
    rw [Bool.not_eq_true', Bool.not_eq_false] at hlex
    exact ⟨h1, h2, Bool.eq_false_iff.2 h3, rfl, List.isPrefixOf_iff_prefix.1 hlex,
      fun q hq => nomatch hc.symm.trans hq⟩
  all_goals exact nofun

/-- **lexical_contained.** When `resolve_within_root` accepts an identifier, the identifier is
non-empty, has no backslash, is not absolute, the result is `base.join(id)`, and — after
lexically cancelling `.` and `..` — that path has the (equally normalised) root as a
component-wise prefix. -/
theorem lexical_contained (fs : FS) (env : Env) (base root : Segs) (id : Str) (j : Segs)
    (h : resolveWithinRoot fs env base root id = .ok j) :
    id ≠ [] ∧ 92 ∉ id ∧ isRooted id = false ∧ j = pathJoin base (splitSlash id) ∧
      normalize (componentsSegs root) <+: normalize (componentsSegs j) :=
  have ⟨h1, h2, h3, h4, h5, _⟩ := resolveWithinRoot_ok h
  ⟨h1, h2, h3, h4, h5⟩

theorem resolve_ok_canon (fs : FS) (env : Env) (base root : Segs) (id : Str) (j : Segs)
    (h : resolveWithinRoot fs env base root id = .ok j) (q : PPath)
    (hq : canon fs env j = some q) : ∃ R, canon fs env root = some R ∧ R <+: q :=
  (resolveWithinRoot_ok h).2.2.2.2.2 q hq

theorem resolve_ok_join {fs : FS} {env : Env} {base root : Segs} {id : Str} {j : Segs}
    (h : resolveWithinRoot fs env base root id = .ok j) : j = pathJoin base (splitSlash id) :=
  (resolveWithinRoot_ok h).2.2.2.1

/-! ### read side: `get`, `write_stream`, `exists`, `path_for_id` -/

theorem readFile_canon (fs : FS) (env : Env) (p : Segs) (v : Str) (h : readFile fs env p = some v) :
    ∃ q, canon fs env p = some q ∧ fs.look q = some (.file v) := by
  revert h
  fun_cases readFile fs env p
  case case1 q c g hw =>
    intro h; cases h
    exact ⟨q, by rw [canon, hw], (hw ▸ walkP_sound fs env true p).1.resolve_left nofun⟩
  case case2 => exact nofun

theorem readFile_confined {fs : FS} {c : Cfg} {id v : Str} {path : Segs}
    (hr : resolveWithinRoot fs c.env c.baseSegs c.rootSegs id = .ok path)
    (hf : readFile fs c.env path = some v) :
    ∃ R q, canon fs c.env c.rootSegs = some R ∧ R <+: q ∧ fs.look q = some (.file v) := by
  obtain ⟨q, hq, hl⟩ := readFile_canon fs c.env path v hf
  obtain ⟨R, hR, hpre⟩ := resolve_ok_canon fs c.env _ _ id path hr q hq
  exact ⟨R, q, hR, hpre, hl⟩

/-- **read_confined (`get`).** Whatever bytes `ResourceStore::get` hands out, for whatever
identifier and whatever links are in the tree, are what the in-memory map holds under exactly
that identifier, or equal to the content of some regular file whose real location is below the real
root (the statement does not tie that location to the identifier; `readFile_canon` has the path read). -/
theorem read_confined_get (fs : FS) (c : Cfg) (id v : Str) (h : get fs c id = .found v) :
    c.mem.lookup id = some v ∨
    ∃ R q, canon fs c.env c.rootSegs = some R ∧ R <+: q ∧ fs.look q = some (.file v) := by
  revert h
  fun_cases get fs c id
  case case1 hm => intro h; cases h; exact .inl hm
  case case3 hr w hf => intro h; cases h; exact .inr (readFile_confined hr hf)
  all_goals exact nofun

/-- **read_confined (`write_stream`).** Whatever bytes `write_stream` copies out are the map's,
or equal to the content of some regular file below the real root (as for `get`). -/
theorem read_confined_write_stream (fs : FS) (c : Cfg) (id v : Str)
    (h : writeStream fs c id = .ok v) :
    c.mem.lookup id = some v ∨
    ∃ R q, canon fs c.env c.rootSegs = some R ∧ R <+: q ∧ fs.look q = some (.file v) := by
  revert h
  fun_cases writeStream fs c id
  case case1 hm => intro h; cases h; exact .inl hm
  case case3 hr w hf => intro h; cases h; exact .inr (readFile_confined hr hf)
  all_goals exact nofun

/-- **read_confined (`exists`).** `exists` only ever says `true` about an identifier the
in-memory map holds, or (from the disk) about a node whose real location is below the real root. -/
theorem read_confined_exists (fs : FS) (c : Cfg) (id : Str) (h : existsId fs c id = true) :
    (c.mem.lookup id).isSome = true ∨
    ∃ R q, canon fs c.env c.rootSegs = some R ∧
      canon fs c.env (pathJoin c.baseSegs (splitSlash id)) = some q ∧ R <+: q := by
  revert h
  fun_cases existsId fs c id
  case case1 hm => exact fun _ => .inl hm
  case case2 => exact nofun
  case case3 path hr =>
    have ⟨_, _, _, hj, _, hcanon⟩ := resolveWithinRoot_ok hr
    fun_cases existsP fs c.env path
    case case1 q k g hw =>
      have hq : canon fs c.env path = some q := by rw [canon, hw]
      obtain ⟨R, hR, hpre⟩ := hcanon q hq
      exact fun _ => .inr ⟨R, q, hR, hj ▸ hq, hpre⟩
    case case2 => exact nofun

/-- **read_confined (`path_for_id`).** The path `path_for_id` hands out is `base.join(id)`, and if
it leads anywhere at all, it leads to a location below the real root. -/
theorem read_confined_path_for_id (fs : FS) (c : Cfg) (id : Str) (j : Segs)
    (h : pathForId fs c id = some j) :
    j = pathJoin c.baseSegs (splitSlash id) ∧
      ∀ q, canon fs c.env j = some q → ∃ R, canon fs c.env c.rootSegs = some R ∧ R <+: q := by
  revert h
  fun_cases pathForId fs c id
  case case1 => exact nofun
  case case2 path hr =>
    intro h; cases h
    exact ⟨resolve_ok_join hr, resolve_ok_canon fs c.env _ _ id _ hr⟩

/-! ### write side: `add` -/

theorem resolveForWrite_ok (fs : FS) (env : Env) (base root : Segs) (id : Str) (j : Segs)
    (h : resolveForWrite fs env base root id = .ok j) :
    j = pathJoin base (splitSlash id) ∧ checkAncestors fs env root j (ancestors j) = .ok () := by
  revert h
  fun_cases resolveForWrite fs env base root id
  case case3 path hr hc => intro h; cases h; exact ⟨resolve_ok_join hr, hc⟩
  all_goals exact nofun

/-- Core of the write side. `resolve_within_root_for_write(base, root, rel)`,
`create_dir_all(parent)`, `write` — for a `rel` made of normal names, a root that resolves to
`R`, and a base of the form `A/m₁/…/mₖ` (`k ≥ 0`, plain names) whose part `A` resolves to a
location really inside `R` (a directory in the theorems below; its kind is not used; the `mᵢ`
need not exist): whatever the links in the tree, and
whether the operation succeeds or fails half-way, every location at which the tree differs
afterwards is below `R`. -/
theorem checkedWrite_confined (fs : FS) (env : Env) (A M root : Segs) (rel data : Str)
    (R Bp : PPath) (k : Kind) (g : Nat)
    (hwf : fs.WF) (hroot : canon fs env root = some R)
    (hA : walkP fs env true A = .found Bp k g) (hin : R <+: Bp)
    (hM : ∀ m ∈ M, NormalName m) (hN : ∀ n ∈ splitSlash rel, NormalName n) :
    ∀ p, (checkedWrite fs env (A ++ M) root rel data).2.look p ≠ fs.look p → R <+: p := by
  intro p
  have hne := splitSlash_ne_nil rel
  fun_cases checkedWrite fs env (A ++ M) root rel data
  case case1 => exact fun h => absurd rfl h
  case case2 => exact fun h => absurd rfl h
  case case3 path hr =>
    obtain ⟨hj, hchk⟩ := resolveForWrite_ok fs env _ _ rel path hr
    obtain ⟨Q, gQ, hQ0, hpath, hQ⟩ :=
      pathJoin_resolved_base fs env A M _ Bp k g hA hM (rooted_normals _ hne hN)
    rw [hpath] at hj
    subst hj
    exact createAndWrite_confined_of_checked hwf hQ0 hQ hroot hin (M ++ splitSlash rel)
      (fun h => hne (List.append_eq_nil_iff.1 h).2)
      (fun n hn => (List.mem_append.1 hn).elim (hM n) (hN n)) hchk data p

/-- **write_confined_missing_base.** `ResourceStore::add`, in a well-formed tree in which the
configured root resolves to `R`, when the configured base directory need not exist yet: the base
path is `A/m₁/…/mₖ` where `A` resolves to a directory really inside `R` and the `mᵢ` are plain
names (which `create_dir_all` creates on the way, or which exist, or which are symbolic links —
then the ancestor loop of `resolve_within_root_for_write` decides). Whatever the identifier, the
data and the symbolic links in the tree (into or out of the root, chained, looping, dangling),
and whether `add` succeeds or fails half-way, every location at which the tree differs
afterwards is below `R`. -/
theorem write_confined_missing_base (fs : FS) (c : Cfg) (id data : Str) (A M : Segs)
    (R Bp : PPath) (g : Nat)
    (hwf : fs.WF)
    (hroot : canon fs c.env c.rootSegs = some R)
    (hsplitB : c.baseSegs = A ++ M) (hM : ∀ m ∈ M, NormalName m)
    (hA : walkP fs c.env true A = .found Bp .dir g)
    (hin : R <+: Bp) :
    ∀ p, (add fs c id data).2.look p ≠ fs.look p → R <+: p := by
  intro p
  fun_cases add fs c id data
  case case1 => exact fun h => absurd rfl h
  case case2 sid hs =>
    rw [hsplitB]
    exact checkedWrite_confined fs c.env A M c.rootSegs sid data R Bp .dir g hwf hroot
      hA hin hM (splitSlash_sanitized hs) p

/-- **write_confined.** The case `k = 0`: the configured base directory itself resolves to a
directory really inside `R`. -/
theorem write_confined (fs : FS) (c : Cfg) (id data : Str) (R Bp : PPath) (g : Nat)
    (hwf : fs.WF)
    (hroot : canon fs c.env c.rootSegs = some R)
    (hbase : walkP fs c.env true c.baseSegs = .found Bp .dir g)
    (hin : R <+: Bp) :
    ∀ p, (add fs c id data).2.look p ≠ fs.look p → R <+: p :=
  write_confined_missing_base fs c id data c.baseSegs [] R Bp g hwf hroot
    (List.append_nil _).symm nofun hbase hin

/-- **export_write_confined.** One item of `Reader::to_folder(dest)` — `write_bytes(uri_to_path(uri,
label)?, data)?` — with the destination folder resolving to the directory `R` (it does after the
initial `create_dir_all`): whatever the URI, the manifest label, the data and the symbolic links
already present in or below the folder, and whether it succeeds or fails half-way, every location
at which the tree differs afterwards is below `R`. -/
theorem export_write_confined (fs : FS) (env : Env) (dest : Segs) (uri : Str) (label : Option Str)
    (data : Str) (R : PPath) (g : Nat)
    (hwf : fs.WF) (hdest : walkP fs env true dest = .found R .dir g) :
    ∀ p, (exportItem fs env dest uri label data).2.look p ≠ fs.look p → R <+: p := by
  intro p
  fun_cases exportItem fs env dest uri label data
  case case1 => exact fun h => absurd rfl h
  case case2 rel hu =>
    obtain ⟨_, hp⟩ := uriToPath_sanitize hu
    have hroot : canon fs env dest = some R := by rw [canon, hdest]
    have := checkedWrite_confined fs env dest [] dest rel data R R .dir g hwf hroot hdest
      (List.prefix_refl R) nofun (splitSlash_sanitized hp) p
    rwa [List.append_nil] at this

/-! ### witnesses -/

/-- a decidable criterion for well-formedness of a concrete tree -/
theorem wf_of_nodes (nodes : List (PPath × Kind))
    (h : ∀ e ∈ nodes, e.1 = [] ∨ (FS.mk nodes).look e.1.dropLast = some .dir) :
    (FS.mk nodes).WF := by
  intro p n hne
  cases hl : (FS.mk nodes).look (p ++ [n]) with
  | none => exact absurd hl hne
  | some v =>
    obtain ⟨l₁, l₂, hn, _⟩ := List.lookup_eq_some_iff.1 hl
    change nodes = _ at hn
    rcases h (p ++ [n], v) (by rw [hn]; simp) with h1 | h1
    · simp at h1
    · simpa using h1

/-- `/r` and `/o` are directories, `/r/l -> /o` is a symbolic link inside `/r` leaving it -/
def fsW : FS :=
  ⟨[([], .dir), ([[114]], .dir), ([[111]], .dir), ([[114], [108]], .link [47, 111])]⟩
def envW : Env := { cwd := [], fuel := 16 }
/-- base path `/r`, root defaulting to it -/
def cfgW : Cfg := { env := envW, base := [47, 114], root := none }

theorem fsW_wf : fsW.WF := wf_of_nodes _ (by decide +kernel)

/-- `write_confined` is not vacuous: its hypotheses hold for `fsW`/`cfgW`, where
`add("x")` succeeds and creates `/r/x`. -/
example : canon fsW cfgW.env cfgW.rootSegs = some [[114]] ∧
    walkP fsW cfgW.env true cfgW.baseSegs = .found [[114]] .dir 14 ∧
    (add fsW cfgW [120] [1]).1 = .ok ∧
    (add fsW cfgW [120] [1]).2.look [[114], [120]] = some (.file [1]) := by decide +kernel

/-- `add("l/x")`, which would land in `/o` through the link, is refused and changes
nothing. -/
example : (add fsW cfgW [108, 47, 120] [1]).1 = .bad ∧
    (add fsW cfgW [108, 47, 120] [1]).2.look [[111], [120]] = none := by decide +kernel

/-- base path `/r/n/m`, root `/r` -/
def cfgM : Cfg := { env := envW, base := [47, 114, 47, 110, 47, 109], root := some [47, 114] }

/-- `write_confined_missing_base` is not vacuous: with neither `n` nor `m` there (`A = /r`,
`M = [n, m]`), `add("x")` creates `/r/n`, `/r/n/m` and the file. -/
example : cfgM.baseSegs = [[], [114]] ++ [[110], [109]] ∧
    walkP fsW cfgM.env true [[], [114]] = .found [[114]] .dir 14 ∧
    canon fsW cfgM.env cfgM.rootSegs = some [[114]] ∧
    (add fsW cfgM [120] [1]).1 = .ok ∧
    (add fsW cfgM [120] [1]).2.look [[114], [110], [109], [120]] = some (.file [1]) ∧
    (add fsW cfgM [120] [1]).2.look [[114], [110]] = some .dir := by decide +kernel

/-- With the base path `/r/l/m` (`l` the link to `/o`, `m` missing) `add("x")`, which
would create `/o/m/x`, is refused. -/
example : (add fsW { cfgM with base := [47, 114, 47, 108, 47, 109] } [120] [1]).1 = .bad := by decide +kernel

/-- `export_write_confined` is not vacuous: `to_folder("/r")` writes the item `x` to `/r/x`, and
refuses the item `l/x` (URI `self#jumbf=/c2pa/l/x`), which would land in `/o`. -/
example : walkP fsW envW true [[], [114]] = .found [[114]] .dir 14 ∧
    (exportItem fsW envW [[], [114]] [120] none [1]).1 = .ok ∧
    (exportItem fsW envW [[], [114]] [120] none [1]).2.look [[114], [120]] = some (.file [1]) ∧
    (exportItem fsW envW [[], [114]] (selfJumbf ++ c2paPrefix ++ [108, 47, 120]) none [1]).1 = .bad ∧
    (exportItem fsW envW [[], [114]] (selfJumbf ++ c2paPrefix ++ [108, 47, 120]) none [1]).2.look
      [[111], [120]] = none := by decide +kernel

/-- The check-free `join` + `create_dir_all` + `write` (`writeUnder`) is confined for every tree
and every sanitized relative path. -/
def UncheckedWriteConfined : Prop :=
  ∀ (fs : FS) (env : Env) (dest : Segs) (rel data : Str) (R : PPath),
    fs.WF → canon fs env dest = some R → sanitize rel = .ok rel →
    ∀ p, (writeUnder fs env dest rel data).2.look p ≠ fs.look p → R <+: p

/-- `UncheckedWriteConfined` fails: through the directory link `/r/l -> /o`, writing `l/x` below
`/r` creates `/o/x`.
(Replayed on the implementation by the harness: `f7_replay` for `add`, `tofolder_replay` for
`Reader::to_folder`; with the check both refuse — `write_confined`, `export_write_confined`.) -/
theorem unchecked_write_escapes : ¬ UncheckedWriteConfined := by
  intro h
  have := h fsW envW (splitSlash [47, 114]) [108, 47, 120] [1] [[114]] fsW_wf (by decide +kernel)
    (by rfl) [[111], [120]] (by decide +kernel)
  revert this
  decide +kernel

/-- Two trees that both resolve the root to `R` and agree on everything below `R` get the same
answer from the read-side operation `obs`: nothing about what exists outside the root shows. -/
def RevealsNothing {α : Type} (obs : FS → Cfg → Str → α) : Prop :=
  ∀ (fs fs' : FS) (c : Cfg) (id : Str) (R : PPath),
    fs.WF → fs'.WF → canon fs c.env c.rootSegs = some R → canon fs' c.env c.rootSegs = some R →
    (∀ p, R <+: p → fs.look p = fs'.look p) →
    obs fs c id = obs fs' c id

/-- the full "reveal the existence of" clause, for `path_for_id` -/
def ReadsRevealNothing : Prop := RevealsNothing pathForId

/-- `/r/k -> /o/s`; `/o/s` exists -/
def fsK1 : FS :=
  ⟨[([], .dir), ([[114]], .dir), ([[111]], .dir), ([[114], [107]], .link [47, 111, 47, 115]),
    ([[111], [115]], .file [7])]⟩
/-- the same without `/o/s` -/
def fsK2 : FS :=
  ⟨[([], .dir), ([[114]], .dir), ([[111]], .dir), ([[114], [107]], .link [47, 111, 47, 115])]⟩

theorem look_insert_ne (a b : List (PPath × Kind)) {q p : PPath} (k : Kind) (h : p ≠ q) :
    (FS.mk (a ++ (q, k) :: b)).look p = (FS.mk (a ++ b)).look p := by
  unfold FS.look
  rw [List.lookup_append, List.lookup_append, List.lookup_cons, beq_eq_false_iff_ne.2 h]

theorem fsK_agree : ∀ p, [[114]] <+: p → fsK1.look p = fsK2.look p :=
  fun _ ⟨_, ht⟩ => look_insert_ne fsK2.nodes [] _ (ht ▸ fun h => nomatch h)

theorem not_revealsNothing {α : Type} {obs : FS → Cfg → Str → α} {fs fs' : FS} {c : Cfg} {id : Str}
    {R : PPath} (hwf : fs.WF) (hwf' : fs'.WF) (hR : canon fs c.env c.rootSegs = some R)
    (hR' : canon fs' c.env c.rootSegs = some R) (hagree : ∀ p, R <+: p → fs.look p = fs'.look p)
    (hne : obs fs c id ≠ obs fs' c id) : ¬ RevealsNothing obs :=
  fun h => hne (h fs fs' c id R hwf hwf' hR hR' hagree)

theorem fsK_witness {α : Type} (obs : FS → Cfg → Str → α)
    (hne : obs fsK1 cfgW [107] ≠ obs fsK2 cfgW [107]) : ¬ RevealsNothing obs :=
  not_revealsNothing (R := [[114]]) (wf_of_nodes _ (by decide +kernel))
    (wf_of_nodes _ (by decide +kernel)) (by decide +kernel) (by decide +kernel) fsK_agree hne

/-- The code falsifies `ReadsRevealNothing`: `path_for_id("k")`, with `/r/k -> /o/s` planted in
the base directory `/r`, is `None` when `/o/s` exists and `Some("/r/k")` when it does not — the
existence of a file outside the root is revealed. (Replayed on the implementation by the
harness: `leak_replay` and the outside-existence probe, class `outside-existence-leak`.) What
does hold is `read_confined_*`: every positive answer is about a location below the real root. -/
theorem reads_reveal_outside_existence : ¬ ReadsRevealNothing :=
  fsK_witness pathForId (by decide +kernel)

theorem writeStream_fsK :
    writeStream fsK1 cfgW [107] = .notFound ∧ writeStream fsK2 cfgW [107] = .io := by
  decide +kernel

/-- `fsK1` and `fsK2` tell `write_stream("k")` apart: `ResourceNotFound` when `/o/s` exists
(`resolve_within_root` rejects the escaping link), `IoError` when it does not (the dangling link
passes and `File::open` fails). -/
theorem write_stream_reveals_outside_existence : ¬ RevealsNothing writeStream :=
  fsK_witness writeStream (by rw [writeStream_fsK.1, writeStream_fsK.2]; nofun)

example : writeStream fsK1 cfgW [107] = .notFound ∧ writeStream fsK2 cfgW [107] = .io :=
  writeStream_fsK

theorem get_fsK : get fsK1 cfgW [107] = .notFound [107] ∧
    get fsK2 cfgW [107] = .notFound [47, 114, 47, 107] := by
  decide +kernel

/-- `fsK1` and `fsK2` tell `get("k")` apart too: `ResourceNotFound("k")` when `/o/s` exists, `ResourceNotFound("/r/k")`
when it does not (the payload of the error differs). -/
theorem get_reveals_outside_existence : ¬ RevealsNothing get :=
  fsK_witness get (by rw [get_fsK.1, get_fsK.2]; nofun)

example : get fsK1 cfgW [107] = .notFound [107] ∧
    get fsK2 cfgW [107] = .notFound [47, 114, 47, 107] :=
  get_fsK

/-- `/r/k -> /o/l`, `/o/l -> /r/f`, `/r/f` a file: a chain that leaves the root and comes back -/
def fsE1 : FS :=
  ⟨[([], .dir), ([[114]], .dir), ([[111]], .dir), ([[114], [107]], .link [47, 111, 47, 108]),
    ([[111], [108]], .link [47, 114, 47, 102]), ([[114], [102]], .file [7])]⟩
/-- the same without the link `/o/l` outside the root -/
def fsE2 : FS :=
  ⟨[([], .dir), ([[114]], .dir), ([[111]], .dir), ([[114], [107]], .link [47, 111, 47, 108]),
    ([[114], [102]], .file [7])]⟩

theorem fsE_agree : ∀ p, [[114]] <+: p → fsE1.look p = fsE2.look p :=
  fun _ ⟨_, ht⟩ => look_insert_ne (fsE2.nodes.take 4) (fsE2.nodes.drop 4) _ (ht ▸ fun h => nomatch h)

theorem existsId_fsE : existsId fsE1 cfgW [107] = true ∧ existsId fsE2 cfgW [107] = false := by
  decide +kernel

/-- `exists` is not silent either: `exists("k")` is `true` when the link `/o/l` outside the root
is there (the chain ends at `/r/f`, inside) and `false` when it is not. (The simple case — a
link straight to a file outside — does not show through `exists`: it answers `false` both
times.) -/
theorem exists_reveals_outside_existence : ¬ RevealsNothing existsId :=
  not_revealsNothing (fs := fsE1) (fs' := fsE2) (c := cfgW) (id := [107]) (R := [[114]])
    (wf_of_nodes _ (by decide +kernel)) (wf_of_nodes _ (by decide +kernel))
    (by decide +kernel) (by decide +kernel) fsE_agree
    (by rw [existsId_fsE.1, existsId_fsE.2]; nofun)

example : existsId fsE1 cfgW [107] = true ∧ existsId fsE2 cfgW [107] = false ∧
    existsId fsK1 cfgW [107] = false ∧ existsId fsK2 cfgW [107] = false :=
  ⟨existsId_fsE.1, existsId_fsE.2, by decide +kernel, by decide +kernel⟩

end C2pa.C29
