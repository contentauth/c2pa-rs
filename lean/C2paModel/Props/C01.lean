import C2paModel.Lemmas.C01Data
import C2paModel.Lemmas.C01Rebase
import C2paModel.Lemmas.C01Box
import C2paModel.Props.C04
/-
C01 — tamper evidence of the asset content. The statement (properties.jsonl):

  For any asset signed by the SDK, any byte-level modification (flip, insertion, deletion,
  truncation, append) that leaves the reader reporting the manifest as Valid or Trusted must be
  confined to bytes that the signed hard-binding assertion itself declares excluded, and must
  leave the reported manifest content unchanged. Equivalently, the protected media content of a
  Valid asset is byte-identical to what was signed. This holds for every writable format and
  every hard-binding kind (data hash, box hash, BMFF hash, including update manifests).

Shape of the argument. The signed assertion fixes, under idealisation **H-free** (a digest is
its preimage; DESIGN §3), a byte string `pre` (per box for the box hash). The theorems say what
`verify… = ok` on an asset means in terms of that asset's bytes; two assets that verify against
the same signed assertion therefore agree on everything that is not declared excluded
(`…_binds`), and an asset that differs there does not verify (`…_detects`): the reader logs
`assertion.{dataHash,boxesHash,bmffHash}.mismatch`, a non-tolerated failure, and by C04 the
state is Invalid (`mismatch_code_invalid`; from the verdict of an arm: `rejected_logs_invalid`).

What is *not* in these theorems: that the report is unchanged when the modification lies inside
the excluded manifest store (that is C02), the per-format layout maps that produce the box map /
the BMFF exclusion list (C12 / C07; here they are inputs), Merkle-tree BMFF hashing (C16/C17).
The correspondence run checks the statement directly on the implementation for every writable
format × binding kind.

Map of the statements:
* data hash — `datahash_binds` / `datahash_detects` (length and bytes), `bindData_accepted_iff`,
  `tamper_detected_data` (verdict, logged code, Invalid);
* update manifest — `update_binds_positions` (length and bytes, for every store length the
  validated asset makes the reader find), on the closed form of the re-based list (`rebase_explicit`,
  `rebased_selects`; `rebase_sound_complete` states the two together);
* BMFF — `bmff_selected` (own resolved list), `bmff_binds_same_list` (length and bytes with
  offset markers, no length premise), `bmff_binds_whole`, `tamper_detected_bmff`;
* box hash — on any box map: `boxhash_protected`, `boxhash_binds_any_layout` (layout may move),
  `boxhash_extra_box_rejected_all`, `boxhash_length_fixed`; for the assertion form the SDK signs
  (one name per entry) with no layout hypothesis: `boxhash_every_byte`, `boxhash_binds_single`,
  `tamper_detected_box`; for grouped entries over a tiling map: `boxhash_binds`;
* verdict → code → state for all three arms: `bind{Data,Box,Bmff}_accepted_iff`,
  `rejected_logs_invalid`.
Of these, the three re-basing statements are in Lemmas/C01Rebase.lean and the box-hash statements
other than `boxhash_binds` and `tamper_detected_box` are in Lemmas/C01Box.lean.
-/
namespace C2pa.C01
open C2pa.C13

/-! ### data hash -/

theorem verifyData_ok {dh : DataHash} {calg : Option String} {a : List UInt8} {buf : Nat}
    (h : verifyData dh calg a buf = .ok) :
    dh.remote = false ∧ ∃ alg prog, hashModel alg a dh.excl true buf none = .ok dh.pre prog := by
  unfold verifyData at h
  split at h
  · cases h
  · next hr =>
    split at h
    · cases h
    · next alg _ => exact ⟨Bool.eq_false_iff.2 hr, alg, compareHash_ok h⟩

/-- **Data hash, selection form.** If verification succeeds with a non-empty signed exclusion
list, the bytes of the asset selected by the position-wise specification (every position not
covered by an exclusion, in order) are exactly the signed preimage, and every exclusion lies
inside the asset. -/
theorem datahash_selected (dh : DataHash) (calg : Option String) (a : List UInt8) (buf : Nat)
    (ex : List HashRange) (hex : dh.excl = some ex) (hne : ex ≠ [])
    (h : verifyData dh calg a buf = .ok) : exclSpec a ex = dh.pre ∧ Within ex a.length := by
  obtain ⟨_, alg, prog, hh⟩ := verifyData_ok h
  rw [hex] at hh
  exact ⟨(excl_digest alg a ex buf none dh.pre prog hne hh).symm, hashModel_ok_within hh⟩

/-- Two assets that verify against the same signed data hash (H-free) have
the same length and the same byte at every position that no signed exclusion covers. Trailing
data, insertions and deletions change the length or shift a non-excluded byte, so they are
covered by this statement: nothing outside the declared exclusions can differ. -/
theorem datahash_binds (dh : DataHash) (calg calg' : Option String) (a a' : List UInt8)
    (buf buf' : Nat) (ex : List HashRange) (hex : dh.excl = some ex) (hne : ex ≠ [])
    (hp : Plain ex) (h : verifyData dh calg a buf = .ok) (h' : verifyData dh calg' a' buf' = .ok) :
    a.length = a'.length ∧ ∀ x, excluded ex x = false → a[x]? = a'[x]? := by
  obtain ⟨h1, w1⟩ := datahash_selected dh calg a buf ex hex hne h
  obtain ⟨h2, w2⟩ := datahash_selected dh calg' a' buf' ex hex hne h'
  exact exclSpec_plain_binds a a' ex hp w1 w2 (h1.trans h2.symm)

/-- without exclusions (`None` or an empty list — sidecar / remote manifests) the whole asset
is the preimage: the two assets are equal -/
theorem datahash_binds_whole (dh : DataHash) (calg calg' : Option String) (a a' : List UInt8)
    (buf buf' : Nat) (hex : dh.excl = none ∨ dh.excl = some [])
    (h : verifyData dh calg a buf = .ok) (h' : verifyData dh calg' a' buf' = .ok) : a = a' := by
  obtain ⟨_, alg, prog, hh⟩ := verifyData_ok h
  obtain ⟨_, alg', prog', hh'⟩ := verifyData_ok h'
  have e1 := whole_digest alg a dh.excl true buf none dh.pre prog hex hh
  have e2 := whole_digest alg' a' dh.excl true buf' none dh.pre prog' hex hh'
  exact e1.symm.trans e2

/-- Contrapositive of `datahash_binds`: if the signed asset verifies, any asset that
differs from it in length or at a non-excluded position does not verify. -/
theorem datahash_detects (dh : DataHash) (calg calg' : Option String) (a a' : List UInt8)
    (buf buf' : Nat) (ex : List HashRange) (hex : dh.excl = some ex) (hne : ex ≠ [])
    (hp : Plain ex) (h : verifyData dh calg a buf = .ok)
    (hd : a.length ≠ a'.length ∨ ∃ x, excluded ex x = false ∧ a[x]? ≠ a'[x]?) :
    verifyData dh calg' a' buf' ≠ .ok := by
  intro h'
  obtain ⟨hl, hb⟩ := datahash_binds dh calg calg' a a' buf buf' ex hex hne hp h h'
  rcases hd with hd | ⟨x, hx, hne'⟩
  · exact hd hl
  · exact hne' (hb x hx)

/-! ### how an arm of `verify_hash_binding` maps the verifier's result; the data-hash arm -/

/-- the arm logged the `match` success entry -/
def Verdict.accepted : Verdict → Bool
  | .matched _ => true
  | _ => false

theorem verdictOf_accepted_iff (r : VRes) (e : Bool) :
    (verdictOf r e).accepted = true ↔ r = .ok := by
  unfold verdictOf; split <;> simp_all [Verdict.accepted]

theorem verdictOf_fatal {r : VRes} {e : Bool} (h : verdictOf r e = .fatal) :
    r = .err (.hash .io) ∨ r = .err (.hash .cancelled) := by
  unfold verdictOf at h; split at h <;> simp_all

theorem verdictOf_ne_malformed (r : VRes) (e : Bool) : verdictOf r e ≠ .malformed := by
  unfold verdictOf; split <;> nofun

/-- the exclusion list the data-hash arm verifies with, the `ex'` of `bindData` (`none`: the
re-basing overflowed) -/
def effExcl (dh : DataHash) (upd : Bool) (range : Option HashRange) :
    Option (Option (List HashRange)) :=
  if upd then
    match dh.excl with
    | some ex => (rebase ex range).map some
    | none => some none
  else some dh.excl

/-- the `extra` of `bindData` -/
def extraOf : Option (List HashRange) → Bool
  | some l => decide (l.length > 1)
  | none => false

/-- the data-hash arm maps the verifier's result exactly like the other two arms -/
theorem bindData_eq (dh : DataHash) (calg : Option String) (upd : Bool) (range : Option HashRange)
    (a : List UInt8) (buf : Nat) :
    bindData dh calg upd range a buf =
      match effExcl dh upd range with
      | none => .panic
      | some excl =>
        if dh.remote then .mismatched false
        else verdictOf (verifyData { dh with excl := excl } calg a buf) (extraOf excl) :=
  rfl

/-- **iff-characterisation of `match`, data hash** (all of: plain, update manifest, remote) -/
theorem bindData_accepted_iff (dh : DataHash) (calg : Option String) (upd : Bool)
    (range : Option HashRange) (a : List UInt8) (buf : Nat) :
    (bindData dh calg upd range a buf).accepted = true ↔
      ∃ excl, effExcl dh upd range = some excl ∧
        verifyData { dh with excl := excl } calg a buf = .ok := by
  rw [bindData_eq]
  cases effExcl dh upd range with
  | none => simp [Verdict.accepted]
  | some excl =>
    simp only [Option.some.injEq, exists_eq_left']
    by_cases hr : dh.remote = true
    · simp only [hr, if_true, Verdict.accepted, Bool.false_eq_true, false_iff]
      intro hv
      cases (verifyData_ok hv).1
    · simp only [hr, Bool.false_eq_true, if_false]
      exact verdictOf_accepted_iff _ _

theorem bindData_matched {dh : DataHash} {calg : Option String} {upd : Bool}
    {range : Option HashRange} {a : List UInt8} {buf : Nat} {e : Bool}
    (h : bindData dh calg upd range a buf = .matched e) :
    ∃ excl, verifyData { dh with excl := excl } calg a buf = .ok ∧
      ((upd = false ∧ excl = dh.excl) ∨
       (upd = true ∧ dh.excl = none ∧ excl = none) ∨
       (upd = true ∧ ∃ ex ex', dh.excl = some ex ∧ rebase ex range = some ex' ∧ excl = some ex')) := by
  obtain ⟨excl, he, hv⟩ := (bindData_accepted_iff dh calg upd range a buf).1 (by rw [h]; rfl)
  refine ⟨excl, hv, ?_⟩
  unfold effExcl at he
  cases upd with
  | false => exact .inl ⟨rfl, (Option.some.inj he).symm⟩
  | true =>
    rw [if_pos rfl] at he
    cases hx : dh.excl with
    | none => simp only [hx] at he; exact .inr (.inl ⟨rfl, rfl, (Option.some.inj he).symm⟩)
    | some ex =>
      simp only [hx] at he
      obtain ⟨ex', hr, he⟩ := Option.map_eq_some_iff.1 he
      exact .inr (.inr ⟨rfl, ex, ex', rfl, hr, he.symm⟩)

/-! ### update manifests: re-based exclusions select the signed bytes -/

/-- **Update manifest, byte level** (hypotheses on `ex` as in `rebase_sound_complete`: marker-free,
store not at offset 0 and not empty, no other entry straddles it, no `u64` overflow). The original asset
`pre ++ M ++ post` verifies against the signed list `ex`; the reader finds the manifest store of
the validated asset `b` at the same offset `|pre|` with *any* length `|M'| ≥ |M|` (the range is
recomputed from `b`, so the party that produced `b` chooses it) and `verify_hash_binding` logs
`match` on the re-based list `ex'`. Then `b` has exactly the length `|pre| + |M'| + |post|` and
at every position that `ex'` does not exclude — i.e. outside the store range `(|pre|, |M'|)` and
outside the other signed exclusions moved by the growth of the store — it carries the signed
byte: whatever `M'` is, `b` agrees with `pre ++ M' ++ post`. `ex'` is marker-free and its only
entry that is not a (shifted) signed exclusion is the store range itself. -/
theorem update_binds_positions (dh : DataHash) (calg calg' : Option String)
    (pre M M' post b : List UInt8)
    (buf buf' : Nat) (ex : List HashRange) (hex : dh.excl = some ex) (hp : Plain ex)
    (hpre : 0 < pre.length) (hM0 : 0 < M.length) (hM : M.length ≤ M'.length)
    (i : Nat) (hfind : findStart pre.length ex = some i)
    (hi : ex[i]? = some ⟨pre.length, M.length, none⟩)
    (hother : ∀ j r, ex[j]? = some r → j ≠ i →
      r.length = 0 ∨ r.start + r.length ≤ pre.length ∨ pre.length + M.length ≤ r.start)
    (hfit : ∀ r ∈ ex, r.start + (M'.length - M.length) ≤ u64Max)
    (h : verifyData dh calg (pre ++ M ++ post) buf = .ok)
    (e : Bool) (h' : bindData dh calg' true (some ⟨pre.length, M'.length, none⟩) b buf' = .matched e) :
    ∃ ex', rebase ex (some ⟨pre.length, M'.length, none⟩) = some ex' ∧
      ex' = (setAt ⟨pre.length, M'.length, none⟩ i ex).map (shiftOne pre.length (M'.length - M.length)) ∧
      Plain ex' ∧
      b.length = (pre ++ M' ++ post).length ∧
      ∀ x, excluded ex' x = false → b[x]? = (pre ++ M' ++ post)[x]? := by
  have hin : (⟨pre.length, M.length, none⟩ : HashRange) ∈ ex := List.mem_of_getElem? hi
  have hr := rebase_explicit pre.length M.length M'.length ex hpre i hfind hi hfit
  have hplain := rebased_plain pre.length M'.length (M'.length - M.length) i ex hp
  refine ⟨_, hr, rfl, hplain, ?_⟩
  obtain ⟨h1, w0⟩ := datahash_selected dh calg _ buf ex hex (List.ne_nil_of_mem hin) h
  -- `b` verified with the re-based list
  obtain ⟨excl, he, hv⟩ := (bindData_accepted_iff dh calg' true _ b buf').1 (by rw [h']; rfl)
  simp only [effExcl, if_true, hex, hr, Option.map_some, Option.some.injEq] at he
  subst he
  obtain ⟨h2, hw2⟩ := datahash_selected { dh with excl := some _ } calg' b buf' _ rfl
    (fun hnil => List.ne_nil_of_mem hin (List.eq_nil_of_length_eq_zero (by
      rw [← setAt_length _ i ex, ← List.length_map (shiftOne _ _), hnil]; rfl))) hv
  exact exclSpec_plain_binds b (pre ++ M' ++ post) _ hplain hw2
    (rebased_within _ _ _ _ _ i ex hM (by simp only [List.length_append]; omega) hin w0)
    (by rw [h2, rebased_selects pre M M' post ex hp hM0 hM i hi hother, h1])

/-- non-vacuity of the hypothesis set of `update_binds_positions`: a store that
grew from 3 to 5 bytes at offset 2, with a second signed exclusion behind it -/
example : ∃ ex', rebase [⟨2, 3, none⟩, ⟨6, 1, none⟩] (some ⟨2, 5, none⟩) = some ex' ∧
    ([10, 11, 1, 2, 3, 4, 5, 15, 77, 17] : List UInt8).length = 10 ∧
    ∀ x, excluded ex' x = false →
      ([10, 11, 1, 2, 3, 4, 5, 15, 77, 17] : List UInt8)[x]? =
        (([10, 11] : List UInt8) ++ [0, 0, 0, 0, 0] ++ [15, 16, 17])[x]? := by
  have := update_binds_positions ⟨false, some "sha256", some [⟨2, 3, none⟩, ⟨6, 1, none⟩], [10, 11, 15, 17]⟩
    none none [10, 11] [12, 13, 14] [0, 0, 0, 0, 0] [15, 16, 17] [10, 11, 1, 2, 3, 4, 5, 15, 77, 17] 3 4
    [⟨2, 3, none⟩, ⟨6, 1, none⟩] rfl
    (by intro r hr; simp at hr; rcases hr with rfl | rfl <;> rfl)
    (by decide) (by decide) (by decide) 0 (by decide) (by decide)
    (by
      intro j r hj hne
      match j, hj, hne with
      | 0, _, hne => exact absurd rfl hne
      | 1, hj, _ => cases hj; exact Or.inr (Or.inr (by decide))
      | j + 2, hj, _ => cases hj)
    (by intro r hr; simp at hr; rcases hr with rfl | rfl <;> decide)
    (by decide +kernel) true (by decide +kernel)
  obtain ⟨ex', hr, _, _, hl, hb⟩ := this
  exact ⟨ex', hr, by decide, hb⟩

/-! ### BMFF file-level hash -/

theorem verifyBmff_ok {pre : List UInt8} {alg : String} {ex : List HashRange} {a : List UInt8}
    {buf : Nat} (h : verifyBmff pre alg (some ex) a buf = .ok) :
    ∃ prog, hashModel alg a (some ex) true buf none = .ok pre prog :=
  compareHash_ok h

/-- **BMFF hash, selection form.** A successful file-level BMFF verification means the
position-wise selection (with the 8-byte offset markers) of the asset under the exclusion list
*resolved on that asset* is the signed preimage. (Every resolved range lies inside the asset:
`bmff_within`.) -/
theorem bmff_selected (pre : List UInt8) (alg : String) (ex : List HashRange) (a : List UInt8)
    (buf : Nat) (hne : ex ≠ []) (h : verifyBmff pre alg (some ex) a buf = .ok) :
    exclSpec a ex = pre :=
  let ⟨prog, hp⟩ := verifyBmff_ok h
  (excl_digest alg a ex buf none pre prog hne hp).symm

theorem bmff_within (pre : List UInt8) (alg : String) (ex : List HashRange) (a : List UInt8)
    (buf : Nat) (h : verifyBmff pre alg (some ex) a buf = .ok) : Within ex a.length :=
  let ⟨_, hp⟩ := verifyBmff_ok h
  hashModel_ok_within hp

/-- Two assets that verify against the same signed BMFF hash have equal
selections under their own resolved exclusions; when the resolved lists coincide and the
lengths are equal (the layout did not move) they agree at every position that is not excluded. -/
theorem bmff_binds (pre : List UInt8) (alg alg' : String) (ex ex' : List HashRange)
    (a a' : List UInt8) (buf buf' : Nat) (hne : ex ≠ []) (hne' : ex' ≠ [])
    (h : verifyBmff pre alg (some ex) a buf = .ok)
    (h' : verifyBmff pre alg' (some ex') a' buf' = .ok) :
    exclSpec a ex = exclSpec a' ex' ∧
      (ex = ex' → a.length = a'.length → ∀ x, excluded ex x = false → a[x]? = a'[x]?) := by
  have h1 := bmff_selected pre alg ex a buf hne h
  have h2 := bmff_selected pre alg' ex' a' buf' hne' h'
  refine ⟨h1.trans h2.symm, ?_⟩
  intro he hl
  subst he
  exact exclSpec_eq_bytes a a' ex hl (h1.trans h2.symm)

/-- When the resolver returns the same list for both assets (the
box layout did not move: flips, and appended / removed bytes the resolver does not see), two
assets that verify against the same signed BMFF hash have the *same length* and the same byte at
every position that is not excluded — offset markers included, with no premise on the lengths.
`hany`: some byte of each asset is hashed (true of every BMFF asset: the exclusions are the
C2PA `uuid` box and a few named boxes). -/
theorem bmff_binds_same_list (pre : List UInt8) (alg alg' : String) (ex : List HashRange)
    (a a' : List UInt8) (buf buf' : Nat) (hne : ex ≠ [])
    (hany : ∃ y, y < a.length ∧ excluded ex y = false)
    (hany' : ∃ y, y < a'.length ∧ excluded ex y = false)
    (h : verifyBmff pre alg (some ex) a buf = .ok)
    (h' : verifyBmff pre alg' (some ex) a' buf' = .ok) :
    a.length = a'.length ∧ ∀ x, excluded ex x = false → a[x]? = a'[x]? := by
  have h1 := bmff_selected pre alg ex a buf hne h
  have h2 := bmff_selected pre alg' ex a' buf' hne h'
  have hl := exclSpec_markers_length a a' ex (bmff_within pre alg ex a buf h)
    (bmff_within pre alg' ex a' buf' h') hany hany' (h1.trans h2.symm)
  exact ⟨hl, exclSpec_eq_bytes a a' ex hl (h1.trans h2.symm)⟩

/-- contrapositive: under an unchanged resolved list, a change of length (append, truncate) or
of a non-excluded byte is rejected -/
theorem bmff_detects_same_list (pre : List UInt8) (alg alg' : String) (ex : List HashRange)
    (a a' : List UInt8) (buf buf' : Nat) (hne : ex ≠ [])
    (hany : ∃ y, y < a.length ∧ excluded ex y = false)
    (hany' : ∃ y, y < a'.length ∧ excluded ex y = false)
    (h : verifyBmff pre alg (some ex) a buf = .ok)
    (hd : a.length ≠ a'.length ∨ ∃ x, excluded ex x = false ∧ a[x]? ≠ a'[x]?) :
    verifyBmff pre alg' (some ex) a' buf' ≠ .ok := by
  intro h'
  obtain ⟨hl, hb⟩ := bmff_binds_same_list pre alg alg' ex a a' buf buf' hne hany hany' h h'
  rcases hd with hd | ⟨x, hx, hne'⟩
  · exact hd hl
  · exact hne' (hb x hx)

/-- an empty resolved list (no box of the asset matches any exclusion path): the whole asset is
the preimage, so the two assets are equal -/
theorem bmff_binds_whole (pre : List UInt8) (alg alg' : String) (a a' : List UInt8) (buf buf' : Nat)
    (h : verifyBmff pre alg (some []) a buf = .ok)
    (h' : verifyBmff pre alg' (some []) a' buf' = .ok) : a = a' := by
  obtain ⟨prog, hp⟩ := verifyBmff_ok h
  obtain ⟨prog', hp'⟩ := verifyBmff_ok h'
  have e1 := whole_digest alg a (some []) true buf none pre prog (Or.inr rfl) hp
  have e2 := whole_digest alg' a' (some []) true buf' none pre prog' (Or.inr rfl) hp'
  exact e1.symm.trans e2

/-! ### BMFF exclusion resolution: a box shorter than the data pattern -/

/-- **A box shorter than a data pattern never satisfies the assertion's exclusion**: the
wording "bytes `offset ..` of the box equal `value`" cannot hold when the pattern does not fit. -/
theorem short_box_never_declared (file : List UInt8) (boxStart boxLen : Nat) (dms : List DataMap)
    (dm : DataMap) (hm : dm ∈ dms) (hs : boxLen < dm.off + dm.value.length) :
    dataMapsSpec file boxStart boxLen dms = false := by
  unfold dataMapsSpec
  rw [List.all_eq_false]
  exact ⟨dm, hm, by simp; intro h; omega⟩

/-- what a match of the code's loop means: every pattern equals the *file* bytes at
`boxStart + offset` (inside the box or not) -/
theorem dataMapsCode_match (file : List UInt8) (boxStart : Nat) : ∀ (dms : List DataMap),
    dataMapsCode file boxStart dms = some true →
    ∀ dm ∈ dms, (file.drop (boxStart + dm.off)).take dm.value.length = dm.value
  | [], _, dm, hm => by cases hm
  | d :: rest, h, dm, hm => by
    unfold dataMapsCode at h
    split at h
    · cases h
    · split at h
      · rename_i heq
        rcases List.mem_cons.1 hm with rfl | hm'
        · exact heq
        · exact dataMapsCode_match file boxStart rest h dm hm'
      · cases h

/-- **Code vs wording.** When every pattern fits in the box and the box lies inside the file, the
code's loop decides exactly the assertion's wording. (When one does not fit the code compares against the bytes that follow the
box; by `dataMapsCode_match` a match then forces those bytes and every byte of the box from
`offset` on to be pattern bytes — for the C2PA entry, offset 8 right after the box header, such a
box has no free byte.) -/
theorem dataMapsCode_spec (file : List UInt8) (boxStart boxLen : Nat) :
    ∀ (dms : List DataMap), (∀ dm ∈ dms, dm.off + dm.value.length ≤ boxLen) →
    boxStart + boxLen ≤ file.length →
    dataMapsCode file boxStart dms = some (dataMapsSpec file boxStart boxLen dms)
  | [], _, _ => rfl
  | d :: rest, hfit, hin => by
    have h1 := hfit d List.mem_cons_self
    have ih := dataMapsCode_spec file boxStart boxLen rest
      (fun dm hm => hfit dm (List.mem_cons_of_mem _ hm)) hin
    unfold dataMapsCode
    rw [if_neg (by omega)]
    by_cases he : (file.drop (boxStart + d.off)).take d.value.length = d.value
    · rw [if_pos he, ih]
      simp [dataMapsSpec, he, h1]
    · rw [if_neg he]
      simp [dataMapsSpec, he]

/-- the C2PA entry on a 23-byte `uuid` box: no match by the wording, whatever the bytes are -/
example (file : List UInt8) (st : Nat) (v : List UInt8) (hv : v.length = 16) :
    dataMapsSpec file st 23 [⟨8, v⟩] = false :=
  short_box_never_declared file st 23 _ ⟨8, v⟩ List.mem_cons_self (by simp [hv])

/-- a failing exclusion resolver is a verification failure -/
theorem bmff_resolver_failure (pre : List UInt8) (alg : String) (a : List UInt8) (buf : Nat) :
    verifyBmff pre alg none a buf = .err .handler := rfl

/-! ### box hash (the statements on any box map or with single-name entries: Lemmas/C01Box.lean) -/

/-- Grouped entries, tiling box map. Two assets that verify against the
same signed box hash under the same tiling box map have the same length (unless the asset is
nothing but the manifest store) and agree at every position outside the C2PA / excluded entries
(and outside a PNG signature box the assertion does not list — its eight bytes are fixed by the
format). Entries may list several names. The consumed-all and coverage checks are what
make this true: see `boxhash_needs_cover` below for the variant without them. For single-name
entries no tiling is needed (`boxhash_binds_single`); when the box map moves,
`boxhash_binds_any_layout`. -/
theorem boxhash_binds (boxes : List BoxEntry) (calg calg' : Option String) (src : List SrcBox)
    (a a' : List UInt8) (buf buf' : Nat)
    (hw : Tiles src 0 a.length) (hn : a.length ≤ u64Max)
    (h : verifyBox boxes calg (some src) a buf = .ok)
    (h' : verifyBox boxes calg' (some src) a' buf' = .ok) :
    (onlyC2pa src = false → a.length = a'.length) ∧
    ∃ sts, spansOf src boxes (idx0 boxes src) = .ok sts ∧
      ∀ x, x < a.length → unprotected boxes sts x = false → inSkippedPngh boxes src x = false →
        a[x]? = a'[x]? :=
  ⟨fun hno => boxhash_length_fixed boxes calg calg' src a a' buf buf' hno h h',
   boxhash_agree_mono boxes calg calg' src a a' buf buf' (fun _ _ i => EndsMono.of_tiles hw i _)
     (tiles_coverLoop src 0 a.length hw hn) h h'⟩

/-- the box-hash verification without the consumed-all / coverage checks (c2pa-rs before the
fix of F5) -/
def verifyBoxUnchecked (boxes : List BoxEntry) (claimAlg : Option String) (src : List SrcBox)
    (data : List UInt8) (buf : Nat) : VRes :=
  if boxes.isEmpty then .err .noBoxes
  else
    match boxLoop src claimAlg data buf boxes (idx0 boxes src) with
    | .error e => .err e
    | .ok _ => .ok

def f5Src : List SrcBox := [⟨["IHDR"], 0, 2⟩, ⟨["C2PA"], 2, 1⟩, ⟨["IEND"], 3, 2⟩]
def f5Boxes : List BoxEntry :=
  [⟨["IHDR"], some "sha256", [1, 2], none⟩, ⟨["C2PA"], none, [], none⟩,
   ⟨["IEND"], some "sha256", [4, 5], none⟩]

/-- F5 (DESIGN §5) on the model (a sample; the general statements are
`boxhash_length_fixed` / `boxhash_append_rejected_all` / `boxhash_extra_box_rejected_all` in
Lemmas/C01Box.lean): the handler box map stops at the last chunk, and without the checks
appended bytes verify. -/
theorem boxhash_needs_cover :
    verifyBoxUnchecked f5Boxes none f5Src [1, 2, 9, 4, 5, 0xde, 0xad] 4 = .ok := by decide +kernel

/-- with the checks the asset of `boxhash_needs_cover` is rejected -/
theorem boxhash_append_rejected :
    verifyBox f5Boxes none (some f5Src) [1, 2, 9, 4, 5, 0xde, 0xad] 4 = .err .unconsumed := by
  decide +kernel

/-- a box that the assertion does not list (a well-formed extra chunk after the last listed one)
is rejected -/
theorem boxhash_extra_box_rejected :
    verifyBox f5Boxes none (some (f5Src ++ [⟨["tEXt"], 5, 2⟩])) [1, 2, 9, 4, 5, 0xde, 0xad] 4 =
      .err .unknownBox := by decide +kernel

/-! ### composition with C04: a mismatch makes the manifest Invalid -/

def cDataMismatch : C04.Code := "assertion.dataHash.mismatch".toList
def cBoxMismatch : C04.Code := "assertion.boxesHash.mismatch".toList
def cBmffMismatch : C04.Code := "assertion.bmffHash.mismatch".toList

/-- The tolerated failure codes are `signingCredential.untrusted` and those with prefix
`cawg.x509.`: a code that starts with `a` (every `assertion.…` code) is not among them. Stated
on `String.ofList` so that a string literal matches it without being evaluated. -/
theorem a_code_not_tolerated (t : List Char) : C04.tolerated (String.ofList ('a' :: t)).toList = false := by
  obtain ⟨u, hu⟩ : ∃ u, C04.cUntrusted = 's' :: u := ⟨_, String.toList_ofList⟩
  obtain ⟨p, hp⟩ : ∃ p, C04.cawgX509Prefix = 'c' :: p := ⟨_, String.toList_ofList⟩
  rw [String.toList_ofList, C04.tolerated, hu, hp]
  simp [List.isPrefixOf]

/-- Detection ⇒ Invalid. The three hard-binding mismatch codes are not tolerated failure
codes; logging any of them (active manifest or ingredient delta) gives `Invalid`, whatever else
the results contain. -/
theorem mismatch_code_invalid (r : C04.Results) (s : C04.Status) (hk : s.kind = .failure)
    (hc : s.code = cDataMismatch ∨ s.code = cBoxMismatch ∨ s.code = cBmffMismatch) :
    C04.state (C04.addStatus r s) = .invalid := by
  apply C04.add_nontolerated_failure_invalid r s hk
  rcases hc with h | h | h <;> rw [h] <;> exact a_code_not_tolerated _

/-! ### the verdict of `verify_hash_binding`, what it logs, and the validation state -/

/-- **iff-characterisation of `match`, box hash** -/
theorem bindBox_accepted_iff (hh : Bool) (boxes : List BoxEntry) (calg : Option String)
    (src : Option (List SrcBox)) (a : List UInt8) (buf : Nat) :
    (bindBox hh boxes calg src a buf).accepted = true ↔
      hh = true ∧ verifyBox boxes calg src a buf = .ok := by
  unfold bindBox
  cases hh with
  | false => simp [Verdict.accepted]
  | true => simpa using verdictOf_accepted_iff _ _

/-- **iff-characterisation of `match`, BMFF hash** -/
theorem bindBmff_accepted_iff (self : BmffSelf) (pre : List UInt8) (alg : String)
    (resolved : Option (List HashRange)) (a : List UInt8) (buf : Nat) :
    (bindBmff self pre alg resolved a buf).accepted = true ↔
      self = .ok ∧ verifyBmff pre alg resolved a buf = .ok := by
  unfold bindBmff
  cases self with
  | ok => simpa using verdictOf_accepted_iff _ _
  | remote => simp [Verdict.accepted]
  | malformed => simp [Verdict.accepted]

/-- **Not `match` ⇒ Invalid, through the verdict.** Whatever a hard-binding arm logs when its
verdict is not `match` is a failure entry whose code is not tolerated: with it in the results
(active manifest or ingredient delta) the validation state is `Invalid`, whatever else they
contain. When the arm logs nothing (`fatal` / `panic`) the validation call itself fails: there is
no report. Covers `assertion.{dataHash,boxesHash,bmffHash}.mismatch` and `.malformed`. -/
theorem rejected_logs_invalid (k : Kind) (v : Verdict) (hv : v.accepted = false)
    (c : String) (f : Bool) (hl : v.logged k = some (c, f)) :
    f = true ∧ ∀ (r : C04.Results) (uri : Option (List Char)),
      C04.state (C04.addStatus r ⟨c.toList, .failure, uri⟩) = .invalid := by
  have hfail : f = true ∧ C04.tolerated c.toList = false := by
    cases v with
    | matched e => cases hv
    | fatal => cases hl
    | panic => cases hl
    | mismatched e => cases k <;> cases hl <;> exact ⟨rfl, a_code_not_tolerated _⟩
    | malformed => cases k <;> cases hl <;> exact ⟨rfl, a_code_not_tolerated _⟩
  exact ⟨hfail.1, fun r uri => C04.add_nontolerated_failure_invalid r _ rfl hfail.2⟩

/-- two rows of the model's table `Verdict.logged` (that they are the reader's codes is checked by the
correspondence run, not here) -/
example : (Verdict.mismatched false).logged .box = some ("assertion.boxesHash.mismatch", true) := rfl
example : Verdict.malformed.logged .bmff = some ("assertion.bmffHash.malformed", true) := rfl

/-! ### no fatal error on an in-memory stream (`tamper_detected_data` uses it to name the verdict) -/

/-- the range hasher without a cancellation callback never fails with an I/O error or a
cancellation: the arms' `fatal` branch is unreachable on an in-memory stream -/
theorem compareHash_not_fatal (pre : List UInt8) (alg : String) (a : List UInt8)
    (hr : Option (List HashRange)) (isExcl : Bool) (buf : Nat) (hlen : a.length ≤ u64Max)
    (hb : 0 < buf) :
    compareHash pre (hashModel alg a hr isExcl buf none) ≠ .err (.hash .io) ∧
    compareHash pre (hashModel alg a hr isExcl buf none) ≠ .err (.hash .cancelled) := by
  constructor
  · intro h
    obtain ⟨p, hp⟩ := compareHash_hash_err h
    rcases hashModel_err_cases hlen hb hp with e | ⟨_, _, _, e, _⟩ <;> cases e
  · intro h
    obtain ⟨p, hp⟩ := compareHash_hash_err h
    -- a cancellation needs a cancellation point, and here there is none
    rcases hashModel_err_cases hlen hb hp with e | ⟨_, _, _, _, _, _, _, hc⟩
    · cases e
    · exact nomatch hc

theorem verifyData_not_fatal (dh : DataHash) (calg : Option String) (a : List UInt8) (buf : Nat)
    (hlen : a.length ≤ u64Max) (hb : 0 < buf) :
    verifyData dh calg a buf ≠ .err (.hash .io) ∧ verifyData dh calg a buf ≠ .err (.hash .cancelled) := by
  unfold verifyData
  split
  · exact ⟨nofun, nofun⟩
  · split
    · exact ⟨nofun, nofun⟩
    · exact compareHash_not_fatal _ _ _ _ _ _ hlen hb

/-- the data-hash arm on an in-memory stream never returns the `fatal` verdict (which of the other
verdicts it returns is not said here; the aborts the model has are C13's and, with `upd = true`, the
`u64` overflow of the re-basing `+`, `effExcl = none`) -/
theorem bindData_not_fatal (dh : DataHash) (calg : Option String) (upd : Bool)
    (range : Option HashRange) (a : List UInt8) (buf : Nat) (hlen : a.length ≤ u64Max)
    (hb : 0 < buf) : bindData dh calg upd range a buf ≠ .fatal := by
  rw [bindData_eq]
  cases effExcl dh upd range with
  | none => simp
  | some excl =>
    simp only
    split
    · simp
    · intro hf
      have := verifyData_not_fatal { dh with excl := excl } calg a buf hlen hb
      rcases verdictOf_fatal hf with h | h
      · exact this.1 h
      · exact this.2 h

theorem bindData_ne_malformed (dh : DataHash) (calg : Option String) (upd : Bool)
    (range : Option HashRange) (a : List UInt8) (buf : Nat) :
    bindData dh calg upd range a buf ≠ .malformed := by
  rw [bindData_eq]
  cases effExcl dh upd range with
  | none => intro h; cases h
  | some excl =>
    simp only
    split
    · intro h; cases h
    · exact verdictOf_ne_malformed _ _

/-- **Tamper evidence for the data hash, end to end on the model** (no update manifest active:
`upd = false`; in-memory stream within `u64`, chunk size ≥ 1). The signed asset verifies; a
modified asset differs in length or at a non-excluded position. Then the verdict of
`verify_hash_binding` on the modified asset is not `match`; it is the `mismatch` verdict or `panic`
(any abort of the model: the statement does not say which), and what the verdict logs — the failure
`assertion.dataHash.mismatch` — makes the validation state Invalid. -/
theorem tamper_detected_data (dh : DataHash) (calg calg' : Option String) (a a' : List UInt8)
    (buf buf' : Nat) (ex : List HashRange) (hex : dh.excl = some ex) (hne : ex ≠ [])
    (hp : Plain ex) (h : verifyData dh calg a buf = .ok)
    (hd : a.length ≠ a'.length ∨ ∃ x, excluded ex x = false ∧ a[x]? ≠ a'[x]?)
    (hlen : a'.length ≤ u64Max) (hb : 0 < buf') :
    let v := bindData dh calg' false none a' buf'
    v.accepted = false ∧ ((∃ e, v = .mismatched e) ∨ v = .panic) ∧
    ∀ c f, v.logged .data = some (c, f) →
      c = "assertion.dataHash.mismatch" ∧ f = true ∧
      ∀ (r : C04.Results) (uri : Option (List Char)),
        C04.state (C04.addStatus r ⟨c.toList, .failure, uri⟩) = .invalid := by
  intro v
  have hacc : v.accepted = false := by
    rw [Bool.eq_false_iff]
    intro hv
    obtain ⟨excl, he, hok⟩ := (bindData_accepted_iff dh calg' false none a' buf').1 hv
    simp only [effExcl, Bool.false_eq_true, if_false, Option.some.injEq] at he
    subst he
    exact datahash_detects dh calg calg' a a' buf buf' ex hex hne hp h hd hok
  have hnf := bindData_not_fatal dh calg' false none a' buf' hlen hb
  have hshape : (∃ e, v = .mismatched e) ∨ v = .panic := by
    have hnm : v ≠ .malformed := bindData_ne_malformed dh calg' false none a' buf'
    cases hv : v with
    | matched e => rw [hv] at hacc; cases hacc
    | mismatched e => exact Or.inl ⟨e, rfl⟩
    | malformed => exact absurd hv hnm
    | fatal => exact absurd hv hnf
    | panic => exact Or.inr rfl
  refine ⟨hacc, hshape, ?_⟩
  intro c f hl
  obtain ⟨hf, hinv⟩ := rejected_logs_invalid .data v hacc c f hl
  refine ⟨?_, hf, hinv⟩
  rcases hshape with ⟨e, he⟩ | he
  · rw [he] at hl; cases hl; rfl
  · rw [he] at hl; cases hl

/-- **Tamper evidence for the box hash** (assertion in the form the SDK signs: one name per
entry; any box map, overlapping ones included, that is not just the manifest store). The signed asset verifies under the box map
`src`; a modified asset for which the handler produces the same box map differs in length or at
a position outside the C2PA / excluded entries and the unlisted PNG signature. Then the verdict
is not `match` and what it logs makes the state Invalid. (A modification that *changes* the box
map is covered by `boxhash_binds_any_layout` / `boxhash_every_byte`: the protected content of
whatever verifies is the signed content.) -/
theorem tamper_detected_box (hh : Bool) (boxes : List BoxEntry) (calg calg' : Option String)
    (src : List SrcBox) (a a' : List UInt8) (buf buf' : Nat)
    (h1 : ∀ bm ∈ boxes, bm.names.length = 1) (hno : onlyC2pa src = false)
    (h : verifyBox boxes calg (some src) a buf = .ok)
    (hd : a.length ≠ a'.length ∨ ∃ sts, spansOf src boxes (idx0 boxes src) = .ok sts ∧
      ∃ x, x < a.length ∧ unprotected boxes sts x = false ∧ inSkippedPngh boxes src x = false ∧
        a[x]? ≠ a'[x]?) :
    let v := bindBox hh boxes calg' (some src) a' buf'
    v.accepted = false ∧
    ∀ c f, v.logged .box = some (c, f) → f = true ∧
      ∀ (r : C04.Results) (uri : Option (List Char)),
        C04.state (C04.addStatus r ⟨c.toList, .failure, uri⟩) = .invalid := by
  intro v
  have hacc : v.accepted = false := by
    rw [Bool.eq_false_iff]
    intro hv
    obtain ⟨_, hok⟩ := (bindBox_accepted_iff hh boxes calg' (some src) a' buf').1 hv
    obtain ⟨hl, sts, hs, hb⟩ := boxhash_binds_single boxes calg calg' src a a' buf buf' h1 hno h hok
    rcases hd with hd | ⟨sts', hs', x, hx, hu, hpn, hne⟩
    · exact hd hl
    · rw [hs] at hs'; cases hs'
      exact hne (hb x hx hu hpn)
  exact ⟨hacc, fun c f hl => rejected_logs_invalid .box v hacc c f hl⟩

/-- **Tamper evidence for the BMFF hash** (file-level hash; the resolver returns the same list
on the modified asset). -/
theorem tamper_detected_bmff (pre : List UInt8) (alg alg' : String) (ex : List HashRange)
    (a a' : List UInt8) (buf buf' : Nat) (hne : ex ≠ [])
    (hany : ∃ y, y < a.length ∧ excluded ex y = false)
    (hany' : ∃ y, y < a'.length ∧ excluded ex y = false)
    (h : verifyBmff pre alg (some ex) a buf = .ok)
    (hd : a.length ≠ a'.length ∨ ∃ x, excluded ex x = false ∧ a[x]? ≠ a'[x]?) (self : BmffSelf) :
    let v := bindBmff self pre alg' (some ex) a' buf'
    v.accepted = false ∧
    ∀ c f, v.logged .bmff = some (c, f) → f = true ∧
      ∀ (r : C04.Results) (uri : Option (List Char)),
        C04.state (C04.addStatus r ⟨c.toList, .failure, uri⟩) = .invalid := by
  intro v
  have hacc : v.accepted = false := by
    rw [Bool.eq_false_iff]
    intro hv
    obtain ⟨_, hok⟩ := (bindBmff_accepted_iff self pre alg' (some ex) a' buf').1 hv
    exact bmff_detects_same_list pre alg alg' ex a a' buf buf' hne hany hany' h hd hok
  exact ⟨hacc, fun c f hl => rejected_logs_invalid .bmff v hacc c f hl⟩

/-! ### non-vacuity -/

def exData : List UInt8 := [10, 11, 12, 13, 14, 15, 16, 17]
def exDh : DataHash := ⟨false, some "sha256", some [⟨2, 3, none⟩], [10, 11, 15, 16, 17]⟩

example : verifyData exDh none exData 3 = .ok := by decide +kernel
example : Plain [(⟨2, 3, none⟩ : HashRange)] := by intro r hr; simp at hr; rw [hr]
/-- a change inside the exclusion is accepted, outside it is not, nor is appended data -/
example : verifyData exDh none [10, 11, 99, 98, 97, 15, 16, 17] 3 = .ok := by decide +kernel
example : verifyData exDh none [10, 11, 12, 13, 14, 15, 16, 18] 3 = .err .mismatch := by decide +kernel
example : verifyData exDh none (exData ++ [0]) 3 = .err .mismatch := by decide +kernel
example : bindData exDh none false none (exData ++ [0]) 3 = .mismatched false := by decide +kernel
/-- update manifest: the store grew from 3 to 5 bytes -/
example : bindData exDh none true (some ⟨2, 5, none⟩) [10, 11, 1, 2, 3, 4, 5, 15, 16, 17] 3 =
    .matched false := by decide +kernel
example : rebase [⟨2, 3, none⟩, ⟨6, 1, none⟩] (some ⟨2, 5, none⟩) =
    some [⟨2, 5, none⟩, ⟨8, 1, none⟩] := by decide +kernel
example : verifyBox f5Boxes none (some f5Src) [1, 2, 9, 4, 5] 4 = .ok := by decide +kernel
example : verifyBox f5Boxes none (some f5Src) [1, 2, 77, 4, 5] 4 = .ok := by decide +kernel
example : verifyBox f5Boxes none (some f5Src) [1, 2, 9, 4, 6] 4 = .err .mismatch := by decide +kernel
example : Tiles f5Src 0 5 := by simp [Tiles, f5Src]

/-- a JPEG-like box map that does *not* tile: `RST0` lies inside `SOS` -/
def jSrc : List SrcBox :=
  [⟨["SOI"], 0, 2⟩, ⟨["C2PA"], 2, 1⟩, ⟨["SOS"], 3, 4⟩, ⟨["RST0"], 5, 1⟩, ⟨["EOI"], 7, 1⟩]
def jBoxes : List BoxEntry :=
  [⟨["SOI"], some "sha256", [0xff, 0xd8], none⟩, ⟨["C2PA"], none, [], none⟩,
   ⟨["SOS"], some "sha256", [1, 2, 3, 4], none⟩, ⟨["RST0"], some "sha256", [3], none⟩,
   ⟨["EOI"], some "sha256", [9], none⟩]
/-- the hypotheses of `boxhash_every_byte` / `boxhash_binds_single` / `tamper_detected_box` hold
for it: verification succeeds, one name per entry, not only C2PA -/
example : verifyBox jBoxes none (some jSrc) [0xff, 0xd8, 7, 1, 2, 3, 4, 9] 4 = .ok := by decide +kernel
example : ∀ bm ∈ jBoxes, bm.names.length = 1 := by
  intro bm hb
  simp only [jBoxes, List.mem_cons, List.not_mem_nil, or_false] at hb
  rcases hb with rfl | rfl | rfl | rfl | rfl <;> rfl
example : onlyC2pa jSrc = false := by decide +kernel
example : ¬ Tiles jSrc 0 8 := by simp [Tiles, jSrc]
/-- a flip inside the scan, outside the restart marker, is caught by the `SOS` entry -/
example : verifyBox jBoxes none (some jSrc) [0xff, 0xd8, 7, 1, 2, 3, 5, 9] 4 = .err .mismatch := by
  decide +kernel
example : bindBox true jBoxes none (some jSrc) [0xff, 0xd8, 7, 1, 2, 3, 5, 9] 4 = .mismatched false := by
  decide +kernel
example : bindBox false jBoxes none (some jSrc) [0xff, 0xd8, 7, 1, 2, 3, 4, 9] 4 = .fatal := by decide +kernel
/-- BMFF: the hypotheses of `bmff_binds_same_list` (a hashed byte exists) and the arm's verdicts -/
example : ∃ y, y < ([1, 2, 3, 4] : List UInt8).length ∧
    excluded [⟨2, 2, none⟩, ⟨1, 1, some 1⟩] y = false := ⟨0, by decide, by decide⟩
example : bindBmff .ok ([1] ++ be64 1 ++ [2]) "sha256" (some [⟨2, 2, none⟩, ⟨1, 1, some 1⟩]) [1, 2, 3, 4, 5] 3 =
    .mismatched false := by decide +kernel
example : bindBmff .malformed [] "sha256" (some []) [1] 3 = .malformed := rfl
example : verifyBmff ([1] ++ be64 1 ++ [2]) "sha256" (some [⟨2, 2, none⟩, ⟨1, 1, some 1⟩]) [1, 2, 3, 4] 3 =
    .ok := by decide +kernel

end C2pa.C01
