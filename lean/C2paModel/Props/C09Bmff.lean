import C2paModel.Model.C09Bmff
import C2paModel.Gen.C09AdjSites
import C2paModel.Lemmas.C07A
/-
C09 — "every absolute file offset stored in the container still addresses the same media
bytes", for the BMFF offset tables.

The model `adjOffset` / `adjField` / `adjustTable` (Model/C09Bmff.lean) is compared on every
run with the real `adjust_offset` / `adjust_offset_u32` / `adjust_known_offsets_from`
(bmff_io.rs) through the hook `verif_hooks::c09` — single values at the u32 / u64 / i64
boundaries, and whole tables found in generated and fixture BMFF files by an independent
walker. Which box paths are patched, by how many `adjust_offset*` call sites each, and with
which pivot argument every caller invokes the fix-up, is a table regenerated from the source
(Gen/C09AdjSites.lean): `sites_match` proves the generated site table equal to the model's `sites`,
`callers_match` proves the generated caller list equal to the list written out in the theorem (the
model has no table of callers).

Setting of the soundness theorems: the file `pre ++ old ++ post` is rewritten to
`pre ++ new ++ post` (insert: `old = []`; remove: `new = []`), `pivot = |pre| + |old|` (end of
the changed box in the source layout, what `write_cai` / `remove_cai_store_from_stream` pass),
`adjust = |new| − |old|`.
-/
namespace C2pa.C09Bmff

open C2pa.C07 (Bytes slice adjOff offset_shift_sound)

/-! ### `adjust_offset`: exact characterisation -/

theorem adjOffset_below (o : Nat) (adj : Int) (pivot : Nat) (h : o < pivot) :
    adjOffset o adj pivot = some o := by
  unfold adjOffset; rw [if_pos h]

theorem adjOffset_eq_some_iff (o : Nat) (adj : Int) (pivot v : Nat) :
    adjOffset o adj pivot = some v ↔
      (o < pivot ∧ v = o) ∨ (pivot ≤ o ∧ (v : Int) = (o : Int) + adj ∧ v < U64) := by
  unfold adjOffset
  split
  · simp only [Option.some.injEq]; omega
  · dsimp only
    split
    · simp only [Option.some.injEq]; omega
    · simp only [reduceCtorEq, false_iff]; omega

/-- `adjust_offset` fails exactly when the offset is at or after the pivot and the shifted
value is negative or does not fit in 64 bits. -/
theorem adjOffset_eq_none_iff (o : Nat) (adj : Int) (pivot : Nat) :
    adjOffset o adj pivot = none ↔
      pivot ≤ o ∧ ((o : Int) + adj < 0 ∨ (U64 : Int) ≤ (o : Int) + adj) := by
  unfold adjOffset
  split
  · simp only [reduceCtorEq, false_iff]; omega
  · dsimp only
    split
    · simp only [reduceCtorEq, false_iff]; omega
    · simp only [true_iff]; omega

theorem adjOffset32_eq_some_iff (o : Nat) (adj : Int) (pivot v : Nat) :
    adjOffset32 o adj pivot = some v ↔ adjOffset o adj pivot = some v ∧ v < U32 := by
  unfold adjOffset32
  cases h : adjOffset o adj pivot with
  | none => simp
  | some w =>
    simp only
    by_cases hw : w < U32
    · rw [if_pos hw]
      constructor
      · intro e; have := Option.some.inj e; subst this; exact ⟨rfl, hw⟩
      · rintro ⟨e, _⟩; exact e
    · rw [if_neg hw]
      constructor
      · intro e; cases e
      · rintro ⟨e, hv⟩; have := Option.some.inj e; subst this; exact absurd hv hw

/-- The model of the Rust function is the abstract fix-up `adjOff` of layer A (Model/C07Base,
Lemmas/C07A `offset_shift_sound`) whenever the result fits in 64 bits. -/
theorem adjOffset_eq_adjOff (off oldLen newLen o : Nat) (h : adjOff off oldLen newLen o < U64) :
    adjOffset o ((newLen : Int) - (oldLen : Int)) (off + oldLen) = some (adjOff off oldLen newLen o) := by
  rw [adjOffset_eq_some_iff]
  unfold adjOff at h ⊢
  by_cases hlt : o < off + oldLen
  · rw [if_pos hlt]; left; exact ⟨hlt, rfl⟩
  · rw [if_neg hlt] at h ⊢
    right
    refine ⟨by omega, ?_, h⟩
    omega

/-- Whatever `adjust_offset` returns is `adjOff` (the converse of `adjOffset_eq_adjOff`). -/
theorem eq_adjOff_of_adjOffset_some {off oldLen newLen o o' : Nat}
    (h : adjOffset o ((newLen : Int) - (oldLen : Int)) (off + oldLen) = some o') :
    o' = adjOff off oldLen newLen o := by
  rw [adjOffset_eq_some_iff] at h
  unfold adjOff
  split <;> omega

/-! ### soundness on bytes: `offset_shift_sound` (Lemmas/C07A) transferred to the model of the code -/

/-- Whenever the model of `adjust_offset` returns `o'` for an offset `o`, the
`n` bytes at `o'` in `pre ++ new ++ post` (the rewritten file, its offset fields not yet patched) are the
`n` bytes at `o` in the source file, for every range that does not straddle the changed box. -/
theorem adjOffset_sound_of_some (pre old new post : Bytes) (o n o' : Nat)
    (h : o + n ≤ pre.length ∨ pre.length + old.length ≤ o)
    (hs : adjOffset o ((new.length : Int) - (old.length : Int)) (pre.length + old.length) = some o') :
    slice (pre ++ new ++ post) o' n = slice (pre ++ old ++ post) o n := by
  rw [eq_adjOff_of_adjOffset_some hs]
  exact offset_shift_sound pre old new post o n h

/-- For an offset inside the source file and an output shorter than
2^64 bytes the fix-up does not fail, and the adjusted offset addresses the same bytes, for every
range that does not straddle the changed box (`h`). -/
theorem adjOffset_sound (pre old new post : Bytes) (o n : Nat)
    (h : o + n ≤ pre.length ∨ pre.length + old.length ≤ o)
    (hin : o ≤ (pre ++ old ++ post).length)
    (hout : (pre ++ new ++ post).length < U64) :
    ∃ o', adjOffset o ((new.length : Int) - (old.length : Int)) (pre.length + old.length) = some o' ∧
      slice (pre ++ new ++ post) o' n = slice (pre ++ old ++ post) o n := by
  refine ⟨_, adjOffset_eq_adjOff pre.length old.length new.length o ?_,
    offset_shift_sound pre old new post o n h⟩
  simp only [List.length_append] at hin hout
  unfold adjOff
  split <;> omega

/-- The shift-everything rule (pivot 0: every offset shifted; finding F15)
moves offsets of data located before the box: refuted on the model of the real function. -/
theorem pivot_zero_unsound :
    ∃ (pre old new post : Bytes) (o n o' : Nat), o + n ≤ pre.length ∧
      adjOffset o ((new.length : Int) - (old.length : Int)) 0 = some o' ∧
      slice (pre ++ new ++ post) o' n ≠ slice (pre ++ old ++ post) o n :=
  ⟨[1, 2, 3], [], [9], [4], 0, 1, 1, by decide, by decide, by decide⟩

/-- An off-by-one pivot (`pivot + 1`) is refuted as well: the first byte after the changed
box would not be shifted. -/
theorem pivot_off_by_one_unsound :
    ∃ (pre old new post : Bytes) (o n o' : Nat), pre.length + old.length ≤ o ∧
      adjOffset o ((new.length : Int) - (old.length : Int)) (pre.length + old.length + 1) = some o' ∧
      slice (pre ++ new ++ post) o' n ≠ slice (pre ++ old ++ post) o n :=
  ⟨[1], [], [9], [4, 5], 1, 1, 1, by decide, by decide, by decide⟩

/-! ### whole tables (`adjustTable`) -/

theorem mapOpt_some {α β : Type} (f : α → Option β) :
    ∀ (l : List α) (vs : List β), mapOpt f l = some vs →
      vs.length = l.length ∧ ∀ i (h1 : i < l.length) (h2 : i < vs.length), f l[i] = some vs[i]
  | [], vs, h => by
    have : vs = [] := by simpa [mapOpt] using h.symm
    subst this
    exact ⟨rfl, fun i h1 => absurd h1 (Nat.not_lt_zero _)⟩
  | x :: rest, vs, h => by
    unfold mapOpt at h
    cases hx : f x with
    | none => rw [hx] at h; cases h
    | some y =>
      rw [hx] at h
      cases hr : mapOpt f rest with
      | none => rw [hr] at h; cases h
      | some ys =>
        rw [hr] at h
        have e : vs = y :: ys := (Option.some.inj h).symm
        subst e
        obtain ⟨hl, hi⟩ := mapOpt_some f rest ys hr
        refine ⟨by simp [hl], ?_⟩
        intro i h1 h2
        cases i with
        | zero => simpa using hx
        | succ j =>
          simp only [List.getElem_cons_succ]
          exact hi j (by simpa using h1) (by simpa using h2)

theorem mapOpt_isSome {α β : Type} (f : α → Option β) :
    ∀ (l : List α), (∀ x ∈ l, (f x).isSome = true) → (mapOpt f l).isSome = true
  | [], _ => rfl
  | x :: rest, h => by
    unfold mapOpt
    have hx := h x (List.mem_cons_self ..)
    cases e : f x with
    | none => rw [e] at hx; cases hx
    | some y =>
      simp only
      have hr := mapOpt_isSome f rest (fun z hz => h z (List.mem_cons_of_mem _ hz))
      cases e2 : mapOpt f rest with
      | none => rw [e2] at hr; cases hr
      | some ys => rfl

/-- Field kinds that hold one absolute file offset each. -/
def Field.plain (f : Field) : Bool :=
  match f.kind with
  | .stco | .co64 | .saio | .tfhd | .tfra => true
  | .ilocb | .iloce => false

theorem adjW_cases (w v : Nat) (adj : Int) (pivot : Nat) :
    adjW w v adj pivot = adjOffset32 v adj pivot ∨ adjW w v adj pivot = adjOffset v adj pivot := by
  unfold adjW; split
  · exact Or.inl rfl
  · exact Or.inr rfl

theorem adjField_plain_cases (adj : Int) (pivot : Nat) {f : Field} (hp : f.plain = true) :
    adjField adj pivot f = adjOffset32 f.val adj pivot ∨
      adjField adj pivot f = adjOffset f.val adj pivot := by
  unfold Field.plain at hp
  unfold adjField
  cases hk : f.kind <;> rw [hk] at hp
  · exact Or.inl rfl
  · exact Or.inr rfl
  · exact adjW_cases ..
  · exact Or.inr rfl
  · exact adjW_cases ..
  · cases hp
  · cases hp

/-- Both forms of the fix-up return what `adjust_offset` returns, when they return anything. -/
theorem adjOffset_of_cases {x : Option Nat} {v : Nat} {adj : Int} {pivot r : Nat}
    (hc : x = adjOffset32 v adj pivot ∨ x = adjOffset v adj pivot) (h : x = some r) :
    adjOffset v adj pivot = some r := by
  rcases hc with e | e <;> rw [e] at h
  · exact ((adjOffset32_eq_some_iff _ _ _ _).1 h).1
  · exact h

theorem adjW_some {w v : Nat} {adj : Int} {pivot r : Nat} (h : adjW w v adj pivot = some r) :
    adjOffset v adj pivot = some r :=
  adjOffset_of_cases (adjW_cases w v adj pivot) h

theorem adjField_plain {adj : Int} {pivot : Nat} {f : Field} {r : Nat}
    (hp : f.plain = true) (h : adjField adj pivot f = some r) :
    adjOffset f.val adj pivot = some r :=
  adjOffset_of_cases (adjField_plain_cases adj pivot hp) h

/-- If the model of the fix-up succeeds on a list of absolute-offset fields
(stco, co64, saio, tfhd, tfra), it yields one value per field, and the value of field `i`
addresses, in `pre ++ new ++ post` (the rewritten file, its offset fields not yet patched), the same
`n` bytes its old value addressed in the source file — for every `n` such that the addressed range
does not straddle the changed box. -/
theorem adjustTable_sound (pre old new post : Bytes) (fs : List Field) (vs : List Nat)
    (hplain : ∀ f ∈ fs, f.plain = true)
    (h : adjustTable ((new.length : Int) - (old.length : Int)) (pre.length + old.length) fs = some vs) :
    vs.length = fs.length ∧
    ∀ i (h1 : i < fs.length) (h2 : i < vs.length) (n : Nat),
      (fs[i].val + n ≤ pre.length ∨ pre.length + old.length ≤ fs[i].val) →
      slice (pre ++ new ++ post) vs[i] n = slice (pre ++ old ++ post) fs[i].val n := by
  obtain ⟨hl, hi⟩ := mapOpt_some _ fs vs h
  refine ⟨hl, ?_⟩
  intro i h1 h2 n hn
  have hf := adjField_plain (hplain fs[i] (List.getElem_mem h1)) (hi i h1 h2)
  exact adjOffset_sound_of_some pre old new post fs[i].val n vs[i] hn hf

/-- No spurious error. When every offset of a plain table lies inside
the source file and both files are shorter than 4 GiB, the fix-up succeeds. -/
theorem adjustTable_total (pre old new post : Bytes) (fs : List Field)
    (hplain : ∀ f ∈ fs, f.plain = true)
    (hin : ∀ f ∈ fs, f.val ≤ (pre ++ old ++ post).length)
    (hsrc : (pre ++ old ++ post).length < U32)
    (hout : (pre ++ new ++ post).length < U32) :
    (adjustTable ((new.length : Int) - (old.length : Int)) (pre.length + old.length) fs).isSome = true := by
  apply mapOpt_isSome
  intro f hf
  have hb : adjOff pre.length old.length new.length f.val < U32 := by
    have := hin f hf
    simp only [List.length_append] at this hout hsrc
    unfold adjOff
    by_cases hlt : f.val < pre.length + old.length
    · rw [if_pos hlt]; omega
    · rw [if_neg hlt]; omega
  have h64 : adjOff pre.length old.length new.length f.val < U64 := by
    have : U32 < U64 := by decide
    omega
  have e := adjOffset_eq_adjOff pre.length old.length new.length f.val h64
  have e32 : adjOffset32 f.val ((new.length : Int) - (old.length : Int)) (pre.length + old.length)
      = some (adjOff pre.length old.length new.length f.val) :=
    (adjOffset32_eq_some_iff _ _ _ _).2 ⟨e, hb⟩
  rcases adjField_plain_cases _ _ (hplain f hf) with h | h <;> rw [h]
  · rw [e32]; rfl
  · rw [e]; rfl

/-! ### item locations (`/meta/iloc`) -/

/-- Items that are not located by file offset (construction_method 1 = idat, 2 = item) keep
all their fields. -/
theorem iloc_other_methods_untouched (adj : Int) (pivot : Nat) (f : Field)
    (hk : f.kind = .ilocb ∨ f.kind = .iloce) (hw : f.width = 4 ∨ f.width = 8) (hcm : f.cm ≠ 0) :
    adjField adj pivot f = some f.val := by
  unfold adjField
  rcases hk with hk | hk <;> rw [hk] <;> rcases hw with hw | hw <;> simp [hw, hcm]

theorem fit_some {w v r : Nat} (h : fit w v = some r) : r = v := by
  unfold fit at h
  split at h
  · split at h
    · exact (Option.some.inj h).symm
    · cases h
  · split at h
    · split at h
      · exact (Option.some.inj h).symm
      · cases h
    · cases h

theorem adjField_ilocb {adj : Int} {pivot w v r : Nat}
    (h : adjField adj pivot ⟨.ilocb, w, v, 0, 0, 0⟩ = some r) : adjOffset v adj pivot = some r := by
  unfold adjField at h
  dsimp only at h
  split at h
  · cases h
  · obtain ⟨x, hx, hf⟩ := Option.bind_eq_some_iff.1 h
    rw [hx, fit_some hf]

/-- The data of an extent of a file-offset item lives at
`base_offset + extent_offset`. With the base and the extent patched as coded (base through
`adjust_offset`, which keeps a base of 0 because `0 < pivot`; the extent adjusted only when the base
is 0), the new effective address is the adjusted old effective address — provided the pivot is not 0,
the base and the data it leads to are on the same side of the changed box (or the base is 0) and the
sum stays below 2^64. -/
theorem iloc_extent_sound (adj : Int) (pivot : Nat) (hp : 0 < pivot)
    (wb we b e b' e' : Nat)
    (hb : adjField adj pivot ⟨.ilocb, wb, b, 0, 0, 0⟩ = some b')
    (he : adjField adj pivot ⟨.iloce, we, e, 0, b, 0⟩ = some e')
    (side : b = 0 ∨ (b < pivot ↔ b + e < pivot))
    (hfit : b' + e' < U64) :
    adjOffset (b + e) adj pivot = some (b' + e') := by
  have hb1 := adjField_ilocb hb
  unfold adjField at he
  dsimp only at he
  split at he
  · cases he
  by_cases hb0 : b = 0
  · subst hb0
    cases (adjOffset_below 0 adj pivot hp).symm.trans hb1
    by_cases he0 : e = 0
    · subst he0
      cases he
      exact adjOffset_below 0 adj pivot hp
    · rw [if_pos (by simp [he0])] at he
      simpa using adjW_some he
  · -- base non-zero: the extent is left alone (`e' = e`); by `side`, `b` and `b + e` are on the same
    -- side of the pivot, so both stay or both move by `adj`; `hfit` is the bound of the moved sum
    rw [if_neg (by simp [hb0])] at he
    cases he
    rw [adjOffset_eq_some_iff] at hb1 ⊢
    omega

/-- The limitation of the rule as coded: a non-zero base located before the changed box whose
extent reaches data after it is not shifted (base and data on different sides). -/
theorem iloc_base_straddle_unsound :
    ∃ (adj : Int) (pivot wb we b e b' e' r : Nat),
      adjField adj pivot ⟨.ilocb, wb, b, 0, 0, 0⟩ = some b' ∧
      adjField adj pivot ⟨.iloce, we, e, 0, b, 0⟩ = some e' ∧
      adjOffset (b + e) adj pivot = some r ∧ r ≠ b' + e' :=
  ⟨10, 100, 4, 4, 50, 60, 50, 60, 120, by decide, by decide, by decide, by decide⟩

/-! ### `/mfra/tfra`: the last-moof rule (finding `offset-broken-tfra`) -/

/-- The last-moof rule (every tfra entry of a track := offset of the track's last moof; c2pa-rs
without the fix of `offset-broken-tfra`) breaks the first entry of a track with two fragments even
when nothing moves (`adjust = 0`): the entry addressing the moof at 100 is overwritten with 200. -/
theorem tfraLegacy_unsound :
    ∃ (moofs : List (Nat × Nat)) (f : Field) (r : Nat),
      tfraLegacy moofs f = some r ∧ adjField 0 0 f = some f.val ∧ r ≠ f.val :=
  ⟨[(1, 100), (1, 200)], ⟨.tfra, 4, 100, 0, 0, 1⟩, 200, by decide, by decide, by decide⟩

/-! ### which boxes are patched: the source table -/

/-- The sections of `adjust_known_offsets_from` in the source — box paths in order,
number of `adjust_offset` / `adjust_offset_u32` call sites per section — are exactly the ones
the model mirrors. A section added, dropped, or rewritten to store an offset without going
through `adjust_offset*` changes the generated table and breaks this theorem. -/
theorem sites_match : (Gen.sites == sites) = true := by decide +kernel

/-- Every caller in the handler passes as pivot the end (for an insertion: the position) of the changed
box in the source layout; the dead wrapper `adjust_known_offsets` passes 0, and the hook
`verif_adjust_known_offsets_from` hands on the pivot it is given. -/
theorem callers_match :
    (Gen.callers == [("adjust_known_offsets", "0"), ("write_cai", "end as u64"),
      ("remove_cai_store_from_stream", "end as u64"), ("embed_reference_to_stream", "end as u64"),
      ("inject_placeholder", "start"), ("verif_adjust_known_offsets_from", "pivot")]) = true := by
  decide +kernel

/-- The field kinds of the model and the patched box paths of the source coincide. -/
theorem kinds_cover_sites :
    ([Kind.stco, .co64, .saio, .tfhd, .tfra, .ilocb, .iloce].all
        (fun k => Gen.sites.any (fun s => s.1 == k.path)) &&
      Gen.sites.all (fun s => [Kind.stco, .co64, .saio, .tfhd, .tfra, .ilocb, .iloce].any
        (fun k => s.1 == k.path))) = true := by
  decide +kernel

/-! ### non-vacuity -/

-- insert 3 bytes after a 2-byte prefix; the offset of the data after the insertion point moves
example : adjustTable ((3 : Nat) - (0 : Nat) : Int) 2 [⟨.stco, 4, 2, 0, 0, 0⟩, ⟨.co64, 8, 0, 0, 0, 0⟩]
    = some [5, 0] := by decide
example : slice ([1, 2] ++ [9, 9, 9] ++ [3, 4]) 5 2 = slice ([1, 2] ++ [] ++ [3, 4]) 2 2 := by decide
-- shrinking below zero is an error, as is leaving the u32 range
example : adjOffset 5 (-6) 5 = none := by decide
example : adjOffset32 4294967295 1 0 = none := by decide
example : adjOffset 18446744073709551615 1 0 = none := by decide
-- boundary: the offset equal to the pivot moves, the one before does not
example : adjOffset 10 7 10 = some 17 ∧ adjOffset 9 7 10 = some 9 := by decide
-- iloc: base 0 → extent adjusted; base ≠ 0 → base adjusted, extent kept
example : adjField 10 100 ⟨.iloce, 4, 150, 0, 0, 0⟩ = some 160 := by decide
example : adjField 10 100 ⟨.iloce, 4, 150, 0, 120, 0⟩ = some 150 := by decide
example : adjField 10 100 ⟨.ilocb, 8, 120, 0, 0, 0⟩ = some 130 := by decide

end C2pa.C09Bmff
