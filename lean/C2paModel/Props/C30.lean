import C2paModel.Lemmas.C30
import C2paModel.Lemmas.DecideRun
/-
C30 — property theorems. The statement (properties.jsonl):

  For every format that supports remote references and every URL, the remote manifest URL
  the reader extracts from an asset equals the URL that was embedded when signing with a
  remote reference. Embedding preserves the XMP properties that were already present.

Every handler embeds with `add_provenance` and the reader extracts with `extract_provenance`
(the container part is observed end to end by the harness). The theorems quantify over every
string (URL or not), every key and every packet: any `pre`/`post` text, any number of
attributes with any raw values, start or empty element, with or without trailer, any length.
-/
namespace C2pa.C30

/-- **`quick_xml`'s `unescape` undoes its `escape`, for every string.** -/
theorem unescape_escape (s : Str) : unescape (escape s) = some s :=
  unescGo_escape s

theorem unescapeLenient_escape (s : Str) : unescapeLenient (escape s) = s := by
  simp [unescapeLenient, unescape_escape]

/-- Returning the raw attribute value without unescaping it (defect F8) is not the identity:
the stored form of `a&b` is `a&amp;b`. -/
theorem raw_value_is_escaped : escape ['a', '&', 'b'] = ['a', '&', 'a', 'm', 'p', ';', 'b'] := by
  decide

/-! ### shape of a successful `add_xmp_key` -/

/-- the element after the attribute loop of `add_xmp_key` -/
def editDesc (k ev : Str) (d : Desc) : Desc := { d with attrs := editAttrs k ev d.attrs }

@[simp] theorem editDesc_attrs (k ev : Str) (d : Desc) :
    (editDesc k ev d).attrs = editAttrs k ev d.attrs := rfl

theorem map_editDesc_idem (k ev : Str) (o : Option Desc) :
    (o.map (editDesc k ev)).map (editDesc k ev) = o.map (editDesc k ev) := by
  cases o with
  | none => rfl
  | some d => simp [editDesc, editAttrs_idem]

theorem addKey_eq (p : Packet) (k v : Str) (hp : ¬(p.trailer = true ∧ p.origLen < 19))
    (hd : ∀ d, p.desc = some d → dupKeys d.attrs = false) :
    addKey p k v = .ok (finish p (p.desc.map (editDesc k (escape v)))) := by
  unfold addKey
  rw [if_neg hp]
  cases hdesc : p.desc with
  | none => rfl
  | some d => simp [hd d hdesc, editDesc]

theorem addKey_ok (p : Packet) (k v : Str) (q : Packet) (h : addKey p k v = .ok q) :
    ¬(p.trailer = true ∧ p.origLen < 19) ∧ (∀ d, p.desc = some d → dupKeys d.attrs = false) ∧
      q = finish p (p.desc.map (editDesc k (escape v))) := by
  revert h
  -- the two paths that answer `.ok`: no element (2), an element without duplicate keys (4)
  fun_cases addKey p k v
  case case2 hp hd =>
    intro h
    rw [hd]
    exact ⟨hp, nofun, (Res.ok.inj h).symm⟩
  case case4 hp d hd hdup =>
    intro h
    rw [hd]
    exact ⟨hp, fun d' hd' => by cases hd'; exact Bool.eq_false_iff.2 hdup, (Res.ok.inj h).symm⟩
  all_goals exact nofun

theorem addKey_ok_some (p : Packet) (k v : Str) (q : Packet) (h : addKey p k v = .ok q)
    (d : Desc) (hd : p.desc = some d) :
    dupKeys d.attrs = false ∧ q = finish p (some (editDesc k (escape v) d)) := by
  obtain ⟨_, hdup, hq⟩ := addKey_ok p k v q h
  rw [hd] at hq
  exact ⟨hdup d hd, hq⟩

/-- `add_xmp_key` fails only for a duplicated attribute (or the length underflow). -/
theorem addKey_succeeds (p : Packet) (k v : Str) (hp : ¬(p.trailer = true ∧ p.origLen < 19))
    (hd : ∀ d, p.desc = some d → dupKeys d.attrs = false) : ∃ q, addKey p k v = .ok q :=
  ⟨_, addKey_eq p k v hp hd⟩

theorem addProvenance_ok_iff (p : Packet) (url : Str) (q : Packet) :
    addProvenance p url = .ok q ↔
      ∃ p1, addKey p kXmlnsDcterms vDcterms = .ok p1 ∧ addKey p1 kProvenance url = .ok q := by
  unfold addProvenance
  cases addKey p kXmlnsDcterms vDcterms with
  | ok p1 => simp [Res.bind]
  | readErr => simp [Res.bind]
  | panic => simp [Res.bind]

@[simp] theorem finish_pre (p : Packet) (d : Option Desc) : (finish p d).pre = p.pre := rfl
@[simp] theorem finish_desc (p : Packet) (d : Option Desc) : (finish p d).desc = d := rfl
@[simp] theorem finish_post (p : Packet) (d : Option Desc) : (finish p d).post = p.post := rfl
@[simp] theorem finish_trailer (p : Packet) (d : Option Desc) : (finish p d).trailer = true := rfl

theorem finish_gap (p : Packet) (d : Option Desc) :
    (finish p d).gap = (if p.trailer then [] else p.gap) ++
      padding (targetLen p - utf8Len (bodyWith p d)) := rfl

theorem finish_origLen (p : Packet) (d : Option Desc) :
    (finish p d).origLen = utf8Len (render (finish p d)) := rfl

theorem render_finish (p : Packet) (d : Option Desc) :
    render (finish p d) =
      bodyWith p d ++ padding (targetLen p - utf8Len (bodyWith p d)) ++ xmpEnd := by
  simp only [render, finish_pre, finish_desc, finish_post, finish_gap, bodyWith, List.append_assoc]

theorem utf8Len_render_finish (p : Packet) (d : Option Desc) :
    utf8Len (render (finish p d)) = max (utf8Len (bodyWith p d) + 1) (targetLen p) + 19 := by
  rw [render_finish]
  simp only [utf8Len_append, utf8Len_padding, utf8Len_xmpEnd]
  omega

theorem origLen_finish_ge (p : Packet) (d : Option Desc) : 19 ≤ (finish p d).origLen := by
  rw [finish_origLen, utf8Len_render_finish]
  omega

theorem addKey_ok_trailer (p : Packet) (k v : Str) (q : Packet) (h : addKey p k v = .ok q) :
    q.trailer = true ∧ 19 ≤ q.origLen := by
  obtain ⟨_, _, rfl⟩ := addKey_ok p k v q h
  exact ⟨rfl, origLen_finish_ge p _⟩

/-- On the output of `add_xmp_key` a further `add_xmp_key` succeeds: the trailer is there,
the length is at least its 19 bytes, and editing introduces no duplicate. -/
theorem addKey_again (p : Packet) (k v : Str) (q : Packet) (h : addKey p k v = .ok q)
    (k' v' : Str) : addKey q k' v' = .ok (finish q (q.desc.map (editDesc k' (escape v')))) := by
  have h19 := (addKey_ok_trailer p k v q h).2
  obtain ⟨_, hdup, rfl⟩ := addKey_ok p k v q h
  refine addKey_eq _ k' v' (fun hc => by omega) (fun d' hd' => ?_)
  obtain ⟨d, hd, rfl⟩ := Option.map_eq_some_iff.1 hd'
  exact dupKeys_editAttrs k _ _ (hdup d hd)

/-- **The value read back for the key is the value that was added** — for every key, every
value (any characters) and every packet that has an rdf:Description element. -/
theorem key_roundtrip (p : Packet) (k v : Str) (q : Packet) (h : addKey p k v = .ok q)
    (hd : p.desc ≠ none) : extractKey q k = some v := by
  obtain ⟨d, hpd⟩ := Option.ne_none_iff_exists'.1 hd
  obtain ⟨_, rfl⟩ := addKey_ok_some p k v q h d hpd
  simp [extractKey, findAttr_editAttrs_self, unescapeLenient_escape]

/-- **`extract_provenance (add_provenance xmp url) = url`** for every URL and every packet
with an rdf:Description element. -/
theorem provenance_roundtrip (p : Packet) (url : Str) (q : Packet)
    (h : addProvenance p url = .ok q) (hd : p.desc ≠ none) : extractProvenance q = some url := by
  obtain ⟨p1, h1, h2⟩ := (addProvenance_ok_iff p url q).1 h
  refine key_roundtrip p1 kProvenance url q h2 ?_
  obtain ⟨_, _, rfl⟩ := addKey_ok p _ _ p1 h1
  simpa using hd

/-- `add_provenance` succeeds whenever the first `add_xmp_key` does, and then round-trips. -/
theorem provenance_roundtrip_total (p : Packet) (url : Str) (d : Desc) (hd : p.desc = some d)
    (hdup : dupKeys d.attrs = false) (hp : ¬(p.trailer = true ∧ p.origLen < 19)) :
    ∃ q, addProvenance p url = .ok q ∧ extractProvenance q = some url := by
  have h1 := addKey_eq p kXmlnsDcterms vDcterms hp
    (fun d' hd' => by rw [hd] at hd'; cases hd'; exact hdup)
  have hall := (addProvenance_ok_iff p url _).2 ⟨_, h1, addKey_again p _ _ _ h1 kProvenance url⟩
  exact ⟨_, hall, provenance_roundtrip p url _ hall (by rw [hd]; simp)⟩

/-! ### what was already there stays -/

/-- **Everything else is unchanged**: the text before and after the element, the element
form, and every other attribute in its original order (a literal `"` inside a value is
written `&quot;`, see `reqAttr_spec`). Without an rdf:Description nothing is written. -/
theorem other_attrs_preserved (p : Packet) (k v : Str) (q : Packet) (h : addKey p k v = .ok q) :
    q.pre = p.pre ∧ q.post = p.post ∧ (p.desc = none → q.desc = none) ∧
    ∀ d, p.desc = some d → ∃ d', q.desc = some d' ∧ d'.empty = d.empty ∧
      d'.attrs.filter (fun a => !decide (a.key = k)) =
        (d.attrs.filter (fun a => !decide (a.key = k))).map reqAttr := by
  obtain ⟨_, _, rfl⟩ := addKey_ok p k v q h
  refine ⟨rfl, rfl, fun hn => by rw [finish_desc, hn]; rfl, fun d hd => ?_⟩
  exact ⟨editDesc k (escape v) d, by rw [finish_desc, hd]; rfl, rfl,
    filter_editAttrs k (escape v) d.attrs⟩

/-- The rewritten form of an untouched attribute: same key; the same meaning whenever the
value is well-formed escaped text; the same characters when it has no literal `"`. -/
theorem reqAttr_spec (a : Attr) :
    (reqAttr a).key = a.key ∧
    (∀ s, unescape a.val = some s → unescape (reqAttr a).val = some s) ∧
    ('"' ∉ a.val → reqAttr a = a) := by
  refine ⟨rfl, fun s hs => (unescape_requote a.val).trans hs, fun hq => ?_⟩
  simp [reqAttr, requote_of_no_quote a.val hq]

/-- **Every other key reads back as before** (the values being well-formed escaped text or
free of literal double quotes). -/
theorem other_keys_unchanged (p : Packet) (k v : Str) (q : Packet) (h : addKey p k v = .ok q)
    (k' : Str) (hk : k' ≠ k)
    (hw : ∀ d a, p.desc = some d → findAttr k' d.attrs = some a →
      (unescape a.val).isSome ∨ '"' ∉ a.val) :
    extractKey q k' = extractKey p k' := by
  obtain ⟨_, _, rfl⟩ := addKey_ok p k v q h
  cases hpd : p.desc with
  | none => simp [extractKey, hpd]
  | some d =>
    simp only [extractKey, finish_desc, hpd, Option.map_some, editDesc_attrs,
      findAttr_editAttrs_other k _ k' hk]
    cases hf : findAttr k' d.attrs with
    | none => rfl
    | some a =>
      simp only [Option.map_some]
      obtain ⟨_, hmeaning, hsame⟩ := reqAttr_spec a
      rcases hw d a hpd hf with hu | hq
      · obtain ⟨s, hs⟩ := Option.isSome_iff_exists.1 hu
        simp [unescapeLenient, hs, hmeaning s hs]
      · rw [hsame hq]

/-- The output text is the edited body, then blanks, then the trailer. -/
theorem output_shape (p : Packet) (k v : Str) (q : Packet) (h : addKey p k v = .ok q) :
    ∃ g, (∀ c ∈ g, c = ' ' ∨ c = '\n') ∧ render q = bodyWith p q.desc ++ g ++ xmpEnd := by
  obtain ⟨_, _, rfl⟩ := addKey_ok p k v q h
  exact ⟨_, blank_padding _, render_finish p _⟩

/-- Length of the output for every packet: the body plus at least one line break, padded up
to the target (original length less the 19 bytes of the trailer when there was one, else at
least 4096), plus trailer. -/
theorem out_length (p : Packet) (k v : Str) (q : Packet) (h : addKey p k v = .ok q) :
    q.origLen = utf8Len (render q) ∧
    q.origLen = max (utf8Len (bodyWith p q.desc) + 1) (targetLen p) + 19 := by
  obtain ⟨_, _, rfl⟩ := addKey_ok p k v q h
  exact ⟨rfl, utf8Len_render_finish p _⟩

/-- **When the packet had a trailer and the new body (with one line break) fits, the output
has exactly the original length.** -/
theorem padding_length (p : Packet) (k v : Str) (q : Packet) (h : addKey p k v = .ok q)
    (ht : p.trailer = true) (hfit : utf8Len (bodyWith p q.desc) + 1 ≤ p.origLen - 19) :
    q.origLen = p.origLen := by
  have hp := (addKey_ok p k v q h).1
  have := (out_length p k v q h).2
  rw [targetLen, if_pos ht] at this
  have h19 : 19 ≤ p.origLen := Nat.le_of_not_lt fun hc => hp ⟨ht, hc⟩
  omega

theorem room_eq_gap (q : Packet) (ht : q.trailer = true) (hl : q.origLen = utf8Len (render q)) :
    targetLen q - utf8Len (bodyWith q q.desc) = utf8Len q.gap := by
  simp only [targetLen, bodyWith, ht, if_true, hl, render, utf8Len_append, utf8Len_xmpEnd,
    List.append_nil]
  omega

theorem Packet.ext {a b : Packet} (h1 : a.pre = b.pre) (h2 : a.desc = b.desc)
    (h3 : a.post = b.post) (h4 : a.gap = b.gap) (h5 : a.trailer = b.trailer)
    (h6 : a.origLen = b.origLen) : a = b := by
  cases a; cases b; simp only [Packet.mk.injEq]; exact ⟨h1, h2, h3, h4, h5, h6⟩

theorem finish_again (q : Packet) (ht : q.trailer = true) (hl : q.origLen = utf8Len (render q))
    (hg : 1 ≤ utf8Len q.gap) : finish q q.desc = { q with gap := padding (utf8Len q.gap) } := by
  have hgap : (finish q q.desc).gap = padding (utf8Len q.gap) := by
    rw [finish_gap, room_eq_gap q ht hl, ht]; rfl
  refine Packet.ext rfl rfl rfl hgap ht.symm ?_
  rw [finish_origLen, hl]
  simp only [render, finish_pre, finish_desc, finish_post, hgap, utf8Len_append, utf8Len_padding]
  omega

theorem addKey_twice (p : Packet) (k v : Str) (q : Packet) (h : addKey p k v = .ok q) :
    addKey q k v = .ok { q with gap := padding (utf8Len q.gap) } := by
  rw [addKey_again p k v q h k v]
  obtain ⟨_, _, rfl⟩ := addKey_ok p k v q h
  rw [finish_desc, map_editDesc_idem]
  refine congrArg Res.ok (finish_again _ rfl rfl ?_)
  rw [finish_gap, utf8Len_append, utf8Len_padding]
  omega

/-- **Adding the same key and value a second time changes nothing** (the text is identical),
when the input had a trailer or no white space at its end. -/
theorem add_idempotent (p : Packet) (k v : Str) (q : Packet) (h : addKey p k v = .ok q)
    (hg : p.trailer = true ∨ p.gap = []) : addKey q k v = .ok q := by
  rw [addKey_twice p k v q h]
  obtain ⟨_, _, rfl⟩ := addKey_ok p k v q h
  -- the blanks are a `padding` already, and `padding` of its own length is itself
  have hgap := finish_gap p (p.desc.map (editDesc k (escape v)))
  rw [show (if p.trailer = true then [] else p.gap) = ([] : Str) by rcases hg with hg | hg <;> simp [hg],
    List.nil_append] at hgap
  rw [hgap, utf8Len_padding, padding_max_one, ← hgap]

/-- For every packet (also one ending in white space without trailer) a second addition
keeps the text before, the element, the text after and the total length; only the blanks
before the trailer are laid out again. -/
theorem add_again_content (p : Packet) (k v : Str) (q : Packet) (h : addKey p k v = .ok q) :
    ∃ q', addKey q k v = .ok q' ∧ q'.pre = q.pre ∧ q'.desc = q.desc ∧ q'.post = q.post ∧
      q'.trailer = q.trailer ∧ q'.origLen = q.origLen ∧ ∀ c ∈ q'.gap, c = ' ' ∨ c = '\n' :=
  ⟨_, addKey_twice p k v q h, rfl, rfl, rfl, rfl, rfl, blank_padding _⟩

/-! ### non-vacuity -/

def exAttrs : List Attr :=
  [⟨"rdf:about".toList, []⟩,
   ⟨"xmpMM:DocumentID".toList, "xmp.did:1".toList⟩,
   ⟨"dc:source".toList, "say \"hi\" &amp; bye".toList⟩]

/-- a packet with trailer; its recorded length leaves 481 bytes for the body and the padding -/
def exPacket : Packet :=
  { pre := "<x:xmpmeta><rdf:RDF>".toList, desc := some ⟨exAttrs, false⟩,
    post := "</rdf:Description></rdf:RDF></x:xmpmeta>".toList,
    gap := List.replicate 300 ' ', trailer := true, origLen := 500 }

def exUrl : Str := "https://h.example/m?a=1&b=2#'<>\"".toList

theorem exAttrs_nodup : dupKeys exAttrs = false := by
  delta exAttrs
  decide_run

theorem exPacket_room : ¬(exPacket.trailer = true ∧ exPacket.origLen < 19) := by decide

example : dupKeys exAttrs = false := exAttrs_nodup
example : ∃ q, addProvenance exPacket exUrl = .ok q ∧ extractProvenance q = some exUrl :=
  provenance_roundtrip_total exPacket exUrl ⟨exAttrs, false⟩ rfl exAttrs_nodup exPacket_room
example : ∃ q, addKey exPacket kProvenance exUrl = .ok q :=
  addKey_succeeds exPacket _ _ exPacket_room (by intro d hd; cases hd; exact exAttrs_nodup)
/-- the fit hypothesis of `padding_length` is met by `exPacket` (the new body is well below
the 481 bytes available) -/
theorem exPacket_fits : utf8Len (bodyWith exPacket
    (some ⟨editAttrs kProvenance (escape exUrl) exAttrs, false⟩)) + 1 ≤ exPacket.origLen - 19 := by
  have h : utf8Len (bodyWith exPacket
      (some ⟨editAttrs kProvenance (escape exUrl) exAttrs, false⟩)) = 234 := by
    delta exPacket kProvenance exUrl exAttrs
    decide_run
  rw [h]
  decide

set_option maxRecDepth 16384 in
example : utf8Len (bodyWith exPacket
    (some ⟨editAttrs kProvenance (escape exUrl) exAttrs, false⟩)) + 1 ≤ exPacket.origLen - 19 :=
  exPacket_fits
/-- an untouched value with a literal `"` keeps its meaning -/
example : unescape (reqAttr ⟨"dc:source".toList, "say \"hi\" &amp; bye".toList⟩).val
    = some "say \"hi\" & bye".toList := by decide_run
/-- `other_keys_unchanged`'s side condition holds for every attribute of `exAttrs` -/
example : ∀ a ∈ exAttrs, (unescape a.val).isSome = true := by
  delta exAttrs
  decide_run
/-- duplicates are rejected -/
example : addKey { exPacket with desc := some ⟨exAttrs ++ exAttrs, true⟩ } kProvenance exUrl
    = .readErr := by
  delta exAttrs
  decide_run

end C2pa.C30
