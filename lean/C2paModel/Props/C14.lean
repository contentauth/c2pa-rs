import C2paModel.Model.C14
/-
C14 — property theorems. The statement (properties.jsonl):

  Whenever the caller reserves at least the minimum size needed for a signature (the
  signer's reserve size) or for a data-hash assertion (the placeholder size), the SDK pads
  the signed structure to exactly the reserved size. Signing never fails with a size error
  for a reserve that is larger than a reserve that succeeds, and never panics.

All theorems quantify over every structure (`rest`, `k` unbounded) and every reserve /
desired size (unbounded naturals; the CBOR head rule includes the 5- and 9-byte heads). The
implementation allocates the pads (`vec![0u8; n]`), so on the real code the statements are
exercised up to +70000 bytes only (registry: level_note); a reserve near `usize::MAX` aborts in
the allocator, which the model does not represent.

Route. Every size that occurs is `F + hdr g + g`: a pad of `g` bytes with its CBOR head, beside `F`
bytes that do not move. Growing `g` by one skips a size exactly where the head grows; `Gap` is the set
of remainders no `g` reaches (`unfillable_iff`). One further map entry (`pad2`) shifts the remainder
out of `Gap` (`gap_shift`), which is why one retry suffices in both routines. Both loops are
`padLoop` (`padLoop_spec`, `adjust_eq_padLoop`); the routines in closed form are `padCoseSig_cases`,
`padToSize_cases` and `Save.run_cases`, and the property theorems are read off these.
-/
namespace C2pa.C14

/-! ### the CBOR head-size rule -/

theorem hdr_lt_24 {n : Nat} (h : n < 24) : hdr n = 1 := if_pos h

theorem hdr_zero : hdr 0 = 1 := rfl

theorem hdr_lt_256 {n : Nat} (h1 : 24 ≤ n) (h2 : n < 256) : hdr n = 2 := by
  rw [hdr, if_neg (Nat.not_lt.2 h1), if_pos h2]

theorem hdr_lt_65536 {n : Nat} (h1 : 256 ≤ n) (h2 : n < 65536) : hdr n = 3 := by
  rw [hdr, if_neg (by omega), if_neg (Nat.not_lt.2 h1), if_pos h2]

theorem hdr_lt_2_32 {n : Nat} (h1 : 65536 ≤ n) (h2 : n < 4294967296) : hdr n = 5 := by
  rw [hdr, if_neg (by omega), if_neg (by omega), if_neg (Nat.not_lt.2 h1), if_pos h2]

theorem hdr_ge_2_32 {n : Nat} (h : 4294967296 ≤ n) : hdr n = 9 := by
  rw [hdr, if_neg (by omega), if_neg (by omega), if_neg (by omega), if_neg (Nat.not_lt.2 h)]

/-- The head size by classes, in the form `omega` takes as a hypothesis: `have := hdr_cases n; omega`,
at the step that needs it and not left in the context. -/
theorem hdr_cases (n : Nat) :
    (n < 24 ∧ hdr n = 1) ∨ (24 ≤ n ∧ n < 256 ∧ hdr n = 2) ∨ (256 ≤ n ∧ n < 65536 ∧ hdr n = 3) ∨
    (65536 ≤ n ∧ n < 4294967296 ∧ hdr n = 5) ∨ (4294967296 ≤ n ∧ hdr n = 9) := by
  rcases Nat.lt_or_ge n 24 with h1 | h1
  · exact .inl ⟨h1, hdr_lt_24 h1⟩
  rcases Nat.lt_or_ge n 256 with h2 | h2
  · exact .inr (.inl ⟨h1, h2, hdr_lt_256 h1 h2⟩)
  rcases Nat.lt_or_ge n 65536 with h3 | h3
  · exact .inr (.inr (.inl ⟨h2, h3, hdr_lt_65536 h2 h3⟩))
  rcases Nat.lt_or_ge n 4294967296 with h4 | h4
  · exact .inr (.inr (.inr (.inl ⟨h3, h4, hdr_lt_2_32 h3 h4⟩)))
  · exact .inr (.inr (.inr (.inr ⟨h4, hdr_ge_2_32 h4⟩)))

theorem hdr_pos (n : Nat) : 1 ≤ hdr n := by
  have := hdr_cases n; omega

theorem hdr_le (n : Nat) : hdr n ≤ 9 := by
  have := hdr_cases n; omega

theorem hdr_mono {a b : Nat} (h : a ≤ b) : hdr a ≤ hdr b := by
  have ha := hdr_cases a; have hb := hdr_cases b; omega

theorem hdr_step_le (n : Nat) : hdr (n + 1) ≤ hdr n + 4 := by
  have ha := hdr_cases n; have hb := hdr_cases (n + 1); omega

/-! ### a byte string with its head: `hdr g + g` bytes -/

theorem padded_mono (F : Nat) {a b : Nat} (h : a ≤ b) : F + hdr a + a ≤ F + hdr b + b := by
  have := hdr_mono h; omega

theorem no_size_between {F q e : Nat} (h1 : F + hdr q + q < e)
    (h2 : e < F + hdr (q + 1) + (q + 1)) (g : Nat) : F + hdr g + g ≠ e := by
  intro hg
  rcases Nat.lt_or_ge q g with c | c
  · have := padded_mono F (show q + 1 ≤ g from c); omega
  · have := padded_mono F c; omega

theorem padded_inj {F a b : Nat} (h : F + hdr a + a = F + hdr b + b) : a = b := by
  rcases Nat.lt_trichotomy a b with c | c | c
  · have := padded_mono F (show a + 1 ≤ b from c); have := hdr_mono (Nat.le_add_right a 1); omega
  · exact c
  · have := padded_mono F (show b + 1 ≤ a from c); have := hdr_mono (Nat.le_add_right b 1); omega

/-- No byte string takes `x + 1` bytes with its head (`unfillable_iff`): the sizes skipped where the
head grows, `x` counted from the empty string's one byte; `cose_pad2_iff` spells the same
disjunction out. (The reserves strictly between `unpadded` and `minPadded`, which
`cose_gap_impossible` and `cose_monotone_partial` speak of, are another set: there no padded form
exists at all.) -/
def Gap (x : Nat) : Prop :=
  x = 24 ∨ x = 257 ∨ x = 65538 ∨ x = 65539 ∨ (4294967300 ≤ x ∧ x ≤ 4294967303)

theorem fillable {x : Nat} (h : ¬ Gap x) : ∃ g, hdr g + g = x + 1 := by
  unfold Gap at h
  rcases Nat.lt_or_ge x 24 with c1 | c1
  · exact ⟨x, by rw [hdr_lt_24 c1]; omega⟩
  rcases Nat.lt_or_ge x 257 with c2 | c2
  · exact ⟨x - 1, by rw [hdr_lt_256 (n := x - 1) (by omega) (by omega)]; omega⟩
  rcases Nat.lt_or_ge x 65538 with c3 | c3
  · exact ⟨x - 2, by rw [hdr_lt_65536 (n := x - 2) (by omega) (by omega)]; omega⟩
  rcases Nat.lt_or_ge x 4294967300 with c4 | c4
  · exact ⟨x - 4, by rw [hdr_lt_2_32 (n := x - 4) (by omega) (by omega)]; omega⟩
  · exact ⟨x - 8, by rw [hdr_ge_2_32 (n := x - 8) (by omega)]; omega⟩

theorem unfillable_iff (x : Nat) : (∀ g, hdr g + g ≠ x + 1) ↔ Gap x := by
  constructor
  · intro h
    apply Classical.byContradiction
    intro hn
    obtain ⟨g, hg⟩ := fillable hn
    exact h g hg
  · intro h g
    unfold Gap at h
    have := hdr_cases g
    omega

/-- A further map entry of `t` bytes, between 6 bytes and about half of what is to be filled,
moves a size out of the gaps. The `16` is the slack `retry_fits` has (`t = 5 + hdr m + m` with
`2 * m ≤ q + 1`, `hdr q + q ≤ y` and `hdr q ≤ 5`); `pad_cose_sig` adds at most 10 bytes. -/
theorem gap_shift {y t : Nat} (hy : Gap y) (h6 : 6 ≤ t) (ht : 2 * t ≤ y + 16) :
    t ≤ y ∧ ¬ Gap (y - t) := by
  unfold Gap at *; omega

/-! ### the step-up loop of both routines -/

/-- One iteration of `pad_to_size`'s loop; `F` is everything but the `pad` byte string. -/
theorem padLoop_succ {d : DH} {F : Nat} (hF : d.rest + optEntry 4 d.pad2 = F) (want fuel p last : Nat) :
    padLoop d want (fuel + 1) p last =
      if F + hdr p + p = want then .done p
      else if F + hdr p + p < want then padLoop d want fuel (p + 1) (last + 1)
      else .overshoot last := by
  rw [show F + hdr p + p = d.rest + hdr p + p + optEntry 4 d.pad2 by omega]
  rfl

/-- The byte-at-a-time loop, with enough fuel: stops at the pad length that gives `want`,
or reports an overshoot after pushing `q + 1 − p` bytes. -/
theorem padLoop_spec {d : DH} {F : Nat} (hF : d.rest + optEntry 4 d.pad2 = F) (want : Nat) :
    ∀ (fuel p last : Nat), F + hdr p + p ≤ want → want - (F + hdr p + p) < fuel →
      (∃ q, p ≤ q ∧ F + hdr q + q = want ∧ padLoop d want fuel p last = .done q) ∨
      (∃ q, p ≤ q ∧ F + hdr q + q < want ∧ want < F + hdr (q + 1) + (q + 1) ∧
        padLoop d want fuel p last = .overshoot (last + (q + 1 - p))) := by
  intro fuel
  induction fuel with
  | zero => intro p last _ h; omega
  | succ fuel ih =>
    intro p last hle hfuel
    rw [padLoop_succ hF]
    rcases Nat.eq_or_lt_of_le hle with heq | hlt
    · exact .inl ⟨p, Nat.le_refl p, heq, if_pos heq⟩
    · rw [if_neg (Nat.ne_of_lt hlt), if_pos hlt]
      rcases Nat.lt_or_ge want (F + hdr (p + 1) + (p + 1)) with hgt | hnext
      · -- the next size is above `want`: the following iteration reports the overshoot
        cases fuel with
        | zero => omega
        | succ f =>
          rw [padLoop_succ hF, if_neg (Nat.ne_of_gt hgt), if_neg (Nat.lt_asymm hgt)]
          exact .inr ⟨p, Nat.le_refl p, hlt, hgt, by rw [Nat.add_sub_cancel_left]⟩
      · have hstep := hdr_mono (Nat.le_add_right p 1)
        rcases ih (p + 1) (last + 1) hnext (by omega) with ⟨q, hq, hf, ha⟩ | ⟨q, hq, hf1, hf2, ha⟩
        · exact .inl ⟨q, Nat.le_of_succ_le hq, hf, ha⟩
        · exact .inr ⟨q, Nat.le_of_succ_le hq, hf1, hf2, by rw [ha]; congr 1; omega⟩

/-! ### COSE: the adjust loop in closed form -/

/-- What `size s (some g) p2` is besides the `hdr g + g` bytes of the `pad` byte string (`size_some`). -/
def fixedPart (s : Sign1) (p2 : Option Nat) : Nat :=
  s.rest + hdr (s.k + 1 + optCount p2) + 4 + optEntry 4 p2

theorem size_some (s : Sign1) (p2 : Option Nat) (g : Nat) :
    size s (some g) p2 = fixedPart s p2 + hdr g + g := by
  simp [size, fixedPart, optCount, optEntry, entry]; omega

theorem size_none_none (s : Sign1) : size s none none = s.rest + hdr s.k := by
  simp [size, optCount, optEntry]

theorem size_none_some (s : Sign1) (m : Nat) :
    size s none (some m) = s.rest + hdr (s.k + 1) + (5 + hdr m + m) := by
  simp [size, optCount, optEntry, entry]

theorem fixedPart_none (s : Sign1) : fixedPart s none = s.rest + hdr (s.k + 1) + 4 := by
  simp [fixedPart, optCount, optEntry]

theorem fixedPart_some (s : Sign1) (m : Nat) :
    fixedPart s (some m) = s.rest + hdr (s.k + 2) + 4 + (5 + hdr m + m) := by
  simp [fixedPart, optCount, optEntry, entry, Nat.add_assoc]

theorem size_empty (s : Sign1) (p2 : Option Nat) : size s (some 0) p2 = fixedPart s p2 + 1 := by
  rw [size_some, hdr_zero]

theorem adjust_succ (s : Sign1) (p2 : Option Nat) (e fuel g : Nat) :
    adjust s p2 e (fuel + 1) g =
      if fixedPart s p2 + hdr g + g < e then adjust s p2 e fuel (g + 1)
      else if fixedPart s p2 + hdr g + g = e then .done g
      else .brk := by
  simp only [adjust, size_some]

/-- The inner loop of `pad_cose_sig` is the loop of `pad_to_size` on a `DataHash` whose bytes
outside `pad` are `fixedPart s p2`, with the count of pushed bytes forgotten. -/
theorem adjust_eq_padLoop (s : Sign1) (p2 : Option Nat) (e : Nat) : ∀ (fuel g last : Nat),
    adjust s p2 e fuel g =
      match padLoop ⟨fixedPart s p2, 0, none⟩ e fuel g last with
      | .done q => .done q
      | .overshoot _ => .brk
      | .fuelOut => .fuelOut := by
  intro fuel
  induction fuel with
  | zero => intro g last; rfl
  | succ fuel ih =>
    intro g last
    rw [adjust_succ, padLoop_succ (F := fixedPart s p2) rfl]
    rcases Nat.lt_trichotomy (fixedPart s p2 + hdr g + g) e with h | h | h
    · simp only [h, Nat.ne_of_lt h, if_true, if_false, ih _ (last + 1)]
    · simp only [h, Nat.lt_irrefl, if_true, if_false]
    · simp only [Nat.lt_asymm h, Nat.ne_of_gt h, if_false]

/-- `attempt` decides exactly whether some length of the single free pad gives `e` bytes, i.e.
whether the remainder over the empty pad is not one of the `Gap` sizes; the ten units of fuel
always suffice and the guarded subtraction never underflows. -/
theorem attempt_spec (s : Sign1) (p2 : Option Nat) (e : Nat) :
    (e < fixedPart s p2 + 1 ∧ attempt s p2 e = .tooSmall) ∨
    (fixedPart s p2 + 1 ≤ e ∧ ¬ Gap (e - (fixedPart s p2 + 1)) ∧
      ∃ g, fixedPart s p2 + hdr g + g = e ∧ attempt s p2 e = .done g) ∨
    (fixedPart s p2 + 1 ≤ e ∧ Gap (e - (fixedPart s p2 + 1)) ∧ attempt s p2 e = .brk) := by
  unfold attempt
  simp only [size_empty]
  by_cases hlt : e < fixedPart s p2 + 1
  · exact .inl ⟨hlt, if_pos hlt⟩
  · right
    have hcs : csub e (fixedPart s p2 + 1) = some (e - (fixedPart s p2 + 1)) :=
      if_pos (Nat.le_of_not_lt hlt)
    simp only [gt_iff_lt, hlt, if_false, hcs]
    generalize hxd : e - (fixedPart s p2 + 1) = x
    have he : e = fixedPart s p2 + 1 + x := by omega
    -- the guess `x - 8` is at most nine bytes short: a head takes between 1 and 9 bytes
    have hguess : fixedPart s p2 + hdr (x - 8) + (x - 8) ≤ e ∧
        e - (fixedPart s p2 + hdr (x - 8) + (x - 8)) < 10 := by
      have := hdr_cases (x - 8); omega
    rcases padLoop_spec (d := ⟨fixedPart s p2, 0, none⟩) (F := fixedPart s p2) rfl e 10 (x - 8) 0
        hguess.1 hguess.2 with
      ⟨q, _, hf, ha⟩ | ⟨q, _, hf1, hf2, ha⟩
    · exact .inl ⟨by omega, fun hgap => (unfillable_iff x).2 hgap q (by omega), q, hf,
        by rw [adjust_eq_padLoop s p2 e 10 (x - 8) 0, ha]⟩
    · exact .inr ⟨by omega, (unfillable_iff x).1 fun g hg => no_size_between hf1 hf2 g (by omega),
        by rw [adjust_eq_padLoop s p2 e 10 (x - 8) 0, ha]⟩

/-- The empty `pad2` entry (6 bytes, and up to 4 more for the head of the map) moves the remainder
out of the gaps: the second attempt cannot break. -/
theorem pad2_leaves_gap (s : Sign1) (e : Nat) (hle : fixedPart s none + 1 ≤ e)
    (hgap : Gap (e - (fixedPart s none + 1))) :
    fixedPart s (some 0) + 1 ≤ e ∧ ¬ Gap (e - (fixedPart s (some 0) + 1)) := by
  have hst : hdr (s.k + 2) ≤ hdr (s.k + 1) + 4 := hdr_step_le (s.k + 1)
  have hmo : hdr (s.k + 1) ≤ hdr (s.k + 2) := hdr_mono (Nat.le_succ _)
  rw [fixedPart_some, hdr_zero]
  rw [fixedPart_none] at hle hgap
  obtain ⟨h6, hng⟩ := gap_shift hgap (t := 6 + (hdr (s.k + 2) - hdr (s.k + 1)))
    (by omega) (by unfold Gap at hgap; omega)
  refine ⟨by omega, ?_⟩
  rwa [show e - (s.rest + hdr (s.k + 1) + 4 + 1) - (6 + (hdr (s.k + 2) - hdr (s.k + 1))) =
    e - (s.rest + hdr (s.k + 2) + 4 + (5 + 1 + 0) + 1) from by omega] at hng

/-! ### COSE: the property -/

/-- Unpadded size (`cur_vec.len()` in `pad_cose_sig`). -/
def unpadded (s : Sign1) : Nat := size s none none

/-- Smallest padded form: one empty `pad` entry. -/
def minPadded (s : Sign1) : Nat := size s (some 0) none

theorem minPadded_eq (s : Sign1) : minPadded s = fixedPart s none + 1 := size_empty s none

theorem unpadded_lt_minPadded (s : Sign1) : unpadded s + 5 ≤ minPadded s := by
  rw [minPadded_eq, fixedPart_none, unpadded, size_none_none]
  have := hdr_mono (Nat.le_add_right s.k 1)
  omega

/-- With fewer than 23 entries in the unprotected map (every real signature: at most the
time-stamp and `rVals` entries) the smallest padded form is exactly five bytes larger. -/
theorem minPadded_small_map (s : Sign1) (hk : s.k + 1 < 24) : minPadded s = unpadded s + 5 := by
  rw [minPadded_eq, fixedPart_none, unpadded, size_none_none, hdr_lt_24 hk,
    hdr_lt_24 (Nat.lt_of_succ_lt hk)]

/-- The routine in closed form: the unpadded structure when the reserve is its size, a size
error below the smallest padded form, otherwise exactly `e` bytes — with the single entry `pad`
where a byte string can fill the rest, with an additional empty `pad2` at the sizes it cannot. -/
theorem padCoseSig_cases (s : Sign1) (e : Nat) :
    (e = unpadded s ∧ padCoseSig s (some e) = .ok e none none) ∨
    (e ≠ unpadded s ∧ e < minPadded s ∧ padCoseSig s (some e) = .tooSmall) ∨
    (minPadded s ≤ e ∧ ¬ Gap (e - minPadded s) ∧
      ∃ g, size s (some g) none = e ∧ padCoseSig s (some e) = .ok e (some g) none) ∨
    (minPadded s ≤ e ∧ Gap (e - minPadded s) ∧
      ∃ g, size s (some g) (some 0) = e ∧ padCoseSig s (some e) = .ok e (some g) (some 0)) := by
  rw [minPadded_eq]
  unfold padCoseSig
  by_cases hcur : size s none none = e
  · exact .inl ⟨hcur.symm, by simp only [hcur, if_true]⟩
  · right
    simp only [hcur, if_false]
    rcases attempt_spec s none e with ⟨hl, ha⟩ | ⟨hle, hng, g, hg, ha⟩ | ⟨hle, hgap, ha⟩
    · exact .inl ⟨fun h => hcur h.symm, hl, by rw [ha]⟩
    · exact .inr (.inl ⟨hle, hng, g, by rw [size_some, hg], by simp only [ha, size_some, hg]⟩)
    · refine .inr (.inr ⟨hle, hgap, ?_⟩)
      obtain ⟨hle2, hng2⟩ := pad2_leaves_gap s e hle hgap
      rw [ha]
      rcases attempt_spec s (some 0) e with ⟨hl, _⟩ | ⟨_, _, g, hg, hb⟩ | ⟨_, hgap2, _⟩
      · omega
      · exact ⟨g, by rw [size_some, hg], by simp only [hb, size_some, hg]⟩
      · exact absurd hgap2 hng2

/-- **Exact characterisation.** `pad_cose_sig` succeeds for a reserve `e` iff `e` is the
unpadded size or at least the smallest padded form (that the result then has exactly `e` bytes
is `cose_ok_exact`). -/
theorem cose_ok_iff (s : Sign1) (e : Nat) :
    (∃ len p p2, padCoseSig s (some e) = .ok len p p2) ↔ (e = unpadded s ∨ minPadded s ≤ e) := by
  rcases padCoseSig_cases s e with ⟨h1, h⟩ | ⟨h1, h2, h⟩ | ⟨h1, _, g, _, h⟩ | ⟨h1, _, g, _, h⟩
  · exact ⟨fun _ => .inl h1, fun _ => ⟨_, _, _, h⟩⟩
  · rw [h]
    exact ⟨fun ⟨_, _, _, h'⟩ => (nomatch h'), fun h' => by exfalso; omega⟩
  · exact ⟨fun _ => .inr h1, fun _ => ⟨_, _, _, h⟩⟩
  · exact ⟨fun _ => .inr h1, fun _ => ⟨_, _, _, h⟩⟩

/-- **Soundness of every `Ok`.** Whatever reserve is given, a successful result has exactly
the reserved length, and that length is the size of the structure with the reported pads. -/
theorem cose_ok_exact (s : Sign1) (e len : Nat) (p p2 : Option Nat)
    (h : padCoseSig s (some e) = .ok len p p2) : len = e ∧ size s p p2 = e := by
  rcases padCoseSig_cases s e with ⟨h1, h'⟩ | ⟨_, _, h'⟩ | ⟨_, _, g, hg, h'⟩ | ⟨_, _, g, hg, h'⟩ <;>
    rw [h'] at h <;> cases h
  · exact ⟨rfl, h1.symm⟩
  · exact ⟨rfl, hg⟩
  · exact ⟨rfl, hg⟩

/-- The statement's first sentence for signatures, at full strength, as a `Prop`:
every reserve that is at least the unpadded size is met exactly. -/
def CosePadExactFull : Prop :=
  ∀ (s : Sign1) (e : Nat), unpadded s ≤ e → ∃ p p2, padCoseSig s (some e) = .ok e p p2

/-- **cose_pad_exact (partial).** Every reserve that equals the unpadded size or is at
least the smallest padded form (unpadded + 5 for every real signature, see
`minPadded_small_map`) is met exactly. Partial: the reserves strictly between are excluded. -/
theorem cose_pad_exact_partial (s : Sign1) (e : Nat) (h : e = unpadded s ∨ minPadded s ≤ e) :
    ∃ p p2, padCoseSig s (some e) = .ok e p p2 ∧ size s p p2 = e := by
  obtain ⟨len, p, p2, hok⟩ := (cose_ok_iff s e).2 h
  obtain ⟨h1, h2⟩ := cose_ok_exact s e len p p2 hok
  subst h1
  exact ⟨p, p2, hok, h2⟩

example : minPadded ⟨1066, 0⟩ ≤ unpadded ⟨1066, 0⟩ + 29 := by decide +kernel
example : ∃ p p2, padCoseSig ⟨1066, 0⟩ (some (unpadded ⟨1066, 0⟩ + 29)) = .ok 1096 p p2 :=
  ⟨some 18, some 0, by decide +kernel⟩

/-- The code falsifies the full statement: one byte over the unpadded size is a size error
(replayed on the implementation by the harness: `base=B end=B+1`). -/
theorem cose_pad_exact_full_false : ¬ CosePadExactFull := by
  intro h
  obtain ⟨p, p2, hp⟩ := h ⟨100, 0⟩ 102 (by decide +kernel)
  have : padCoseSig ⟨100, 0⟩ (some 102) = .tooSmall := by decide +kernel
  rw [this] at hp; cases hp

/-- **The residual gap is not the loop's choice, it is the scheme's.** With the two labelled
byte-string entries the routine (and every existing reader) uses — `"pad": bytes`,
`"pad2": bytes` — no choice of lengths gives a serialised size strictly between the unpadded
size and the smallest padded form: such an entry takes at least five bytes (1 + 3 + 1).
This says nothing about other CBOR entries: a map entry can be as small as two bytes
(`0: 0`), so with a different padding vocabulary only +1 would be out of reach. -/
theorem cose_gap_impossible (s : Sign1) (p p2 : Option Nat) :
    size s p p2 = unpadded s ∨ minPadded s ≤ size s p p2 := by
  rw [minPadded_eq, fixedPart_none]
  have m1 := hdr_mono (show s.k ≤ s.k + 1 by omega)
  have m2 := hdr_mono (show s.k + 1 ≤ s.k + 2 by omega)
  cases p with
  | none =>
    cases p2 with
    | none => left; rfl
    | some m =>
      right
      have := hdr_pos m
      rw [size_none_some]; omega
  | some n =>
    right
    have := hdr_pos n
    rw [size_some]
    cases p2 with
    | none => rw [fixedPart_none]; omega
    | some m =>
      have := hdr_pos m
      rw [fixedPart_some]; omega

/-- The statement's second sentence at full strength. -/
def CoseMonotoneFull : Prop :=
  ∀ (s : Sign1) (e e' : Nat), e ≤ e' →
    (∃ len p p2, padCoseSig s (some e) = .ok len p p2) →
    (∃ len p p2, padCoseSig s (some e') = .ok len p p2)

/-- **cose_monotone (partial).** A reserve larger than one that succeeds succeeds, unless it
lies strictly between the unpadded size and the smallest padded form. -/
theorem cose_monotone_partial (s : Sign1) (e e' : Nat) (hle : e ≤ e')
    (hok : ∃ len p p2, padCoseSig s (some e) = .ok len p p2)
    (hgap : ¬ (unpadded s < e' ∧ e' < minPadded s)) :
    ∃ len p p2, padCoseSig s (some e') = .ok len p p2 := by
  rw [cose_ok_iff] at hok ⊢
  have := unpadded_lt_minPadded s
  omega

example : (∃ len p p2, padCoseSig ⟨1066, 0⟩ (some 1096) = .ok len p p2) ∧
    ¬ (unpadded ⟨1066, 0⟩ < 1300 ∧ 1300 < minPadded ⟨1066, 0⟩) :=
  ⟨⟨1096, some 18, some 0, by decide +kernel⟩, by decide +kernel⟩

theorem cose_monotone_full_false : ¬ CoseMonotoneFull := by
  intro h
  have h1 : ∃ len p p2, padCoseSig ⟨100, 0⟩ (some 101) = .ok len p p2 :=
    ⟨101, none, none, by decide +kernel⟩
  obtain ⟨len, p, p2, hp⟩ := h ⟨100, 0⟩ 101 102 (by decide +kernel) h1
  have : padCoseSig ⟨100, 0⟩ (some 102) = .tooSmall := by decide +kernel
  rw [this] at hp; cases hp

/-- **no_panic (COSE).** For every structure and every reserve (or none) the routine neither
underflows a `usize` subtraction nor runs out of the model's loop fuel. -/
theorem cose_no_panic (s : Sign1) (endSize : Option Nat) :
    padCoseSig s endSize ≠ .panic ∧ padCoseSig s endSize ≠ .fuelOut := by
  cases endSize with
  | none => exact ⟨nofun, nofun⟩
  | some e =>
    rcases padCoseSig_cases s e with ⟨_, h⟩ | ⟨_, _, h⟩ | ⟨_, _, g, _, h⟩ | ⟨_, _, g, _, h⟩ <;>
      rw [h] <;> exact ⟨nofun, nofun⟩

/-- No reserve: the plain serialisation is returned. -/
theorem cose_no_reserve (s : Sign1) : padCoseSig s none = .ok (unpadded s) none none := rfl

example : (⟨1066, 0⟩ : Sign1).k + 1 < 24 ∧ unpadded ⟨1066, 0⟩ + 263 ≤ 2070 ∧
    2070 ≤ unpadded ⟨1066, 0⟩ + 65542 := by decide +kernel

/-- For a reserve 263 … 65542 bytes over the unpadded size (small map) the result is the single
`pad` of `e − unpadded − 7` bytes. "Unchanged" in the name looks at the routine before
fixes/C14-cose-pad-exact.patch, which met these reserves in this way; that routine is not modelled,
so the statement is about the present routine only and agreement with the old one is not a theorem. -/
theorem cose_window_unchanged (s : Sign1) (e : Nat) (hk : s.k + 1 < 24)
    (hlo : unpadded s + 263 ≤ e) (hhi : e ≤ unpadded s + 65542) :
    padCoseSig s (some e) = .ok e (some (e - unpadded s - 7)) none := by
  have hmp := minPadded_small_map s hk
  rcases padCoseSig_cases s e with ⟨h1, _⟩ | ⟨_, h2, _⟩ | ⟨_, _, g, hg, h⟩ | ⟨_, hgap, _⟩
  · omega
  · omega
  · -- the size grows strictly with the pad length, so the pad length is the one that fits
    have h3 : hdr (e - unpadded s - 7) = 3 := hdr_lt_65536 (by omega) (by omega)
    rw [minPadded_eq] at hmp
    rw [size_some] at hg
    rw [h, padded_inj (F := fixedPart s none) (a := g) (b := e - unpadded s - 7) (by omega)]
  · unfold Gap at hgap; omega

/-- For a reserve at or above the smallest padded form the routine uses the
second entry `pad2` (always empty) exactly at the sizes a single byte string cannot fill:
24, 257, 65538, 65539 and 2^32+4 … 2^32+7 bytes over the smallest padded form. -/
theorem cose_pad2_iff (s : Sign1) (e : Nat) (h : minPadded s ≤ e) :
    (∃ len p, padCoseSig s (some e) = .ok len p (some 0)) ↔
      (let x := e - minPadded s
       x = 24 ∨ x = 257 ∨ x = 65538 ∨ x = 65539 ∨ (4294967300 ≤ x ∧ x ≤ 4294967303)) := by
  show _ ↔ Gap (e - minPadded s)
  have hlt := unpadded_lt_minPadded s
  rcases padCoseSig_cases s e with ⟨h1, _⟩ | ⟨_, h2, _⟩ | ⟨_, hng, g, _, h'⟩ | ⟨_, hgap, g, _, h'⟩
  · omega
  · omega
  · rw [h']
    exact ⟨fun ⟨_, _, h''⟩ => (nomatch h''), fun hg => absurd hg hng⟩
  · exact ⟨fun _ => hgap, fun _ => ⟨_, _, h'⟩⟩

example : ∃ len p, padCoseSig ⟨1066, 0⟩ (some (minPadded ⟨1066, 0⟩ + 24)) = .ok len p (some 0) :=
  ⟨1096, some 18, by decide +kernel⟩
example : ∃ len p, padCoseSig ⟨1066, 0⟩ (some (minPadded ⟨1066, 0⟩ + 25)) = .ok len p none :=
  ⟨1097, some 24, by decide +kernel⟩

/-! ### DataHash::pad_to_size -/

theorem dhSize_with (d : DH) (p : Nat) :
    dhSize { d with pad := p } = d.rest + hdr p + p + optEntry 4 d.pad2 := rfl

theorem dhSize_none (r p : Nat) : dhSize ⟨r, p, none⟩ = r + hdr p + p := by
  simp [dhSize, optEntry]

theorem dhSize_some (r p m : Nat) : dhSize ⟨r, p, some m⟩ = r + hdr p + p + (5 + hdr m + m) := by
  simp [dhSize, optEntry, entry]

theorem padToSizeF_succ (depth : Nat) (d : DH) (want : Nat) :
    padToSizeF (depth + 1) d want =
      if dhSize d > want then .err
      else
        match padLoop d want (want - dhSize d + 2) d.pad 0 with
        | .done p => .ok { d with pad := p }
        | .fuelOut => .fuelOut
        | .overshoot last =>
          match d.pad2 with
          | some _ => .err
          | none => padToSizeF depth { d with pad := 0, pad2 := some (last / 2) } want := rfl

theorem padToSize_err (d : DH) (want : Nat) (h : dhSize d > want) : padToSize d want = .err :=
  if_pos h

/-- One call with `pad2` already set (the retry level, or a caller-set `pad2`): `Ok` with the pad
length that gives the desired size, the error if no length from `p` upwards does; never out of
fuel. -/
theorem retry_level (depth r p m want : Nat) :
    (∃ q, p ≤ q ∧ r + hdr q + q + (5 + hdr m + m) = want ∧
      padToSizeF (depth + 1) ⟨r, p, some m⟩ want = .ok ⟨r, q, some m⟩) ∨
    ((∀ q, p ≤ q → r + hdr q + q + (5 + hdr m + m) ≠ want) ∧
      padToSizeF (depth + 1) ⟨r, p, some m⟩ want = .err) := by
  rw [padToSizeF_succ, dhSize_some]
  by_cases hc : r + hdr p + p + (5 + hdr m + m) > want
  · refine .inr ⟨fun q hq hs => ?_, if_pos hc⟩
    have := padded_mono r hq
    omega
  · rw [if_neg hc]
    rcases padLoop_spec (d := ⟨r, p, some m⟩) (F := r + (5 + hdr m + m)) rfl want
        (want - (r + hdr p + p + (5 + hdr m + m)) + 2) p 0 (by omega) (by omega) with
      ⟨q, hq, hf, ha⟩ | ⟨q, hq, hf1, hf2, ha⟩
    · exact .inl ⟨q, hq, by omega, by rw [ha]⟩
    · exact .inr ⟨fun q' _ hs => no_size_between hf1 hf2 q' (by omega), by rw [ha]⟩

/-- The call the SDK makes (`pad2 = None`): `Ok` with the pad length that gives the desired size, or
the loop overshoots between two consecutive sizes and the routine calls itself once with
`pad2 = last_pad / 2`, `last_pad = q + 1 − p` the bytes pushed. -/
theorem first_level (r p want : Nat) (hle : r + hdr p + p ≤ want) :
    (∃ q, p ≤ q ∧ r + hdr q + q = want ∧ padToSize ⟨r, p, none⟩ want = .ok ⟨r, q, none⟩) ∨
    (∃ q, p ≤ q ∧ r + hdr q + q < want ∧ want < r + hdr (q + 1) + (q + 1) ∧
      padToSize ⟨r, p, none⟩ want = padToSizeF 1 ⟨r, 0, some ((q + 1 - p) / 2)⟩ want) := by
  show (∃ q, _ ∧ _ ∧ padToSizeF (1 + 1) _ _ = _) ∨ (∃ q, _ ∧ _ ∧ _ ∧ padToSizeF (1 + 1) _ _ = _)
  rw [padToSizeF_succ, dhSize_none, if_neg (Nat.not_lt.2 hle)]
  rcases padLoop_spec (d := ⟨r, p, none⟩) (F := r) rfl want (want - (r + hdr p + p) + 2) p 0 hle
      (by omega) with
    ⟨q, hq, hf, ha⟩ | ⟨q, hq, hf1, hf2, ha⟩
  · exact .inl ⟨q, hq, hf, by rw [ha]⟩
  · exact .inr ⟨q, hq, hf1, hf2, by rw [ha, Nat.zero_add]⟩

/-- An overshoot happens where the head of `pad` grows; with a `pad2` of at most half the bytes
pushed up to there, some length of `pad` gives the desired size. -/
theorem retry_fits {r q want : Nat} (m : Nat) (hm : m ≤ (q + 1) / 2)
    (hlo : r + hdr q + q < want) (hhi : want < r + hdr (q + 1) + (q + 1)) :
    ∃ g, r + hdr g + g + (5 + hdr m + m) = want := by
  have hy : Gap (want - r - 1) := by
    rw [← unfillable_iff]
    exact fun g hg => no_size_between hlo hhi g (by omega)
  -- the head of `pad` grows at `q`, so it is not yet the 9-byte one, and `pad2` is at most half of `q + 1`
  have h4 : hdr q ≤ 5 := by have := hdr_cases q; have := hdr_le (q + 1); omega
  have h1 := hdr_pos m
  have h2 := hdr_mono (show m ≤ q by omega)
  obtain ⟨hfit, hng⟩ := gap_shift hy (t := 5 + hdr m + m) (by omega) (by omega)
  obtain ⟨g, hg⟩ := fillable hng
  exact ⟨g, by omega⟩

/-- For every `DataHash` without a second pad (every one the SDK
builds: `DataHash::new` sets `pad2 = None`), any starting pad, and every desired size that is
at least the current size, `pad_to_size` succeeds and the assertion then has exactly the
desired size; nothing but the pads changes. -/
theorem datahash_pad_exact (d : DH) (want : Nat) (h2 : d.pad2 = none) (hle : dhSize d ≤ want) :
    ∃ d', padToSize d want = .ok d' ∧ dhSize d' = want ∧ d'.rest = d.rest := by
  obtain ⟨r, p, pad2⟩ := d
  simp only at h2; subst h2
  rw [dhSize_none] at hle
  rcases first_level r p want hle with ⟨q, _, hs, h⟩ | ⟨q, hq, h1, h2, h⟩
  · exact ⟨_, h, by rw [dhSize_none, hs], rfl⟩
  · rw [h]
    obtain ⟨g, hg⟩ :=
      retry_fits ((q + 1 - p) / 2) (Nat.div_le_div_right (Nat.sub_le _ _)) h1 h2
    rcases retry_level 0 r 0 ((q + 1 - p) / 2) want with ⟨q', _, hs, h'⟩ | ⟨hno, _⟩
    · exact ⟨_, h', by rw [dhSize_some, hs], rfl⟩
    · exact absurd hg (hno g (Nat.zero_le g))

example : (⟨247, 0, none⟩ : DH).pad2 = none ∧ dhSize ⟨247, 0, none⟩ ≤ 248 + 65539 := by decide +kernel
example : padToSize ⟨247, 0, none⟩ (248 + 24) = .ok ⟨247, 6, some 12⟩ := by decide +kernel

/-- The routine in closed form, for every `DataHash` (preset `pad2` included): the error, or `Ok`
with exactly the desired size and nothing but the pads changed; never out of fuel. -/
theorem padToSize_cases (d : DH) (want : Nat) :
    padToSize d want = .err ∨
      ∃ d', padToSize d want = .ok d' ∧ dhSize d' = want ∧ d'.rest = d.rest := by
  by_cases hle : dhSize d ≤ want
  · obtain ⟨r, p, pad2⟩ := d
    cases pad2 with
    | none => exact .inr (datahash_pad_exact _ want rfl hle)
    | some m =>
      rcases retry_level 1 r p m want with ⟨q, _, hs, h⟩ | ⟨_, h⟩
      · exact .inr ⟨_, h, by rw [dhSize_some, hs], rfl⟩
      · exact .inl h
  · exact .inl (padToSize_err d want (Nat.lt_of_not_le hle))

/-- **Every `Ok` is exact**, also for a `DataHash` whose `pad2` the caller has set. -/
theorem datahash_ok_exact (d d' : DH) (want : Nat) (h : padToSize d want = .ok d') :
    dhSize d' = want ∧ d'.rest = d.rest := by
  rcases padToSize_cases d want with he | ⟨d'', h', hs⟩
  · rw [he] at h; cases h
  · rw [h'] at h; cases h; exact hs

/-- For every `DataHash` the SDK builds (`pad2 = None`) `pad_to_size`
succeeds exactly when the desired size is at least the current size. -/
theorem datahash_ok_iff (d : DH) (want : Nat) (h2 : d.pad2 = none) :
    (∃ d', padToSize d want = .ok d') ↔ dhSize d ≤ want := by
  constructor
  · rintro ⟨d', h⟩
    apply Classical.byContradiction
    intro hn
    rw [padToSize_err d want (by omega)] at h
    cases h
  · intro hle
    obtain ⟨d', h, _⟩ := datahash_pad_exact d want h2 hle
    exact ⟨d', h⟩

/-- For a `DataHash` the SDK builds (`pad2 = None`) a desired size larger than one that succeeds
succeeds: the statement's second sentence for the data-hash assertion. -/
theorem datahash_monotone (d : DH) (want want' : Nat) (h2 : d.pad2 = none) (hle : want ≤ want')
    (hok : ∃ d', padToSize d want = .ok d') : ∃ d', padToSize d want' = .ok d' := by
  rw [datahash_ok_iff d _ h2] at hok ⊢
  omega

/-- With a caller-set `pad2` (a public field the SDK itself never
sets before the call) the single retry is used up: it succeeds exactly when some pad length
from the current one upwards gives the desired size. -/
theorem datahash_preset_ok_iff (r p m want : Nat) :
    (∃ d', padToSize ⟨r, p, some m⟩ want = .ok d') ↔
      ∃ q, p ≤ q ∧ r + hdr q + q + (5 + hdr m + m) = want := by
  rcases retry_level 1 r p m want with ⟨q, hq, hs, h⟩ | ⟨hno, h⟩
  · exact ⟨fun _ => ⟨q, hq, hs⟩, fun _ => ⟨_, h⟩⟩
  · refine ⟨fun ⟨_, h'⟩ => ?_, fun ⟨q, hq, hs⟩ => absurd hs (hno q hq)⟩
    rw [show padToSize _ _ = _ from h] at h'
    cases h'

/-- The statement's second sentence for *every* `DataHash` value, preset `pad2` included. -/
def DataHashMonotoneFull : Prop :=
  ∀ (d : DH) (want want' : Nat), want ≤ want' →
    (∃ d', padToSize d want = .ok d') → (∃ d', padToSize d want' = .ok d')

/-- `DataHashMonotoneFull` is false: with `pad2` preset, 130 succeeds (already that size) and 131 is
an error (the pad header grows at 24 bytes and the retry is used up). In the line protocol this is
`C14 dh a=101 pad=23 pad2=0 want=130 | 131`; the harness replays the current size, +1 and +2 on each of
its DataHash shapes (`preset-pad2-witness`). -/
theorem datahash_monotone_full_false : ¬ DataHashMonotoneFull := by
  intro h
  have h1 : ∃ d', padToSize ⟨100, 23, some 0⟩ 130 = .ok d' := ⟨⟨100, 23, some 0⟩, by decide +kernel⟩
  obtain ⟨d', hd⟩ := h ⟨100, 23, some 0⟩ 130 131 (by decide +kernel) h1
  have : padToSize ⟨100, 23, some 0⟩ 131 = .err := by decide +kernel
  rw [this] at hd; cases hd

/-- With a caller-set `pad2` the single retry is already used up: a desired size just past
a head boundary is an error (never a wrong size, see `datahash_ok_exact`). The SDK never
builds such a value; the hypothesis `pad2 = none` of `datahash_pad_exact` is needed. -/
theorem datahash_preset_pad2_can_fail :
    ∃ d want, d.pad2 ≠ none ∧ dhSize d ≤ want ∧ padToSize d want = .err :=
  ⟨⟨100, 23, some 0⟩, 131, by decide +kernel, by decide +kernel, by decide +kernel⟩

/-- **Termination (DataHash).** The loop ends within `desired − current + 2` iterations and the
self-recursion is at most one deep: the model's fuel never runs out. (`pad_to_size` contains no
subtraction, so the model has no panic outcome to exclude.) -/
theorem datahash_terminates (d : DH) (want : Nat) : padToSize d want ≠ .fuelOut := by
  rcases padToSize_cases d want with h | ⟨_, h, _⟩ <;> rw [h] <;> nofun

/-! ### `save_to_stream`: the placeholder JUMBF and the final JUMBF have the same length -/

theorem sameSizeCheck_iff (a b : Nat) : sameSizeCheck a b = true ↔ a = b := by
  simp [sameSizeCheck]

/-- The equal-size check of `start_save_stream` never fires: whenever `pad_to_size` returned
`Ok` the regenerated JUMBF has the placeholder's size (`datahash_ok_exact`). The check is a
second line of defence, not a reachable error path of the model. -/
theorem save_check_never_fires (v : Save) (d' : DH)
    (h : padToSize v.dh1 (dhSize v.dh0) = .ok d') :
    sameSizeCheck (v.fixed + sigPlaceholder v.reserve + dhSize v.dh0)
      (v.fixed + sigPlaceholder v.reserve + dhSize d') = true := by
  rw [sameSizeCheck_iff, (datahash_ok_exact _ _ _ h).1]

/-- `save_to_stream` in closed form: `JumbfCreationError` exactly when `pad_to_size` fails; otherwise
the equal-size check passes, the final DataHash has the placeholder's size, and the outcome is that of
`sign_claim`. -/
theorem Save.run_cases (v : Save) :
    (padToSize v.dh1 (dhSize v.dh0) = .err ∧ v.run = .jumbfError) ∨
    (∃ d', padToSize v.dh1 (dhSize v.dh0) = .ok d' ∧
      v.run =
        if v.direct then
          .ok (v.fixed + sigPlaceholder v.reserve + dhSize v.dh0)
            (v.fixed + unpadded v.sig + dhSize v.dh0)
        else
          match padCoseSig v.sig (some v.reserve) with
          | .ok len _ _ =>
            .ok (v.fixed + sigPlaceholder v.reserve + dhSize v.dh0) (v.fixed + len + dhSize v.dh0)
          | .tooSmall => .sigTooSmall
          | .panic => .panic
          | .fuelOut => .fuelOut) := by
  unfold Save.run
  rcases padToSize_cases v.dh1 (dhSize v.dh0) with h | ⟨d', h, hsz, _⟩
  · exact .inl ⟨h, by rw [h]⟩
  · refine .inr ⟨d', h, ?_⟩
    rw [h]
    simp only [save_check_never_fires v d' h, Bool.not_true, Bool.false_eq_true, if_false]
    rw [hsz]
    rfl

/-- When the SDK pads the signature (no direct COSE handling) and the
signer's COSE structure is at least as large as the 32-byte placeholder digest (every
COSE_Sign1 with a certificate is), a successful run ends with a final JUMBF of exactly the
length of the placeholder JUMBF that was embedded and hashed. -/
theorem save_same_size (v : Save) (ph fin : Nat) (hd : v.direct = false)
    (hs : 32 ≤ unpadded v.sig) (h : v.run = .ok ph fin) : fin = ph := by
  rcases Save.run_cases v with ⟨_, hr⟩ | ⟨d', _, hr⟩ <;> rw [hr] at h
  · cases h
  · -- an accepted reserve is at least the unpadded size, so the 32-byte floor is not in effect
    have hlt := unpadded_lt_minPadded v.sig
    have hph : 32 ≤ v.reserve → sigPlaceholder v.reserve = v.reserve := Nat.max_eq_right
    simp only [hd, Bool.false_eq_true, if_false] at h
    rcases padCoseSig_cases v.sig v.reserve with ⟨h1, hq⟩ | ⟨_, _, hq⟩ | ⟨h1, _, g, _, hq⟩ |
        ⟨h1, _, g, _, hq⟩ <;>
      rw [hq] at h <;> cases h <;> rw [hph (by omega)]

/-- When the SDK pads the signature (no direct COSE handling) and the final DataHash has no preset
`pad2`, the run signs successfully iff the final DataHash is not larger than the
placeholder's and the reserve is the unpadded COSE size or at least the smallest padded form. -/
theorem save_ok_iff (v : Save) (hd : v.direct = false) (h2 : v.dh1.pad2 = none) :
    (∃ ph fin, v.run = .ok ph fin) ↔
      (dhSize v.dh1 ≤ dhSize v.dh0 ∧
        (v.reserve = unpadded v.sig ∨ minPadded v.sig ≤ v.reserve)) := by
  rw [← cose_ok_iff, ← datahash_ok_iff _ _ h2]
  rcases Save.run_cases v with ⟨hp, hr⟩ | ⟨d', hp, hr⟩ <;> rw [hr, hp]
  · exact ⟨fun ⟨_, _, h⟩ => (nomatch h), fun ⟨⟨_, h⟩, _⟩ => (nomatch h)⟩
  · simp only [hd, Bool.false_eq_true, if_false]
    constructor
    · rintro ⟨ph, fin, h⟩
      refine ⟨⟨d', rfl⟩, ?_⟩
      cases hq : padCoseSig v.sig (some v.reserve) with
      | ok len p p2 => exact ⟨len, p, p2, rfl⟩
      | tooSmall => rw [hq] at h; cases h
      | panic => rw [hq] at h; cases h
      | fuelOut => rw [hq] at h; cases h
    · rintro ⟨_, len, p, p2, hq⟩
      rw [hq]
      exact ⟨_, _, rfl⟩

example : (⟨5000, 1300, ⟨1066, 0⟩, false, ⟨240, 10, none⟩, ⟨150, 0, none⟩⟩ : Save).run =
    .ok 6551 6551 := by decide +kernel
example : (⟨5000, 1068, ⟨1066, 0⟩, false, ⟨240, 10, none⟩, ⟨150, 0, none⟩⟩ : Save).run =
    .sigTooSmall := by decide +kernel

/-- The 32-byte floor of the placeholder is why `save_same_size` needs `32 ≤ unpadded`: a
(hypothetical) 20-byte COSE structure with a reserve of 20 is embedded behind a 32-byte
placeholder and ends 12 bytes shorter. No signer with a certificate produces one. -/
theorem save_small_sig_differs :
    (⟨0, 20, ⟨19, 0⟩, false, ⟨10, 0, none⟩, ⟨10, 0, none⟩⟩ : Save).run = .ok 43 31 := by decide +kernel

/-- With `direct_cose_handling()` the SDK does not pad: the final
JUMBF has the placeholder's length iff the signer itself returned exactly
`max(32, reserve)` bytes. -/
theorem save_direct_unpadded (v : Save) (ph fin : Nat) (hd : v.direct = true)
    (h : v.run = .ok ph fin) : (fin = ph ↔ unpadded v.sig = sigPlaceholder v.reserve) := by
  rcases Save.run_cases v with ⟨_, hr⟩ | ⟨d', _, hr⟩ <;> rw [hr] at h
  · cases h
  · rw [hd, if_pos rfl] at h
    cases h
    omega

end C2pa.C14
