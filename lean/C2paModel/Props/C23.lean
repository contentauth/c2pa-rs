import C2paModel.Model.C23
import C2paModel.Gen.C23Sites
import C2paModel.Lemmas.DecideRun
/-
C23 — property theorems (cancellation).

Statement: if the progress callback returns false at any of its invocations, or the context
is cancelled at any point, the running operation ends with the cancellation error; it never
succeeds and never reports the cancellation as a validation failure. Progress steps are
positive, never exceed a non-zero total, and increase within a run of one phase.

Three layers, in the order of the file:

1. **Checkpoint semantics** (`run`/`runF`/`runS`), for any list of checkpoints that all propagate:
   the first checkpoint whose callback answers `false`, or that observes the cancel flag (whoever
   set it, and when: `schedule_cancels`), ends the operation with `OperationCancelled` after exactly
   k+1 callback calls; it never finishes. One swallowing or discarding checkpoint breaks this (proved
   witnesses).
2. **Source table** (`Gen/C23Sites.lean`, regenerated from sdk/src on every run): the transitive
   closure `cancelFns`/`condFns` of the functions that can return `OperationCancelled`, and one
   row per call of such a function with what the caller does with the error.
   `all_cancel_paths_propagate`: every row hands the error to the caller's own return value
   (reviewed exception: the OCSP checkpoint, an open finding). `callers_closed`: the caller of a
   propagating row is itself in the closure — so its callers are rows too, up to the public API.
   Then layer 1 *on sequences of table rows* (`source_sites_cancel…`): the harness sends the
   (file, line) sequence each real operation reached; the driver checks every one is a table row
   (`lookupAll_mem`) and runs the model on it.
3. **Progress traces**. Two rules: `traceWf` is the third sentence of the statement read literally,
   a restart at step 1 allowed anywhere, which a counter stuck at step 1 satisfies;
   `traceWfStrict` allows a restart only after a completed pass (`stuck_counter_rejected`). The
   strict rule is the one the driver applies to real traces and the one the counters of the source
   (`ingredient_checks`, the C13 hash ticks, the BMFF tick counter, the re-counting closure of
   `verify_hash_binding`, trees of nested ingredients) are proved to meet; it implies every clause
   of the third sentence (`traceWfStrict_tickOk`, `traceWfStrict_adjacent`).
-/
namespace C2pa.C23

/-! ### checkpoint semantics: generic theorems -/

theorem runS_cancel_at (cb : Cb) (flagAt : Nat → Bool) (k : Nat)
    (hk : cb k = false ∨ flagAt k = true) :
    ∀ (sites : List Site) (i : Nat) (logged : Bool),
      AllPropagate sites → i ≤ k → k - i < sites.length →
      (∀ j, i ≤ j → j < k → cb j = true ∧ flagAt j = false) →
      runS cb flagAt sites i logged = .cancelled (k + 1) := by
  intro sites
  induction sites with
  | nil => intro i logged _ _ hlen _; simp at hlen
  | cons s rest ih =>
    intro i logged hall hik hlen hpre
    unfold runS
    simp only [checkProgressS]
    by_cases hi : i = k
    · subst hi
      have hs : s.disp = .propagate := hall s (List.mem_cons_self ..)
      have : (cb i && !flagAt i) = false := by
        rcases hk with h | h <;> simp [h]
      simp [this, hs]
    · have hlt : i < k := Nat.lt_of_le_of_ne hik hi
      obtain ⟨h1, h2⟩ := hpre i (Nat.le_refl _) hlt
      simp only [h1, h2, Bool.not_false, Bool.and_self, if_true]
      apply ih
      · intro x hx; exact hall x (List.mem_cons_of_mem _ hx)
      · omega
      · simp at hlen; omega
      · intro j hj hjk; exact hpre j (by omega) hjk

/-- **Any schedule of the cancel flag**: `flagAt i` is the flag value checkpoint i observes
(set in the callback, by another thread while the callback runs, or by another thread at any
moment since checkpoint i-1). The first checkpoint k at which the callback answers `false` *or*
the flag is observed ends the operation with `OperationCancelled` after k+1 callback calls. -/
theorem schedule_cancels (sites : List Site) (cb : Cb) (flagAt : Nat → Bool) (k : Nat)
    (hall : AllPropagate sites) (hk : k < sites.length)
    (hstop : cb k = false ∨ flagAt k = true)
    (hpre : ∀ j, j < k → cb j = true ∧ flagAt j = false) :
    runS cb flagAt sites 0 false = .cancelled (k + 1) :=
  runS_cancel_at cb flagAt k hstop sites 0 false hall (Nat.zero_le _) (by simpa using hk)
    (fun j _ hj => hpre j hj)

/-- **cancel() from another thread between checkpoints k-1 and k** (or during callback k): the
flag is observed from checkpoint k on; the operation ends there. -/
theorem cancel_between_checkpoints_cancels (sites : List Site) (cb : Cb) (k : Nat)
    (hall : AllPropagate sites) (hk : k < sites.length) (hcb : ∀ j, cb j = true) :
    runS cb (fun i => decide (k ≤ i)) sites 0 false = .cancelled (k + 1) :=
  schedule_cancels sites cb _ k hall hk (Or.inr (by simp))
    (fun j hj => ⟨hcb j, by simp; omega⟩)

theorem runS_never_eq_run (cb : Cb) : ∀ (sites : List Site) (i : Nat) (l : Bool),
    runS cb (fun _ => false) sites i l = run (some cb) false sites i l := by
  intro sites
  induction sites with
  | nil => intro i l; simp [runS, run]
  | cons s rest ih =>
    intro i l
    unfold runS run
    simp only [checkProgressS, checkProgress, Bool.not_false, Bool.and_true]
    split
    · simp [ih]
    · cases s.disp <;> simp [ih]

/-- A callback that calls `Context::cancel()` during invocation `k` is the schedule "set from
checkpoint k on": the flag `runF` carries is set exactly when checkpoint k is behind. -/
theorem runF_eq_runS (cb : Cb) (k : Nat) : ∀ (sites : List Site) (i : Nat) (flag l : Bool),
    flag = decide (k < i) →
    runF cb k sites i flag l = runS cb (fun j => decide (k ≤ j)) sites i l := by
  intro sites
  induction sites with
  | nil => intro i flag l _; simp [runF, runS]
  | cons s rest ih =>
    intro i flag l hf
    have h1 : (flag || i == k) = decide (k ≤ i) := by
      subst hf
      rw [Bool.eq_iff_iff]
      simp only [Bool.or_eq_true, decide_eq_true_eq, beq_iff_eq]
      omega
    have h2 : decide (k ≤ i) = decide (k < i + 1) := by simp [Nat.lt_succ_iff]
    unfold runF runS
    simp only [checkProgressF, checkProgressS, h1, fun l => ih (i + 1) _ l h2]
    cases s.disp <;> rfl

/-- **Cancel at invocation k cancels**: with every checkpoint propagating, if the callback
first answers `false` at its k-th invocation (k below the number of checkpoints), the
operation ends with `OperationCancelled`, and the callback is never invoked again. -/
theorem cancel_at_k_cancels (sites : List Site) (cb : Cb) (k : Nat)
    (hall : AllPropagate sites) (hk : k < sites.length) (hfalse : cb k = false)
    (hpre : ∀ j, j < k → cb j = true) :
    run (some cb) false sites 0 false = .cancelled (k + 1) := by
  rw [← runS_never_eq_run]
  exact schedule_cancels sites cb _ k hall hk (Or.inl hfalse) (fun j hj => ⟨hpre j hj, rfl⟩)

/-- A cancelled operation never finishes: no success, no "logged" cancellation. -/
theorem cancel_never_finishes (sites : List Site) (cb : Cb) (k : Nat)
    (hall : AllPropagate sites) (hk : k < sites.length) (hfalse : cb k = false)
    (hpre : ∀ j, j < k → cb j = true) (c : Nat) (l : Bool) :
    run (some cb) false sites 0 false ≠ .finished c l := by
  rw [cancel_at_k_cancels sites cb k hall hk hfalse hpre]; intro h; cases h

/-- **A set cancel flag ends the operation at once**: a run that starts with the flag set ends at
its first checkpoint, if that one propagates, whatever the callback answers. (`run` hands the flag
on unchanged: the model has no step that clears it.) -/
theorem cancel_flag_sticky (sites : List Site) (s : Site) (cb : Option Cb) (i : Nat) (logged : Bool)
    (hs : s.disp = .propagate) :
    ∃ c, run cb true (s :: sites) i logged = .cancelled c := by
  unfold run
  cases cb with
  | none => exact ⟨i, by simp [checkProgress, hs]⟩
  | some f => exact ⟨i + 1, by simp [checkProgress, hs]⟩

/-- **Cancelling from inside a callback cancels**: if the callback of invocation k calls
`Context::cancel()` (and answers `true`), the operation ends with `OperationCancelled` at
that very checkpoint — the flag is examined after the callback returns. -/
theorem cancel_in_callback_cancels (sites : List Site) (cb : Cb) (k : Nat)
    (hall : AllPropagate sites) (hk : k < sites.length) (hcb : ∀ j, cb j = true) :
    runF cb k sites 0 false false = .cancelled (k + 1) := by
  rw [runF_eq_runS cb k sites 0 false false (by simp)]
  exact cancel_between_checkpoints_cancels sites cb k hall hk hcb

/-- The shape of the repaired defect: one swallowing checkpoint lets a cancelled operation
finish with the cancellation logged as a validation failure (proved witness). -/
theorem swallow_breaks_cancellation :
    ∃ sites cb, run (some cb) false sites 0 false = .finished 2 true :=
  ⟨[{ tick := ⟨"VerifyingAssetHash", 1, 1⟩, disp := .swallow },
    { tick := ⟨"Reading", 1, 1⟩, disp := .propagate }],
   fun i => i != 0, by decide⟩

/-- One silently discarding checkpoint (the OCSP `.ok()?` shape) lets a cancelled operation finish
as if nothing had happened. -/
theorem discard_breaks_cancellation :
    ∃ sites cb, run (some cb) false sites 0 false = .finished 2 false :=
  ⟨[{ tick := ⟨"FetchingOCSP", 1, 1⟩, disp := .discard },
    { tick := ⟨"Signing", 1, 1⟩, disp := .propagate }],
   fun i => i != 0, by decide⟩

/-! ### Obligations on the regenerated source table (re-checked on every run) -/

/-- Checkpoints whose swallowing of the cancellation has been reviewed and recorded as a known
finding (`swallow-site:<file>`). File names are compared as lists of characters, which the kernel
compares without decoding the UTF-8 bytes of a `String` (see `decide_run`). -/
def reviewedSwallow : List (List Char) := ["crypto/ocsp/fetch.rs".toList]

/-- Reviewed rows of the caller table: (caller, callee). The only one is the OCSP checkpoint
(`fetch_ocsp_response` returns `Option`; open finding `swallow-site:crypto/ocsp/fetch.rs`). -/
def reviewedCaller (r : String × String × Nat × Disp) : Bool :=
  r.1 == "crypto/ocsp/fetch.rs::fetch_ocsp_response" && r.2.1 == "check_progress"

/-- **Every path of a cancellation to the public API propagates, but for the OCSP checkpoint**: every
call of a function that can return `OperationCancelled` (transitive closure from `check_progress`,
closures forwarded as progress callbacks included) hands that error to its caller's own return
value — no `match … Err(e) => log`, `if let Err`, `.ok()`, `unwrap_or…`, `map_err`, `let _ =` in
between — except the row of `reviewedCaller` (`fetch_ocsp_response`: `.ok()?`, discarded). Fails when
either historical defect (the `verify_hash_binding` match arms, ingredient validation) is
reintroduced. -/
theorem all_cancel_paths_propagate :
    Gen.callers.all (fun r => r.2.2.2 == Disp.propagate || reviewedCaller r) = true := by
  decide +kernel

/-- Membership of a string in a list, byte lengths compared first. The kernel compares two string
literals byte by byte, and the function paths of the tables share long prefixes. -/
def containsBySize (l : List String) (s : String) : Bool :=
  l.any (fun x => x.utf8ByteSize == s.utf8ByteSize && x == s)

theorem contains_eq_containsBySize (l : List String) (s : String) :
    l.contains s = containsBySize l s := by
  have h : ∀ x : String, (s == x) = (x.utf8ByteSize == s.utf8ByteSize && x == s) := by
    intro x
    by_cases h : s = x
    · subst h; simp
    · rw [beq_eq_false_iff_ne.2 h, beq_eq_false_iff_ne.2 (Ne.symm h), Bool.and_false]
  simp only [containsBySize, List.contains_eq_any_beq, h]

/-- The two questions about the closure, decided in one evaluation (the same function paths occur
in both, and the kernel's cost is in turning a long string literal into bytes). -/
theorem closure_decided :
    (Gen.callers.all (fun r => r.2.2.2 != Disp.propagate ||
        Gen.cancelFns.contains r.1 || Gen.condFns.contains r.1) &&
      (Gen.cancelFns.contains "reader.rs::Reader::with_stream" &&
        Gen.cancelFns.contains "builder.rs::Builder::sign" &&
        Gen.cancelFns.contains "builder.rs::Builder::add_ingredient_from_stream" &&
        Gen.cancelFns.contains "builder.rs::Builder::update_hash_from_stream")) = true := by
  simp only [contains_eq_containsBySize]
  decide +kernel

/-- The table is closed upwards: the caller of every propagating row is itself one of the
functions whose calls are rows (so the error keeps being handed on until it leaves the SDK). -/
theorem callers_closed :
    Gen.callers.all (fun r => r.2.2.2 != Disp.propagate ||
      Gen.cancelFns.contains r.1 || Gen.condFns.contains r.1) = true :=
  (Bool.and_eq_true_iff.1 closure_decided).1

/-- The closure is not empty: it contains the public operations of the statement. -/
theorem closure_has_operations :
    Gen.cancelFns.contains "reader.rs::Reader::with_stream" = true ∧
    Gen.cancelFns.contains "builder.rs::Builder::sign" = true ∧
    Gen.cancelFns.contains "builder.rs::Builder::add_ingredient_from_stream" = true ∧
    Gen.cancelFns.contains "builder.rs::Builder::update_hash_from_stream" = true := by
  simpa only [Bool.and_eq_true, and_assoc] using (Bool.and_eq_true_iff.1 closure_decided).2

/-- Every `check_progress` call site of the current source propagates its result, except the
reviewed ones. -/
theorem all_sites_propagate_or_reviewed :
    Gen.sites.all (fun s => s.2.2 == Disp.propagate || reviewedSwallow.contains s.1.toList) = true := by
  decide +kernel

/-- Every invocation of a progress parameter / closure propagates its result. -/
theorem all_invocations_propagate :
    Gen.invocations.all (fun s => s.2.2 == Disp.propagate) = true := by decide +kernel

/-- Every `match hash_result` of `Claim::verify_hash_binding` returns a cancellation to the
caller instead of logging it as a hash mismatch. -/
theorem hash_binding_arms_guarded :
    Gen.hashResultGuards = Gen.hashResultMatches ∧ Gen.cancelIsFatal = true ∧ 0 < Gen.hashResultMatches := by
  decide

/-! ### the generic theorems instantiated on table rows -/

theorem allPropagate_of_table (sel : List (String × Nat × Disp))
    (hs : ∀ r ∈ sel, r ∈ Gen.sites ∧ reviewedSwallow.contains r.1.toList = false) :
    AllPropagate (sel.map siteOf) := by
  intro s hs'
  obtain ⟨r, hr, rfl⟩ := List.mem_map.1 hs'
  have h1 := List.all_eq_true.1 all_sites_propagate_or_reviewed r (hs r hr).1
  simp only [(hs r hr).2, Bool.or_false] at h1
  exact eq_of_beq h1

/-- **Source checkpoints cancel**: for every sequence of checkpoints of the current source (rows of
the regenerated table outside the reviewed file) an operation may reach, a `false` answer at
invocation k ends it with `OperationCancelled` after k+1 callback calls. -/
theorem source_sites_cancel (sel : List (String × Nat × Disp))
    (hs : ∀ r ∈ sel, r ∈ Gen.sites ∧ reviewedSwallow.contains r.1.toList = false)
    (cb : Cb) (k : Nat) (hk : k < sel.length) (hf : cb k = false) (hp : ∀ j, j < k → cb j = true) :
    run (some cb) false (sel.map siteOf) 0 false = .cancelled (k + 1) :=
  cancel_at_k_cancels _ cb k (allPropagate_of_table sel hs) (by simpa using hk) hf hp

theorem source_sites_cancel_in_callback (sel : List (String × Nat × Disp))
    (hs : ∀ r ∈ sel, r ∈ Gen.sites ∧ reviewedSwallow.contains r.1.toList = false)
    (cb : Cb) (k : Nat) (hk : k < sel.length) (hcb : ∀ j, cb j = true) :
    runF cb k (sel.map siteOf) 0 false false = .cancelled (k + 1) :=
  cancel_in_callback_cancels _ cb k (allPropagate_of_table sel hs) (by simpa using hk) hcb

theorem source_sites_cancel_schedule (sel : List (String × Nat × Disp))
    (hs : ∀ r ∈ sel, r ∈ Gen.sites ∧ reviewedSwallow.contains r.1.toList = false)
    (cb : Cb) (flagAt : Nat → Bool) (k : Nat) (hk : k < sel.length)
    (hstop : cb k = false ∨ flagAt k = true)
    (hpre : ∀ j, j < k → cb j = true ∧ flagAt j = false) :
    runS cb flagAt (sel.map siteOf) 0 false = .cancelled (k + 1) :=
  schedule_cancels _ cb flagAt k (allPropagate_of_table sel hs) (by simpa using hk) hstop hpre

/-- Whatever the schedule of the flag, a sequence of source checkpoints stopped at invocation k
never finishes. -/
theorem source_sites_never_finish (sel : List (String × Nat × Disp))
    (hs : ∀ r ∈ sel, r ∈ Gen.sites ∧ reviewedSwallow.contains r.1.toList = false)
    (cb : Cb) (flagAt : Nat → Bool) (k : Nat) (hk : k < sel.length)
    (hstop : cb k = false ∨ flagAt k = true)
    (hpre : ∀ j, j < k → cb j = true ∧ flagAt j = false) (c : Nat) (l : Bool) :
    runS cb flagAt (sel.map siteOf) 0 false ≠ .finished c l := by
  rw [source_sites_cancel_schedule sel hs cb flagAt k hk hstop hpre]; intro h; cases h

/-- The driver's lookup returns table rows only (so the skeletons it runs satisfy the
membership hypothesis above). -/
theorem lookupSite_mem (table : List (String × Nat × Disp)) (s : String) (r : String × Nat × Disp)
    (h : lookupSite table s = some r) : r ∈ table := by
  unfold lookupSite at h
  split at h
  · split at h
    · exact List.mem_of_find?_eq_some h
    · cases h
  · cases h

theorem lookupAll_mem (table : List (String × Nat × Disp)) :
    ∀ (ss : List String) (rows : List (String × Nat × Disp)),
      lookupAll table ss = .ok rows → ∀ r ∈ rows, r ∈ table := by
  intro ss
  fun_induction lookupAll table ss with
  | case1 => rintro rows ⟨⟩ r hr; cases hr
  | case2 s rest hs => intro rows h; cases h
  | case3 s rest r0 h0 ih =>
    intro rows h r hr
    cases hrest : lookupAll table rest with
    | error e => rw [hrest] at h; cases h
    | ok rs =>
      rw [hrest] at h; cases h
      rcases List.mem_cons.1 hr with rfl | hr'
      · exact lookupSite_mem table s _ h0
      · exact ih rs hrest r hr'

/-! ### progress traces -/

/-- Well-formed traces have positive steps that do not exceed a non-zero total. -/
theorem traceWf_tickOk : ∀ (ts : List Tick), traceWf ts = true → ∀ t ∈ ts, tickOk t = true := by
  intro ts
  fun_induction traceWf ts with
  | case1 => intro _ t ht; cases ht
  | case2 a => intro h t ht; rwa [List.mem_singleton.1 ht]
  | case3 a u rest ih =>
    intro h t ht
    simp only [Bool.and_eq_true] at h
    obtain ⟨⟨hhead, _⟩, htail⟩ := h
    rcases List.mem_cons.1 ht with rfl | ht'
    · exact hhead
    · exact ih htail t ht'

/-- `a` may stand in front of the trace. -/
def headOk (a : Tick) : List Tick → Bool
  | [] => true
  | b :: _ => stepOk a b

theorem traceWfStrict_cons (a : Tick) (l : List Tick) :
    traceWfStrict (a :: l) = (tickOk a && headOk a l && traceWfStrict l) := by
  cases l with
  | nil => simp [traceWfStrict, headOk]
  | cons b rest => simp [traceWfStrict, headOk]

/-- Strictly well-formed traces: every step is ≥ 1 and ≤ a non-zero total. -/
theorem traceWfStrict_tickOk : ∀ (ts : List Tick), traceWfStrict ts = true →
    ∀ t ∈ ts, 1 ≤ t.step ∧ (t.total = 0 ∨ t.step ≤ t.total) := by
  intro ts
  induction ts with
  | nil => intro _ t ht; cases ht
  | cons a rest ih =>
    intro h t ht
    simp only [traceWfStrict_cons, Bool.and_eq_true] at h
    obtain ⟨⟨hhead, _⟩, htail⟩ := h
    rcases List.mem_cons.1 ht with rfl | ht'
    · simpa [tickOk] using hhead
    · exact ih htail t ht'

/-- In a strictly well-formed trace two adjacent ticks of one phase increase strictly, unless the
second starts a new pass (step 1) directly after the first completed its own (`step = total`). -/
theorem traceWfStrict_adjacent : ∀ (ts : List Tick), traceWfStrict ts = true →
    ∀ (i : Nat) (t u : Tick), ts[i]? = some t → ts[i + 1]? = some u → t.phase = u.phase →
      t.step < u.step ∨ (u.step = 1 ∧ t.step = t.total) := by
  intro ts
  induction ts with
  | nil => intro _ i t u h; cases h
  | cons a rest ih =>
    intro h i t u ht hu hp
    rw [traceWfStrict_cons, Bool.and_eq_true, Bool.and_eq_true] at h
    obtain ⟨⟨_, hstep⟩, htail⟩ := h
    cases i with
    | succ n => exact ih htail n t u ht hu hp
    | zero =>
      cases rest with
      | nil => cases hu
      | cons b _ =>
        cases ht; cases hu
        simpa [headOk, stepOk, hp] using hstep

/-- A counter that does not advance is rejected (`traceWf` accepts it: any restart at step 1 passes). -/
theorem stuck_counter_rejected (p : String) (T : Nat) (hT : 1 < T) :
    traceWfStrict [⟨p, 1, T⟩, ⟨p, 1, T⟩] = false := by
  simp [traceWfStrict, stepOk, tickOk]
  omega

/-- **The re-counting closure** of `verify_hash_binding` (own counter, total handed on) applied to
inner ticks whose totals are 0 or at least the running count: strictly well-formed. -/
theorem recount_wf (phase : String) : ∀ (ts : List Tick) (k : Nat),
    (∀ (i : Nat) (t : Tick), ts[i]? = some t → t.total = 0 ∨ k + i + 1 ≤ t.total) →
    traceWfStrict (recount phase k ts) = true := by
  intro ts
  induction ts with
  | nil => intro k _; rfl
  | cons a rest ih =>
    intro k h
    have ha := h 0 a rfl
    have hrest := ih (k + 1) fun i t ht => by have := h (i + 1) t ht; omega
    have hhead : headOk ⟨phase, k + 1, a.total⟩ (recount phase (k + 1) rest) = true := by
      cases rest with
      | nil => rfl
      | cons b _ => simp [recount, headOk, stepOk]
    rw [recount, traceWfStrict_cons, hrest, hhead]
    simp [tickOk]; omega

/-- The counting loop `step += 1; tick(step, T)` run `n` times from step `i` is the re-counting
closure applied to `n` inner ticks of total `T`. -/
theorem map_range'_eq_recount (p : String) (T : Nat) : ∀ (n i : Nat),
    (List.range' i n).map (fun j => (⟨p, j + 1, T⟩ : Tick)) = recount p i (List.replicate n ⟨p, 0, T⟩) := by
  intro n
  induction n with
  | zero => intro i; rfl
  | succ n ih => intro i; simp [List.range', recount, List.replicate_succ, ih]

theorem countTicks_wf (p : String) (T n : Nat) (h : T = 0 ∨ n ≤ T) :
    traceWfStrict ((List.range n).map fun j => (⟨p, j + 1, T⟩ : Tick)) = true := by
  rw [List.range_eq_range', map_range'_eq_recount]
  apply recount_wf
  intro j t ht
  rw [List.getElem?_replicate] at ht
  split at ht
  · cases ht; simp only; omega
  · cases ht

/-- **Ingredient ticks**: `ingredient_checks` on a claim with n ingredient assertions emits
(1,n) … (n,n): strictly well-formed for every n. -/
theorem ingredientTicks_wf (n : Nat) : traceWfStrict (ingredientTicks n) = true :=
  countTicks_wf _ n n (Or.inr (Nat.le_refl n))

/-- **Hash ticks** (C13 `ticks T n`: the callback sequence of `hash_stream_by_alg_with_progress`,
(1,T) … (n,T) with n ≤ T, n = T for a completed run): strictly well-formed. -/
theorem hashTicks_wf (phase : String) (T n : Nat) (h : n ≤ T) :
    traceWfStrict (hashTicks phase T n) = true :=
  countTicks_wf _ T n (Or.inr h)

/-- **BMFF tick counter** (`progress_tick`: `*step += 1; progress(*step, 0)`): strictly well-formed. -/
theorem zeroTicks_wf (phase : String) (n : Nat) : traceWfStrict (zeroTicks phase n) = true :=
  countTicks_wf _ 0 n (Or.inl rfl)

/-- The BMFF verification trace (one ranged hash pass of T chunks, then m per-box ticks of total 0)
through the re-counting closure. -/
theorem recount_bmff_wf (phase : String) (T m : Nat) :
    traceWfStrict (recount phase 0 (hashTicks "x" T T ++ zeroTicks "x" m)) = true := by
  apply recount_wf
  intro i t ht
  by_cases hi : i < T
  · have : t = ⟨"x", i + 1, T⟩ := by
      have h1 : (hashTicks "x" T T)[i]? = some ⟨"x", i + 1, T⟩ := by simp [hashTicks, hi]
      rw [List.getElem?_append_left (by simpa [hashTicks] using hi)] at ht
      rw [h1] at ht; exact (Option.some.inj ht).symm
    subst this
    right; simp; omega
  · left
    rw [List.getElem?_append_right (by simp [hashTicks]; omega)] at ht
    simp [zeroTicks] at ht
    obtain ⟨w, _, rfl⟩ := ht
    rfl

/-! ### ingredient trees (nested levels) -/

mutual
  theorem sigTicks_all (c : Ing) : ∀ t ∈ sigTicks c, t = sigTick := by
    cases c with
    | plain => intro t ht; simp [sigTicks] at ht
    | manifest cs =>
      intro t ht
      simp only [sigTicks, List.mem_cons] at ht
      rcases ht with rfl | h
      · rfl
      · exact sigTicksL_all cs t h
  theorem sigTicksL_all (cs : List Ing) : ∀ t ∈ sigTicksL cs, t = sigTick := by
    cases cs with
    | nil => intro t ht; simp [sigTicksL] at ht
    | cons c rest =>
      intro t ht
      simp only [sigTicksL, List.mem_append] at ht
      rcases ht with h | h
      · exact sigTicks_all c t h
      · exact sigTicksL_all rest t h
end

/-- `l` is a block of signature ticks, as `sigTicks c` emits (`sigTicks_all`). -/
theorem headOk_sigBlock (a : Tick) (ha : stepOk a sigTick = true) : ∀ (l rest : List Tick),
    (∀ t ∈ l, t = sigTick) → headOk a rest = true → headOk a (l ++ rest) = true
  | [], _, _, h => h
  | b :: _, _, hall, _ => by rw [hall b (List.mem_cons_self ..)]; exact ha

theorem sigBlock_wf : ∀ (l rest : List Tick), (∀ t ∈ l, t = sigTick) →
    traceWfStrict rest = true → headOk sigTick rest = true → traceWfStrict (l ++ rest) = true
  | [], _, _, h1, _ => h1
  | a :: l, rest, hall, h1, h2 => by
    have hl : ∀ t ∈ l, t = sigTick := fun t ht => hall t (List.mem_cons_of_mem _ ht)
    rw [hall a (List.mem_cons_self ..), List.cons_append, traceWfStrict_cons, sigBlock_wf l rest hl h1 h2,
      headOk_sigBlock sigTick (by decide) l rest hl h2]
    decide

/-- the top-level emitter from step `i` starts with nothing or with ingredient tick `i + 1` -/
theorem emitTop_head (a : Tick) (n i : Nat) (cs : List Ing)
    (ha : a.phase ≠ "VerifyingIngredient" ∨ a.step < i + 1) : headOk a (emitTop n i cs) = true := by
  cases cs with
  | nil => rfl
  | cons c rest => rcases ha with h | h <;> simp [emitTop, headOk, stepOk, h]

theorem emitTop_wf (n : Nat) : ∀ (cs : List Ing) (i : Nat), i + cs.length ≤ n →
    traceWfStrict (emitTop n i cs) = true := by
  intro cs
  induction cs with
  | nil => intro i _; rfl
  | cons c rest ih =>
    intro i h
    simp only [List.length_cons] at h
    have hsig := sigTicks_all c
    rw [emitTop, traceWfStrict_cons,
      sigBlock_wf _ _ hsig (ih (i + 1) (by omega)) (emitTop_head sigTick n (i + 1) rest (Or.inl (by decide))),
      headOk_sigBlock _ (by simp [stepOk, sigTick]) _ _ hsig (emitTop_head _ n (i + 1) rest (Or.inr (Nat.lt_succ_self _)))]
    simp [tickOk]; omega

/-- **Ingredient trees**: for every ingredient tree (any width, any nesting) the ticks
`verify_store` emits for the ingredients of the validated manifest — one VerifyingIngredient
tick per top-level ingredient, one VerifyingSignature tick per nested claim — are strictly
well-formed. (Full strength after fix C23-nested-ingredient-progress; before it, see
`nested_levels_interleaved_before_fix`.) -/
theorem emitClaim_wf (cs : List Ing) : traceWfStrict (emitClaim cs) = true :=
  emitTop_wf cs.length cs 0 (by omega)

/-- The repaired defect: when every nested `ingredient_checks` level reported its own
(step, total), the manifest with ingredients [A, plain], A having two plain ingredients,
produced VerifyingIngredient 2/2 directly followed by 2/2 (replayed on the implementation by the
harness tree `m(pp)p`; even the lax rule rejects it). -/
theorem nested_levels_interleaved_before_fix :
    traceWfStrict (emitClaimOld [.manifest [.plain, .plain], .plain]) = false ∧
    traceWf (emitClaimOld [.manifest [.plain, .plain], .plain]) = false := by
  simp [emitClaimOld, emitLevelOld, emitIngOld, traceWfStrict, traceWf, stepOk, tickOk, sigTick]

/-- flat claims: the tree emitter is the plain counter -/
theorem emitClaim_flat (n : Nat) : emitClaim (List.replicate n .plain) = ingredientTicks n := by
  have emitTop_flat : ∀ (m i : Nat), emitTop n i (List.replicate m .plain) =
      (List.range' i m).map fun j => (⟨"VerifyingIngredient", j + 1, n⟩ : Tick) := by
    intro m
    induction m with
    | zero => intro i; rfl
    | succ m ih => intro i; simp [List.replicate_succ, emitTop, sigTicks, List.range', ih]
  unfold emitClaim ingredientTicks
  rw [List.length_replicate, emitTop_flat, List.range_eq_range']

/-! ### Non-vacuity -/
example : AllPropagate (skeleton 5) := by
  intro s hs; simp [skeleton] at hs; rw [hs]
example : run (some (fun i => i != 3)) false (skeleton 5) 0 false = .cancelled 4 := by decide
example : runF (fun _ => true) 2 (skeleton 5) 0 false false = .cancelled 3 := by decide
example : runS (fun _ => true) (fun i => decide (2 ≤ i)) (skeleton 5) 0 false = .cancelled 3 := by decide
example : traceWf [⟨"Hashing", 1, 3⟩, ⟨"Hashing", 2, 3⟩, ⟨"Signing", 1, 1⟩] = true := by decide +kernel
example : traceWf [⟨"Hashing", 2, 3⟩, ⟨"Hashing", 2, 3⟩] = false := by decide +kernel
example : traceWfStrict [⟨"H", 1, 1⟩, ⟨"H", 1, 2⟩, ⟨"H", 2, 2⟩, ⟨"S", 1, 1⟩] = true := by decide +kernel
example : traceWfStrict [⟨"H", 1, 3⟩, ⟨"H", 1, 3⟩] = false := by decide +kernel
/-- a selection of real table rows meets the hypothesis of `source_sites_cancel` -/
example : ∀ r ∈ Gen.sites.filter (fun r => !reviewedSwallow.contains r.1.toList),
    r ∈ Gen.sites ∧ reviewedSwallow.contains r.1.toList = false := by
  intro r hr
  have := List.mem_filter.1 hr
  exact ⟨this.1, by simpa using this.2⟩
example : 20 < (Gen.sites.filter (fun r => !reviewedSwallow.contains r.1.toList)).length := by
  have h : 20 < ((Gen.sites.map (·.1.toList)).filter (fun f => !reviewedSwallow.contains f)).length := by
    -- `decide_run` reaches the literals that stand in the goal: unfold the tables first
    delta Gen.sites reviewedSwallow
    simp only [List.map_cons, List.map_nil]
    decide_run
  rwa [List.filter_map, List.length_map] at h
example : 40 < Gen.cancelFns.length ∧ 100 < Gen.callers.length := by decide +kernel

end C2pa.C23
