import C2paModel.Props.C25
/-
C25 — the merge as an equation: `merge_json_depth` (a fold of the overlay's entries into the
target, with in-place upserts) equals the declarative recursive right-biased union
(`unionSpec`: map over the target's entries, then append the overlay's new entries), for all
values with unique keys, at every depth counter.
-/
namespace C2pa.C25

mutual
/-- Recursive right-biased union below the depth limit, replacement otherwise — written
target-first, recursing on the *target*. -/
def unionSpec (t o : Json) (d : Nat) : Json :=
  match t, o with
  | .obj tkvs, .obj okvs =>
    if d < mergeMaxDepth then
      .obj (unionOld tkvs okvs d ++ okvs.filter (fun kv => (lookup kv.1 tkvs).isNone))
    else .obj okvs
  | _, o => o
/-- the target's entries, each merged with the overlay's value for the same key if there is one -/
def unionOld (tkvs okvs : Fields) (d : Nat) : Fields :=
  match tkvs with
  | [] => []
  | (k, tv) :: rest =>
    (k, match lookup k okvs with
        | none => tv
        | some ov => unionSpec tv ov (d + 1)) :: unionOld rest okvs d
end

theorem unionSpec_replace (t o : Json) (d : Nat)
    (h : ¬ (t.isObj = true ∧ o.isObj = true ∧ d < mergeMaxDepth)) : unionSpec t o d = o := by
  cases t with
  | obj tk =>
    cases o with
    | obj ok => rw [unionSpec.eq_1, if_neg fun hd => h ⟨rfl, rfl, hd⟩]
    | _ => exact unionSpec.eq_2 _ _ d fun _ _ _ ho => nomatch ho
  | _ => exact unionSpec.eq_2 _ _ d fun _ _ ht _ => nomatch ht

theorem keys_unionOld (tkvs okvs : Fields) (d : Nat) : keys (unionOld tkvs okvs d) = keys tkvs := by
  induction tkvs with
  | nil => simp [unionOld]
  | cons hd t ih =>
    obtain ⟨k, v⟩ := hd
    simp [unionOld, ih]

theorem lookup_unionOld (tkvs okvs : Fields) (d : Nat) (k : String) :
    lookup k (unionOld tkvs okvs d) =
      match lookup k tkvs with
      | none => none
      | some tv =>
        some (match lookup k okvs with
              | none => tv
              | some ov => unionSpec tv ov (d + 1)) := by
  induction tkvs with
  | nil => simp [unionOld, lookup]
  | cons hd t ih =>
    obtain ⟨k0, v0⟩ := hd
    by_cases hk : k0 = k
    · subst hk; simp [unionOld, lookup]
    · simp [unionOld, lookup, hk, ih]

theorem lookup_filter_new (k : String) (tkvs okvs : Fields) :
    lookup k (okvs.filter (fun kv => (lookup kv.1 tkvs).isNone)) =
      if (lookup k tkvs).isNone then lookup k okvs else none := by
  induction okvs with
  | nil => simp [lookup]
  | cons hd t ih =>
    obtain ⟨k0, v0⟩ := hd
    by_cases hk : k0 = k
    · subst hk
      by_cases hn : (lookup k0 tkvs).isNone = true
      · simp [hn, lookup]
      · simp only [Bool.not_eq_true] at hn
        simp [hn, ih]
    · by_cases hn : (lookup k0 tkvs).isNone = true
      · simp [hn, lookup, hk, ih]
      · simp only [Bool.not_eq_true] at hn
        simp [hn, lookup, hk, ih]

theorem keys_filter_new (tkvs okvs : Fields) :
    keys (okvs.filter (fun kv => (lookup kv.1 tkvs).isNone)) =
      (keys okvs).filter (fun k => decide (k ∉ keys tkvs)) := by
  induction okvs with
  | nil => simp
  | cons hd t ih =>
    obtain ⟨k0, v0⟩ := hd
    by_cases hm : k0 ∈ keys tkvs
    · have : (lookup k0 tkvs).isNone = false := by
        rw [← Option.not_isSome, (lookup_isSome_iff k0 tkvs).2 hm]; rfl
      simp [this, hm, ih]
    · have : (lookup k0 tkvs).isNone = true := by
        rw [(lookup_eq_none_iff _ _).2 hm]; rfl
      simp [this, hm, ih]

/-- **merge_eq_union.** For values with unique keys, `merge_json_depth` *is* the recursive
right-biased union — same keys, same order, same values — at every depth counter. -/
theorem merge_eq_union (t : Json) : ∀ (o : Json) (d : Nat), WF t → WF o →
    mergeDepth t o d = unionSpec t o d := by
  intro o d
  induction t, o, d using mergeDepth_induct with
  | repl t o d h => intro _ _; rw [merge_replace t o d h, unionSpec_replace t o d h]
  | objs tk ok d hd ih =>
    intro ht ho
    rw [WF_obj_lookup] at ht ho
    rw [mergeDepth_obj_lt _ _ _ hd, unionSpec.eq_1, if_pos hd]
    congr 1
    refine fields_ext _ _ (nodup_keys_mergeFields _ _ _ ht.1) ?_ fun k => ?_
    · rw [keys_mergeFields _ _ _ ho.1, keys_append, keys_unionOld, keys_filter_new]
    · rw [lookup_mergeFields _ _ _ _ ho.1, lookup_append, lookup_unionOld, lookup_filter_new]
      cases hlt : lookup k tk <;> cases hlo : lookup k ok <;> simp [mergeDepth_null_left]
      exact ih _ _ hlo _ (ht.2 _ _ hlt) (ho.2 _ _ hlo)

example :
    unionSpec (.obj [("verify", .obj [("a", .bool true), ("b", .bool true)]), ("v", .num "1")])
        (.obj [("n", .null), ("verify", .obj [("b", .bool false), ("c", .null)])]) 0
      = .obj [("verify", .obj [("a", .bool true), ("b", .bool false), ("c", .null)]), ("v", .num "1"),
          ("n", .null)] := by rfl

end C2pa.C25
