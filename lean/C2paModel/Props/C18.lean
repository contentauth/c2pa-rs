import C2paModel.Lemmas.C18Ser
import C2paModel.Lemmas.C18Total
import C2paModel.Lemmas.C18Dec
import C2paModel.Lemmas.C18Ctor
import C2paModel.Lemmas.DecideRun
/-
C18 — property theorems. The statement (properties.jsonl):

  Serialising any manifest store the SDK produced and parsing it back gives a store that
  re-serialises to identical bytes, including compressed manifests. For any byte string the
  parser accepts, re-serialising the parsed store and parsing again is a fixed point.

The theorems are about the box layer every store goes through (`BoxReader::read_super_box` =
`parse`, `BMFFBox::write_box` = `Box.ser`, model in `Model/C18.lean`); `Store::from_jumbf_impl`
runs `parse` on the whole store and `write_box → read_super_box` once more on every manifest
(`CAIManifest::from`). The claim/assertion layer above the boxes is checked on the implementation
only (harness oracle `store-identity` / `store-fixed-point`).

In the order of the file: reading back what the writer wrote (`parse_ser_append`: the first sentence of
the statement, for every valid quirk-free tree below 4 GiB nesting ≤ 32, followed by arbitrary bytes); what
the reader accepts (`parse_wf`, the bound `parse_size_bound` of 9/8 on the re-serialisation, totality and
depth `parse_total_depth_bounded`); the fixed point for quirk-free accepted input
(`reser_fixed_point_partial`, `_input` with a hypothesis on the input length only); the three kinds of
accepted input that `QuirkFree` excludes, each a kernel-evaluated witness replayed on the implementation,
which make the full statement false for the box layer (`not_reserFixedPoint`, `not_reserAccepted`; at
store level `from_jumbf` rebuilds assertion boxes from their content, or rejects, and the harness shows no
store-level failure); that the bound 9/8 cannot be tightened (`not_parse_size_le`); witnesses (`exTree`, two
inputs the unpatched reader mishandles, the non-canonical accepted input `xNonCanon`); the SDK's constructors
(`new_roundtrip`); large-size child boxes, whose payload is read as sibling boxes (`largeChild_misread`, a
witness); the manifest
layer (`CAIManifest::from` / `write_box_payload`, Brotli as a parameter with `dec (enc y) = some y`;
`loadBoxes_plain_fixed` composes it with the reader); the writer's unchecked `u32` additions.

Three obligations are proved in Lemmas/C18Ctor: `new_valid_iff` (`JUMBFDescriptionBox::new` yields a `Valid`
description box exactly for a 16-byte UUID and a non-empty `str` label without NUL), `new_unreadable` (with a
16-byte UUID and any other label the written box is rejected with `UnexpectedEof`; with
fixes/C18-reject-unstorable-box-labels.patch the store serialiser refuses such labels) and `bfdb_accessor_ser`
(the accessor path of re-serialisation).
-/
namespace C2pa.C18

/-! ### reading back what the writer wrote -/

/-- **parse ∘ ser, followed by anything** — the first sentence of the property in its own form.
The written form of a valid, quirk-free super box followed by arbitrary bytes `post` is read back as
the tree (up to `norm`), and the reader stops exactly at the end of the written form: it neither runs
past `dest` into `post` nor stops short. -/
theorem parse_ser_append (desc : Desc) (cs : List Box) (post : Bytes)
    (hv : (Box.super desc cs).Valid) (hq : (Box.super desc cs).QuirkFree)
    (hh : (Box.super desc cs).height ≤ MAX_JUMB_DEPTH) (hs : (Box.super desc cs).size < 4294967296)
    (hL : (Box.super desc cs).ser.length + post.length < 2 ^ 64) :
    parse ((Box.super desc cs).ser ++ post) =
      .ok ((Box.super desc cs).norm, (Box.super desc cs).ser.length) := by
  have hlen := (Box.super desc cs).ser_length hv hq
  have h := superOK (.super desc cs) hv hq (((Box.super desc cs).ser ++ post).length + 2)
    ((Box.super desc cs).ser ++ post) 0 0 post
    ⟨Nat.zero_le _, rfl⟩ (by rwa [List.length_append]) hs (by rw [Nat.zero_add]; exact hh)
    (by rw [List.length_append, hlen]; omega)
  unfold parse
  rw [h, hlen, Nat.zero_add]

/-- **parse ∘ ser.** Every valid, quirk-free super box (any number of children, any payloads, nesting
up to the reader's limit, total size below 4 GiB so that the `u32` size fields are exact) is read
back from its written form, consuming exactly the written bytes. The result is the tree itself up
to `norm`, which only rewrites the fields of `bfdb` boxes that the writer never emits (the file
name, a media type that is not a non-empty `str`). -/
theorem parse_ser (desc : Desc) (cs : List Box)
    (hv : (Box.super desc cs).Valid) (hq : (Box.super desc cs).QuirkFree)
    (hh : (Box.super desc cs).height ≤ MAX_JUMB_DEPTH) (hs : (Box.super desc cs).size < 4294967296) :
    parse (Box.super desc cs).ser = .ok ((Box.super desc cs).norm, (Box.super desc cs).ser.length) := by
  have := parse_ser_append desc cs [] hv hq hh hs (by
    rw [(Box.super desc cs).ser_length hv hq, List.length_nil]; omega)
  rwa [List.append_nil] at this

/-- `parse_ser` for a tree in normal form (`norm b = b`: every `bfdb` box is what the reader itself
would have produced): it is read back as exactly itself. -/
theorem parse_ser_canon (desc : Desc) (cs : List Box)
    (hv : (Box.super desc cs).Valid) (hq : (Box.super desc cs).QuirkFree)
    (hh : (Box.super desc cs).height ≤ MAX_JUMB_DEPTH) (hs : (Box.super desc cs).size < 4294967296)
    (hn : (Box.super desc cs).norm = Box.super desc cs) :
    parse (Box.super desc cs).ser = .ok (Box.super desc cs, (Box.super desc cs).ser.length) := by
  have := parse_ser desc cs hv hq hh hs
  rwa [hn] at this

theorem parse_ser_append_tree (t : Box) (post : Bytes) (hsup : t.isSuper)
    (hv : t.Valid) (hq : t.QuirkFree) (hh : t.height ≤ MAX_JUMB_DEPTH) (hs : t.size < 4294967296)
    (hL : t.ser.length + post.length < 2 ^ 64) :
    parse (t.ser ++ post) = .ok (t.norm, t.ser.length) := by
  obtain ⟨desc, cs, rfl⟩ := hsup.eq_super
  exact parse_ser_append desc cs post hv hq hh hs hL

/-! ### what the reader accepts -/

/-- **Everything the reader accepts is well-formed**: a super box whose description boxes have a
16-byte UUID, toggles with both low bits set, a non-empty valid-UTF-8 label without NUL, id /
signature / salt present exactly when their toggle bits are set (id < 2^32, signature 32 bytes), all
`uuid` boxes with a 16-byte UUID; nesting at most 32; the end position inside the data. -/
theorem parse_wf (x : Bytes) (b : Box) (e : Nat) (h : parse x = .ok (b, e)) :
    b.Valid ∧ b.height ≤ MAX_JUMB_DEPTH ∧ e ≤ x.length ∧ b.isSuper := by
  obtain ⟨hv, hh, he, hsup, _⟩ := (parse_post x).of_eq_ok h
  exact ⟨hv, hh, he, hsup⟩

/-- a leaf is never the result of a parse (the `b.isSuper` of `parse_wf`): the `hsup` of
`parse_ser_append_tree` excludes no tree the reader returns -/
example : ∀ x e k dt, parse x ≠ .ok (.leaf k dt, e) :=
  fun x e _ _ h => (parse_wf x _ e h).2.2.2

/-- **The accepted tree re-serialises to at most 9/8 of the bytes the reader consumed.** Everything the
reader returns is written with at most the bytes it consumed, except a `bfdb` box whose media type had
no terminating NUL (the writer appends one): one byte more per box of at least 8 consumed bytes. -/
theorem parse_size_bound (x : Bytes) (b : Box) (e : Nat) (h : parse x = .ok (b, e)) (hq : b.QuirkFree) :
    8 * b.size ≤ 9 * e := by
  obtain ⟨_, _, _, _, hsize⟩ := (parse_post x).of_eq_ok h
  exact hsize hq

/-- an accepted input of up to 8/9 · 2^32 bytes re-serialises without `u32` truncation -/
theorem parse_size_lt_u32 (x : Bytes) (b : Box) (e : Nat) (h : parse x = .ok (b, e)) (hq : b.QuirkFree)
    (hx : x.length ≤ 3817748707) : b.size < 4294967296 := by
  have h1 := parse_size_bound x b e h hq
  have h2 := (parse_wf x b e h).2.2.1
  omega

/-- **Totality, bounded depth, no panic**: on every byte string the reader returns an error or a
tree of nesting ≤ 32; the outcomes `panic` (an unchecked `+`/`-` overflowing) and `oof` (the fuel
`parse` supplies running out, i.e. more loop iterations than bytes) do not occur. -/
theorem parse_total_depth_bounded (x : Bytes) :
    (∃ er, parse x = .err er) ∨ (∃ b e, parse x = .ok (b, e) ∧ b.height ≤ MAX_JUMB_DEPTH) := by
  have hp := parse_post x
  cases h : parse x with
  | ok r => exact Or.inr ⟨r.1, r.2, rfl, by rw [h] at hp; exact hp.2.1⟩
  | err er => exact Or.inl ⟨er, rfl⟩
  | panic => rw [h] at hp; exact absurd hp id
  | oof => rw [h] at hp; exact absurd hp id

/-- the recursion guard: `read_super_box_impl` does nothing at depth ≥ 32 (so the depth of the Rust
call stack is bounded by 32 frames of it) -/
theorem superBox_depth_guard (f : Nat) (d : Bytes) (depth pos : Nat) (h : MAX_JUMB_DEPTH ≤ depth) :
    superBox (f + 1) d depth pos = .err .tooDeep := by
  unfold superBox
  rw [if_pos h]

/-! ### the fixed point -/

/-- The full statement for the box layer: for every accepted byte string, the re-serialisation
is accepted again and re-serialises to itself. -/
def ReserFixedPoint : Prop :=
  ∀ x b e, parse x = .ok (b, e) → ∃ b' e', parse b.ser = .ok (b', e') ∧ b'.ser = b.ser

/-- **Fixed point, partial**: for every byte string the reader accepts whose tree is quirk-free (no
super box without content boxes, no `uuid` box without data, no `bfdb` box with toggles 1 and a NUL
inside a valid-UTF-8 media type) and re-serialises below 4 GiB: the re-serialisation is accepted,
consumed completely, and re-serialises to the same bytes. (Reading `b.norm.ser` again gives `b.norm`
again: rewrite the first conjunct with the second.) -/
theorem reser_fixed_point_partial (x : Bytes) (b : Box) (e : Nat) (h : parse x = .ok (b, e))
    (hq : b.QuirkFree) (hs : b.size < 4294967296) :
    parse b.ser = .ok (b.norm, b.ser.length) ∧ b.norm.ser = b.ser := by
  obtain ⟨hv, hh, _, hsup⟩ := parse_wf x b e h
  obtain ⟨desc, cs, rfl⟩ := hsup.eq_super
  exact ⟨parse_ser desc cs hv hq hh hs, (Box.super desc cs).norm_ser⟩

/-- **Fixed point from a hypothesis on the input only** (apart from `QuirkFree`, which is decidable on
the parse result and whose three excluded shapes are proved counter-examples below): the size
hypothesis of `reser_fixed_point_partial` is discharged by `parse_size_bound` — an input of at most
8/9 · 2^32 bytes cannot produce a tree that re-serialises to 4 GiB. The bytes of `x` enter through
`8 · |ser b| ≤ 9 · e ≤ 9 · |x|`. -/
theorem reser_fixed_point_input (x : Bytes) (b : Box) (e : Nat) (h : parse x = .ok (b, e))
    (hq : b.QuirkFree) (hx : x.length ≤ 3817748707) :
    ∃ b' e', parse b.ser = .ok (b', e') ∧ b'.ser = b.ser ∧ e' = b.ser.length ∧
      8 * b.ser.length ≤ 9 * e := by
  have hs := parse_size_lt_u32 x b e h hq hx
  obtain ⟨h1, h2⟩ := reser_fixed_point_partial x b e h hq hs
  refine ⟨b.norm, _, h1, h2, rfl, ?_⟩
  have := parse_size_bound x b e h hq
  rw [b.ser_length (parse_wf x b e h).1 hq]
  exact this

/-- `ser (parse (ser (parse x))) = ser (parse x)` in the form of the statement. -/
theorem reser_fixed_point_partial' (x : Bytes) (b : Box) (e : Nat) (h : parse x = .ok (b, e))
    (hq : b.QuirkFree) (hs : b.size < 4294967296) :
    ∃ b' e', parse b.ser = .ok (b', e') ∧ b'.ser = b.ser :=
  ⟨b.norm, _, (reser_fixed_point_partial x b e h hq hs).1, (reser_fixed_point_partial x b e h hq hs).2⟩

/-- **Canonical inputs: everything from the input.** When the input is the written form of a valid
quirk-free tree followed by anything, `QuirkFree` of the parse result is *derived* (`norm` keeps it),
so the fixed point holds with hypotheses about the input only. -/
theorem reser_fixed_point_written (t : Box) (post : Bytes) (hsup : t.isSuper)
    (hv : t.Valid) (hq : t.QuirkFree) (hh : t.height ≤ MAX_JUMB_DEPTH) (hs : t.size < 4294967296)
    (hL : t.ser.length + post.length < 2 ^ 64) :
    ∃ b e, parse (t.ser ++ post) = .ok (b, e) ∧ b.QuirkFree ∧
      parse b.ser = .ok (b.norm, b.ser.length) ∧ b.norm.ser = b.ser := by
  have h := parse_ser_append_tree t post hsup hv hq hh hs hL
  have hqn := t.norm_quirkFree hq
  obtain ⟨h1, h2⟩ := reser_fixed_point_partial _ _ _ h hqn (by rw [t.norm_size]; exact hs)
  exact ⟨t.norm, _, h, hqn, h1, h2⟩

/-! ### the three quirks: accepted inputs that are not reproduced -/

def qDesc (l : UInt8) : Desc := ⟨List.replicate 16 1, 3, [l], none, none, none⟩

/-- (1) `bfdb` with toggles = 1 and a NUL inside the media type (the layout ISO 19566-5 gives a
`bfdb` box with a file name): the reader keeps the whole buffer as media type, the writer appends
one more NUL on every pass. -/
def wBfdb (m : Bytes) : Box := .super (qDesc 113) [.bfdb 1 m none, .leaf .bidb [1, 2]]

theorem wBfdb_accepted : parse (wBfdb [97, 0, 98]).ser = .ok (wBfdb [97, 0, 98, 0], 58) :=
  isOk_sound (by decide +kernel)
theorem wBfdb_second : parse (wBfdb [97, 0, 98, 0]).ser = .ok (wBfdb [97, 0, 98, 0, 0], 59) :=
  isOk_sound (by decide +kernel)
theorem wBfdb_grows : (wBfdb [97, 0, 98, 0, 0]).ser ≠ (wBfdb [97, 0, 98, 0]).ser := by decide +kernel

/-- (2) a `uuid` box without data: `box_size` counts the 16 UUID bytes, `write_box_payload` writes
nothing, the written super box is inconsistent and is rejected. -/
def wUuid : Box := .super (qDesc 113) [.uuid (List.replicate 16 2) [], .leaf .json [123, 125]]
def wUuidX : Bytes :=
  be32 69 ++ be32 JUMB ++ serDesc (qDesc 113) ++ (be32 24 ++ be32 UUID ++ List.replicate 16 2)
    ++ (Box.leaf .json [123, 125]).ser

theorem wUuid_accepted : parse wUuidX = .ok (wUuid, 69) := isOk_sound (by decide +kernel)
theorem wUuid_rejected : parse wUuid.ser = .err .invalidUuid := isErr_sound (by decide +kernel)

/-- (3) a super box without content boxes that is not the last thing in the data (accepted when
followed by an all-zero header inside its declared size): written without the padding, the reader
takes the next sibling for its child. -/
def wEmpty : Box := .super (qDesc 113) [.super (qDesc 101) [], .leaf .json [123, 125]]
def wEmptyX : Bytes :=
  be32 88 ++ be32 JUMB ++ serDesc (qDesc 113)
    ++ (be32 43 ++ be32 JUMB ++ serDesc (qDesc 101) ++ List.replicate 8 0)
    ++ (Box.leaf .json [123, 125]).ser

theorem wEmpty_accepted : parse wEmptyX = .ok (wEmpty, 88) := isOk_sound (by decide +kernel)
theorem wEmpty_rejected : parse wEmpty.ser = .err .invalidJumbBox := isErr_sound (by decide +kernel)

/-- **The full fixed-point statement is false for the box layer** (witness (1); (2) and (3) refute it
as well: their re-serialisation is not accepted at all). -/
theorem not_reserFixedPoint : ¬ ReserFixedPoint := by
  intro h
  obtain ⟨b', e', h1, h2⟩ := h _ _ _ wBfdb_accepted
  rw [wBfdb_second] at h1
  cases h1
  exact wBfdb_grows h2

/-- the weaker statement "the re-serialisation of an accepted input is accepted" is false as well
(witness (2); witness (3) `wEmpty_accepted` / `wEmpty_rejected` refutes it in the same way) -/
theorem not_reserAccepted :
    ¬ (∀ x b e, parse x = .ok (b, e) → ∃ r, parse b.ser = .ok r) := by
  intro h
  obtain ⟨r, h1⟩ := h _ _ _ wUuid_accepted
  rw [wUuid_rejected] at h1
  cases h1

/-- each of the three witnesses is outside `QuirkFree` -/
example : ¬ (wBfdb [97, 0, 98, 0]).QuirkFree := by
  simp [wBfdb, Box.QuirkFree, QuirkFreeList]; decide
example : ¬ wUuid.QuirkFree := by simp [wUuid, Box.QuirkFree, QuirkFreeList]
example : ¬ wEmpty.QuirkFree := by simp [wEmpty, Box.QuirkFree, QuirkFreeList]

/-! ### the bound 9/8 cannot be tightened to `size ≤ consumed` -/

/-- the `bfdb` media type "a" without terminating NUL: read in 10 bytes, written in 11 -/
def wGrowX : Bytes :=
  be32 55 ++ be32 JUMB ++ serDesc (qDesc 113) ++ (be32 10 ++ be32 BFDB ++ [0, 97]) ++ (Box.leaf .bidb [1, 2]).ser

def wGrow : Box := .super (qDesc 113) [.bfdb 0 [97] none, .leaf .bidb [1, 2]]

theorem wGrow_accepted : parse wGrowX = .ok (wGrow, 55) := isOk_sound (by decide +kernel)

theorem not_parse_size_le : ¬ (∀ x b e, parse x = .ok (b, e) → b.QuirkFree → b.size ≤ e) := by
  intro h
  have : wGrow.size ≤ 55 := h _ _ _ wGrow_accepted (by simp [wGrow, Box.QuirkFree, QuirkFreeList])
  revert this
  decide +kernel

/-! ### non-vacuity and regression witnesses -/

/-- a tree with every optional field (id, signature, salt, high toggle bits), nested super box,
`uuid`, two of the three normal forms of `bfdb` (not the one with an empty media type), empty and
non-empty leaves -/
def exTree : Box :=
  .super ⟨List.replicate 16 0x63, 0x1f, [99, 50, 112, 97], some 7, some (List.replicate 32 9),
      some (List.replicate 16 5)⟩
    [.super (qDesc 97) [.leaf .cbor [0xa0], .uuid (List.replicate 16 3) [1]],
     .bfdb 0 [105, 109, 103] none, .bfdb 1 [105] (some [0]), .leaf .bidb [], .leaf .brob [1, 2, 3]]

theorem exTree_valid : exTree.Valid := by
  simp [exTree, qDesc, Box.Valid, ValidList, Desc.Valid, Desc.Valid0]
  decide +kernel
theorem exTree_quirkFree : exTree.QuirkFree := by
  simp [exTree, Box.QuirkFree, QuirkFreeList]
theorem exTree_norm : exTree.norm = exTree := by
  simp [exTree, Box.norm, normList, normBfdb]
  decide +kernel

/-- the hypotheses of `parse_ser_canon` are met by `exTree`, and the conclusion is the kernel's
own evaluation -/
example : parse exTree.ser = .ok (exTree, 210) := isOk_sound (by decide +kernel)
example : parse exTree.ser = .ok (exTree, exTree.ser.length) :=
  parse_ser_canon _ _ exTree_valid exTree_quirkFree (by decide +kernel) (by decide +kernel) exTree_norm

/-- a 5-byte partial header `0000000b 78` after the description box: an endless loop in
`read_super_box_impl` of the unpatched source (fixed in `read_header`,
fixes/C18-read-header-short-read-and-dest-overflow.patch) -/
example : parse (be32 4096 ++ be32 JUMB ++ serDesc (qDesc 97) ++ [0, 0, 0, 11, 120]) = .err .invalidJumbfHeader :=
  isErr_sound (by decide +kernel)

/-- a nested large-size `jumb` of size 2^64 - 1: `start_pos + jumb_header.size` overflows `u64` in the
unpatched source (`checked_add` with the same patch) -/
example : parse (be32 4096 ++ be32 JUMB ++ serDesc (qDesc 97) ++
    (be32 1 ++ be32 JUMB ++ be32 1 ++ be32 JUMB ++ List.replicate 8 255)) = .err .invalidBoxRange :=
  isErr_sound (by decide +kernel)

/-! ### a non-canonical accepted input

`xNonCanon` is not the written form of the tree it is read as (`nonCanon_not_written`): it carries an
unknown box (`xxxx`, skipped by the
reader), a size-0 header (`json`, read as an empty box), and a `bfdb` media type without its NUL
terminator (the writer adds one). -/

def xNonCanon : Bytes :=
  be32 75 ++ be32 JUMB ++ serDesc (qDesc 113)
    ++ (be32 12 ++ be32 0x78787878 ++ [1, 2, 3, 4])
    ++ (be32 0 ++ be32 Kind.json.fourcc)
    ++ (be32 10 ++ be32 BFDB ++ [0, 97])
    ++ (Box.leaf .bidb [1, 2]).ser

def tNonCanon : Box := .super (qDesc 113) [.leaf .json [], .bfdb 0 [97] none, .leaf .bidb [1, 2]]

theorem nonCanon_accepted : parse xNonCanon = .ok (tNonCanon, 75) := isOk_sound (by decide +kernel)
theorem nonCanon_quirkFree : tNonCanon.QuirkFree := by
  simp [tNonCanon, Box.QuirkFree, QuirkFreeList]
theorem nonCanon_not_written : tNonCanon.ser ≠ xNonCanon := by decide +kernel

/-- the fixed-point theorem instantiated on the non-canonical input: its hypotheses hold, and the
conclusion is not the trivial one (`tNonCanon.ser` is 64 bytes, `xNonCanon` 75) -/
example : ∃ b' e', parse tNonCanon.ser = .ok (b', e') ∧ b'.ser = tNonCanon.ser ∧
    e' = tNonCanon.ser.length ∧ 8 * tNonCanon.ser.length ≤ 9 * 75 :=
  reser_fixed_point_input xNonCanon tNonCanon 75 nonCanon_accepted nonCanon_quirkFree (by decide +kernel)
example : tNonCanon.ser.length = 64 ∧ xNonCanon.length = 75 := by decide +kernel

/-! ### constructors: what the SDK builds its boxes with -/

/-- **Round trip for trees built with `JUMBFDescriptionBox::new` (+ `set_salt`).** For a label that is
a non-empty `str` without NUL and a 16-byte UUID, the box with any valid quirk-free content boxes,
written and followed by arbitrary bytes, reads back as itself up to `norm` (whether or not `set_salt`
accepted the salt). -/
theorem new_roundtrip (label uuid : Bytes) (p : Option Bytes) (cs : List Box) (post : Bytes)
    (hu : uuid.length = 16) (hl : strNonEmpty label = true) (h0 : (0 : UInt8) ∉ label)
    (hne : cs ≠ []) (hv : ValidList cs) (hq : QuirkFreeList cs)
    (hh : 1 + heightList cs ≤ MAX_JUMB_DEPTH)
    (hs : (Box.super ((Desc.new label uuid).withSalt p) cs).size < 4294967296)
    (hL : (Box.super ((Desc.new label uuid).withSalt p) cs).ser.length + post.length < 2 ^ 64) :
    parse ((Box.super ((Desc.new label uuid).withSalt p) cs).ser ++ post) =
      .ok ((Box.super ((Desc.new label uuid).withSalt p) cs).norm,
        (Box.super ((Desc.new label uuid).withSalt p) cs).ser.length) :=
  parse_ser_append _ cs post
    ⟨new_withSalt_valid p ((new_valid_iff label uuid).2 ⟨hu, hl, h0⟩), hv⟩ ⟨hne, hq⟩
    (by simpa [Box.height] using hh) hs hL

/-- the SDK's redaction placeholder with *empty* data (`CAIUUIDAssertionBox::new("c2pa.redacted")` +
`add_uuid(C2PA_REDACTION_UUID, vec![])`, which `get_assertion_from_jumbf_store` explicitly allows:
"zeros or empty"): the written box is not readable -/
def ctorUuidEmpty : Box :=
  .super (Desc.new [99, 50, 112, 97, 46, 114, 101, 100, 97, 99, 116, 101, 100]
      (hexU "7575696400110010800000aa00389b71"))
    [.uuid (hexU "caa98eee9d4df80e86ad4dffca263973") []]

theorem ctorUuidEmpty_unreadable : parse ctorUuidEmpty.ser = .err .invalidUuid :=
  isErr_sound (by unfold ctorUuidEmpty hexU fromHex?; decide_run)

/-- a manifest whose assertion store is empty (`CAIAssertionStore::new()` with nothing added, followed
by the claim box): not readable (the reader takes the claim box for the store's content and then
finds the position beyond the store's end) -/
def ctorEmptyStore : Box :=
  .super (Desc.new [109] (hexU "63326d6100110010800000aa00389b71"))
    [.super (Desc.new [99, 50, 112, 97, 46, 97, 115, 115, 101, 114, 116, 105, 111, 110, 115]
        (hexU "6332617300110010800000aa00389b71")) [],
     .super (Desc.new [99, 50, 112, 97, 46, 99, 108, 97, 105, 109]
        (hexU "6332636c00110010800000aa00389b71")) [.leaf .cbor [0xa0]]]

theorem ctorEmptyStore_unreadable : parse ctorEmptyStore.ser = .err .invalidJumbBox :=
  isErr_sound (by unfold ctorEmptyStore hexU fromHex?; decide_run)

/-- non-vacuity of `new_roundtrip` / `new_unreadable`: the JSON assertion box the SDK builds for the
label `q`, with a 16-byte salt; and the same with the label `q\0x` -/
example : parse ((Box.super ((Desc.new [113] (hexU "6a736f6e00110010800000aa00389b71")).withSalt
      (some (List.replicate 16 7))) [.leaf .json [123, 125]]).ser ++ [1, 2, 3]) =
    .ok (.super ⟨hexU "6a736f6e00110010800000aa00389b71", 19, [113], none, none,
      some (List.replicate 16 7)⟩ [.leaf .json [123, 125]], 69) :=
  isOk_sound (by unfold hexU fromHex?; decide_run)
example : parse ((Box.super (Desc.new [113, 0, 120] (hexU "6a736f6e00110010800000aa00389b71"))
      [.leaf .json [123, 125]]).ser ++ [1, 2, 3]) = .err .unexpectedEof :=
  new_unreadable _ _ _ _ (by unfold hexU fromHex?; decide_run) (Or.inl (by decide +kernel))
    (by unfold hexU fromHex?; decide_run)

/-! ### large-size child boxes with a payload are misread (two witnesses; finding, not a round-trip failure)

`read_super_box_impl` seeks back 8 bytes after the header of a child, also when the header was the
16-byte large-size form; the content reader then takes the XLBox field for a header.  With a size
below 2^32 that header has size 0: the box is taken as empty, and its *payload is read as the next
sibling boxes*. A nested large-size `jumb` gives `InvalidJumbfHeader`. -/

/-- a large-size `json` box (size 24) whose 8 payload bytes are `00000008 66726565` -/
def xLargeChild : Bytes :=
  be32 59 ++ be32 JUMB ++ serDesc (qDesc 113)
    ++ (be32 1 ++ be32 Kind.json.fourcc ++ (be32 0 ++ be32 24) ++ (be32 8 ++ be32 Kind.free.fourcc))

theorem largeChild_misread :
    parse xLargeChild = .ok (.super (qDesc 113) [.leaf .json [], .leaf .free []], 59) :=
  isOk_sound (by decide +kernel)

theorem largeChild_jumb_rejected :
    parse (be32 86 ++ be32 JUMB ++ serDesc (qDesc 113)
      ++ (be32 1 ++ be32 JUMB ++ (be32 0 ++ be32 51) ++ serDesc (qDesc 101) ++ (Box.leaf .json [123, 125]).ser))
      = .err .invalidJumbfHeader :=
  isErr_sound (by decide +kernel)

/-! ### the manifest layer: `CAIManifest::from` and `CAIManifest::write_box_payload` -/

/-- **Plain manifests.** The re-read that `CAIManifest::from` performs on every uncompressed child of
the store is the identity (up to `norm`) on valid quirk-free manifests, and writing the result gives
the manifest's bytes back. -/
theorem manifest_plain_roundtrip (dec : Bytes → Option Bytes) (enc : Bytes → Bytes)
    (d : Desc) (cs : List Box)
    (hv : (Box.super d cs).Valid) (hq : (Box.super d cs).QuirkFree)
    (hh : (Box.super d cs).height ≤ MAX_JUMB_DEPTH) (hs : (Box.super d cs).size < 4294967296)
    (hnb : firstBrob (.super d cs) = none) :
    manifestFrom dec (.super d cs) = .ok ⟨false, mtypeOf (.super d cs), (Box.super d cs).norm⟩ ∧
      manifestWrite enc ⟨false, mtypeOf (.super d cs), (Box.super d cs).norm⟩ = (Box.super d cs).ser := by
  constructor
  · unfold manifestFrom
    simp only [hnb, parse_ser d cs hv hq hh hs, bind_ok, mtypeOf]
  · simp [manifestWrite, Box.norm_ser]

/-- the box `CAIManifest::write_box_payload` writes for a compressed manifest -/
def compressedBox (enc : Bytes → Bytes) (d : Desc) (cs : List Box) : Box :=
  .super (Desc.new (labelStr d.label) UUID_C2CM) [.leaf .brob (enc (Box.super d cs).ser)]

/-- **Compressed manifests** ("including compressed manifests"), Brotli as a parameter: `enc` is a
function (the compressor is deterministic) and `dec` undoes it on this input. Writing a compressed
manifest gives the `c2cm` box `W`; `W` (followed by anything) is read back by the box reader as
itself; `CAIManifest::from` on it gives the manifest back (with a fresh depth budget: the manifest may
itself nest 32 deep); and writing that gives `W` again. -/
theorem manifest_compressed_roundtrip (dec : Bytes → Option Bytes) (enc : Bytes → Bytes)
    (d : Desc) (cs : List Box) (t : MType) (post : Bytes)
    (hv : (Box.super d cs).Valid) (hq : (Box.super d cs).QuirkFree)
    (hh : (Box.super d cs).height ≤ MAX_JUMB_DEPTH) (hs : (Box.super d cs).size < 4294967296)
    (hbr : dec (enc (Box.super d cs).ser) = some (Box.super d cs).ser)
    (hsW : (compressedBox enc d cs).size < 4294967296)
    (hL : (compressedBox enc d cs).ser.length + post.length < 2 ^ 64) :
    manifestWrite enc ⟨true, t, .super d cs⟩ = (compressedBox enc d cs).ser ∧
    parse ((compressedBox enc d cs).ser ++ post) =
      .ok (compressedBox enc d cs, (compressedBox enc d cs).ser.length) ∧
    manifestFrom dec (compressedBox enc d cs) =
      .ok ⟨true, mtypeOf (.super d cs), (Box.super d cs).norm⟩ ∧
    manifestWrite enc ⟨true, mtypeOf (.super d cs), (Box.super d cs).norm⟩ =
      (compressedBox enc d cs).ser := by
  have hlab := labelStr_of_valid hv.1
  refine ⟨by simp [manifestWrite, Box.descOf, compressedBox], ?_, ?_, ?_⟩
  · -- of `d.Valid`: `hv.1.2` the label is a non-empty `str`, `hv.1.1.2.2.1` (third clause of `Valid0`) it holds no NUL
    have hvW : (Desc.new (labelStr d.label) UUID_C2CM).Valid :=
      (new_valid_iff _ _).2 ⟨by unfold UUID_C2CM hexU fromHex?; decide_run, by rw [hlab]; exact hv.1.2,
        by rw [hlab]; exact hv.1.1.2.2.1⟩
    exact parse_ser_append _ _ post ⟨hvW, trivial, trivial⟩ ⟨by simp, trivial, trivial⟩
      (by show 1 + max 0 0 ≤ 32; decide) hsW hL
  · unfold manifestFrom
    simp only [compressedBox, firstBrob, hbr]
    simp only [parse_ser d cs hv hq hh hs, bind_ok, mtypeOf]
  · simp [manifestWrite, Box.descOf, Box.norm, compressedBox, normList_ser, normList_size, Box.ser]

/-- `CAIManifest::from` decides "compressed" by the type of the first child alone: neither the UUID of
the enclosing box (`c2cm` or not) nor its label, salt or further children matter: two boxes that differ
only in these give the same result. (What is written back for it is `compressedBox`:
`manifest_compressed_roundtrip`.) -/
theorem manifestFrom_brob_any_desc (dec : Bytes → Option Bytes) (d d' : Desc) (x : Bytes)
    (cs cs' : List Box) :
    manifestFrom dec (.super d (.leaf .brob x :: cs)) = manifestFrom dec (.super d' (.leaf .brob x :: cs')) := by
  simp [manifestFrom, firstBrob]

theorem childManifests_plain (dec : Bytes → Option Bytes) (enc : Bytes → Bytes) : ∀ (cs : List Box),
    ValidList cs → QuirkFreeList cs → heightList cs ≤ MAX_JUMB_DEPTH → sizeList cs < 4294967296 →
    (∀ c ∈ cs, c.isSuper ∧ firstBrob c = none) →
    ∃ ms, childManifests dec cs = .ok ms ∧ ms.map (manifestWrite enc) = cs.map Box.ser
  | [], _, _, _, _, _ => ⟨[], rfl, rfl⟩
  | c :: rest, hv, hq, hh, hs, hplain => by
    obtain ⟨hsup, hnb⟩ := hplain c (List.mem_cons_self ..)
    obtain ⟨d, cs, rfl⟩ := hsup.eq_super
    simp only [heightList, sizeList] at hh hs
    obtain ⟨ms, h1, h2⟩ := childManifests_plain dec enc rest hv.2 hq.2 (by omega) (by omega)
      fun a ha => hplain a (List.mem_cons_of_mem _ ha)
    have hm := manifest_plain_roundtrip dec enc d cs hv.1 hq.1 (by omega) (by omega) hnb
    exact ⟨⟨false, mtypeOf (.super d cs), (Box.super d cs).norm⟩ :: ms,
      by simp only [childManifests, hm.1, h1, bind_ok], by simp only [List.map_cons, hm.2, h2]⟩

/-- **The manifest loop of the store reader on an accepted store** (the composite acceptance that
`Store::from_jumbf_impl` applies below the claim layer: `read_super_box` on the buffer, then
`CAIManifest::from` — write and re-read — on every child). If the reader accepts `x` (at most
8/9 · 2^32 bytes) with a quirk-free tree whose children are all plain (uncompressed) manifests, then
every child loads, and writing the loaded manifests gives exactly the children's re-serialisation:
load → write is the identity on `ser (parse x)` at the manifest layer. -/
theorem loadBoxes_plain_fixed (dec : Bytes → Option Bytes) (enc : Bytes → Bytes)
    (x : Bytes) (d : Desc) (cs : List Box) (e : Nat)
    (h : parse x = .ok (.super d cs, e)) (hq : (Box.super d cs).QuirkFree)
    (hx : x.length ≤ 3817748707)
    (hplain : ∀ c ∈ cs, c.isSuper ∧ firstBrob c = none) :
    ∃ ms, loadBoxes dec x = .ok ms ∧ ms.map (manifestWrite enc) = cs.map Box.ser := by
  obtain ⟨hv, hh, _, _⟩ := parse_wf x _ e h
  have hs := parse_size_lt_u32 x _ e h hq hx
  simp only [Box.size] at hs
  simp only [Box.height] at hh
  obtain ⟨ms, h1, h2⟩ := childManifests_plain dec enc cs hv.2 hq.2 (by omega) (by omega) hplain
  exact ⟨ms, by simp only [loadBoxes, h, bind_ok, h1], h2⟩

/-! ### the writer's own arithmetic -/

/-- **No `u32` overflow in the writer.** `box_size` / `box_payload_size` / `boxes_size!` add `u32`
values without checks (`Box.size32` models them with an overflow as `panic`, length casts as
truncation). For every tree below 4 GiB they compute exactly `Box.size`. -/
theorem writer_size_no_overflow (b : Box) (h : b.size < 4294967296) : b.size32 = .ok b.size :=
  b.size32_ok h

/-- `writer_size_no_overflow` where it matters: when the reader's result for an input of at most
8/9 · 2^32 bytes is written again (quirk-free tree), the re-serialisation never reaches an overflowing
addition. -/
theorem reser_writer_no_overflow (x : Bytes) (b : Box) (e : Nat) (h : parse x = .ok (b, e))
    (hq : b.QuirkFree) (hx : x.length ≤ 3817748707) : b.size32 = .ok b.size :=
  b.size32_ok (parse_size_lt_u32 x b e h hq hx)

/-- the hypothesis is needed: a `json` box with 2^32 − 8 bytes of content overflows `8 + len` -/
example : uadd 8 (asU32 4294967288) = .panic := by simp [uadd, asU32]

end C2pa.C18
