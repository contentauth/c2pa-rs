import C2paModel.Lemmas.C20Loop
import C2paModel.Lemmas.C20Filter
import C2paModel.Lemmas.C20Reach
import C2paModel.Lemmas.C20Still
import C2paModel.Lemmas.C20Bridge
import C2paModel.Gen.C20Labels
import C2paModel.Lemmas.DecideRun
/-
C20 — property theorems. The statement (properties.jsonl):

  When a manifest redacts assertions of its ingredients, the output no longer contains the
  redacted assertion data, still validates, and lists exactly the requested redactions.
  Redacting action or hard-binding assertions, redacting in the manifest's own assertions, or
  removing an assertion without a matching redaction entry is never reported Valid.

All theorems quantify over every claim / store / redaction list / log prefix of the model
(`Model/C20.lean`); "never reported Valid" is closed with the model of
`ValidationResults::from_store` (`fromStoreFilter` with the real `keep`, `Lemmas/C20Filter.lean`)
followed by the C04 model of `add_status` / `validation_state` (`reportS`): for **every** URL
decoration of the log (`Decorates`) and **every** content of the ingredient assertions (`recs`).

The clause "never Valid" was false of the code before `fixes/C20-from-store-active-claim-status-filter.patch`:
`from_store` dropped a status whose URL names another manifest when an equal status was listed in
any ingredient assertion, also for statuses of the active claim's own validation (a disallowed
redaction is logged with the URI of the redacted ingredient assertion). `prefix_filter_bypass`
below is the status of that counter-example on the model of the old predicate; the harness replays
it on the implementation (kinds `crafted_actions_prerec`, `crafted_hash_prerec`, `crafted_hash_stripped_prerec`).
-/
namespace C2pa.C20
open C2pa.C34

/-- the store-level theorems about the active manifest go through this: a non-tolerated failure that
`verify_claim` of the active manifest, run as `verify_store` runs it, logs in its own scope. No
hypothesis on `recs`: `from_store` never filters such a status. -/
theorem active_failure_never_valid (s : Store) (o : Out) (h : verifyStore s = some o)
    (root : Claim) (hroot : s.getLast? = some root)
    (hlog : ∀ g vc, gcrm s (fuelFor s) root [] {} = .ok g →
      verifyClaim root g.reds (g.map.filterMap (getClaim s)) false = some vc →
      ∃ e ∈ vc.log, e.isFailure = true ∧ e.ing = false ∧ C04.tolerated e.code = false)
    (sts : List St) (hdec : Decorates sts o.log)
    (active : Str) (recs : List Rec) (uriOf : St → List Char) (r0 res : C04.Results)
    (hrep : reportS active recs uriOf r0 sts = some res) :
    o.err = true ∨ C04.state res = .invalid := by
  cases herr : o.err
  · obtain ⟨g, vc, hg, hv, _, hsub, _⟩ := verifyStore_reaches_ingredients s o h herr root hroot
    obtain ⟨e, he, hf, hi, ht⟩ := hlog g vc hg hv
    exact Or.inr
      (active_scope_failure_invalid _ e (hsub e he) hf hi ht sts hdec active recs uriOf r0 res hrep)
  · exact Or.inl rfl

/-! ### a disallowed redaction entry is flagged and never reported Valid -/

def cSelfRedacted : Str := "assertion.selfRedacted".toList
def cActionRedacted : Str := "assertion.action.redacted".toList
def cHashRedacted : Str := "assertion.dataHash.redacted".toList
def cMissing : Str := "assertion.missing".toList
def cMismatch : Str := "assertion.hashedURI.mismatch".toList

theorem selfRedacted_not_tolerated : C04.tolerated cSelfRedacted = false := by
  unfold cSelfRedacted C04.tolerated C04.cUntrusted C04.cawgX509Prefix
  decide_run
theorem actionRedacted_not_tolerated : C04.tolerated cActionRedacted = false := by
  unfold cActionRedacted C04.tolerated C04.cUntrusted C04.cawgX509Prefix
  decide_run
theorem hashRedacted_not_tolerated : C04.tolerated cHashRedacted = false := by
  unfold cHashRedacted C04.tolerated C04.cUntrusted C04.cawgX509Prefix
  decide_run
theorem missing_not_tolerated : C04.tolerated cMissing = false := by
  unfold cMissing C04.tolerated C04.cUntrusted C04.cawgX509Prefix
  decide_run
theorem mismatch_not_tolerated : C04.tolerated cMismatch = false := by
  unfold cMismatch C04.tolerated C04.cUntrusted C04.cawgX509Prefix
  decide_run

/-- what the statement calls a disallowed redaction entry, *as the code tests it* (substring
tests on the URI text): it mentions the claim's own label, an actions label or a hard-binding
label -/
def Disallowed (c : Claim) (r : Str) : Prop :=
  containsSub c.label r = true ∨ containsSub cActions r = true ∨
    ∃ l ∈ hashLabels, containsSub l r = true

/-- the rule block on one redaction entry, arm by arm -/
theorem mem_redactionRulesFor {label : Str} {ing : Bool} {r : Str} {e : Ev} :
    e ∈ redactionRulesFor label ing r ↔
      containsSub label r = true ∧ e = fail "assertion.selfRedacted" ing ∨
      containsSub cActions r = true ∧ e = fail "assertion.action.redacted" ing ∨
      (∃ l ∈ hashLabels, containsSub l r = true) ∧ e = fail "assertion.dataHash.redacted" ing := by
  simp only [redactionRulesFor, List.mem_append, List.mem_ite_nil_right, List.mem_singleton,
    List.any_eq_true, or_assoc]

theorem disallowed_redaction_flagged (c : Claim) (ing : Bool) (rs : List Str) (r : Str)
    (hrs : c.redactions = some rs) (hr : r ∈ rs) (hd : Disallowed c r) :
    ∃ e ∈ redactionRules c ing, e.isFailure = true ∧ e.ing = ing ∧
      (e.code = cSelfRedacted ∨ e.code = cActionRedacted ∨ e.code = cHashRedacted) := by
  unfold redactionRules
  rw [hrs]
  simp only [List.mem_flatMap, mem_redactionRulesFor]
  rcases hd with h | h | h
  · exact ⟨_, ⟨r, hr, .inl ⟨h, rfl⟩⟩, rfl, rfl, .inl (fail_code _ _)⟩
  · exact ⟨_, ⟨r, hr, .inr (.inl ⟨h, rfl⟩)⟩, rfl, rfl, .inr (.inl (fail_code _ _))⟩
  · exact ⟨_, ⟨r, hr, .inr (.inr ⟨h, rfl⟩)⟩, rfl, rfl, .inr (.inr (fail_code _ _))⟩

theorem redactionRules_nil_of_allowed (c : Claim) (ing : Bool)
    (h : ∀ rs, c.redactions = some rs → ∀ r ∈ rs, ¬ Disallowed c r) : redactionRules c ing = [] := by
  unfold redactionRules
  cases hrs : c.redactions with
  | none => rfl
  | some rs =>
    refine List.eq_nil_iff_forall_not_mem.2 fun e he => ?_
    obtain ⟨r, hr, he⟩ := List.mem_flatMap.1 he
    exact h rs hrs r hr ((mem_redactionRulesFor.1 he).imp And.left (Or.imp And.left And.left))

theorem disallowed_redaction_logged (c : Claim) (reds : List Str) (map : List Claim) (ing : Bool)
    (o : Out) (h : verifyClaim c reds map ing = some o)
    (rs : List Str) (r : Str) (hrs : c.redactions = some rs) (hr : r ∈ rs) (hd : Disallowed c r) :
    ∃ e ∈ o.log, e.isFailure = true ∧ e.ing = ing ∧ C04.tolerated e.code = false ∧
      (e.code = cSelfRedacted ∨ e.code = cActionRedacted ∨ e.code = cHashRedacted) := by
  obtain ⟨e, he, hf, hing, hc⟩ := disallowed_redaction_flagged c ing rs r hrs hr hd
  refine ⟨e, head_sub_log c reds map ing o h e (List.mem_append_left _ (List.mem_append_right _ he)),
    hf, hing, ?_, hc⟩
  rcases hc with hc | hc | hc <;> rw [hc]
  · exact selfRedacted_not_tolerated
  · exact actionRedacted_not_tolerated
  · exact hashRedacted_not_tolerated

/-- whenever `verify_claim` runs on a claim (active manifest or ingredient) whose redaction list has
a disallowed entry, the log carries a non-tolerated failure; unless, in ingredient scope, that very
status was already recorded in an ingredient assertion (`hrec`), the reported validation state
(C04) is `Invalid`, whatever else is logged before or after. -/
theorem disallowed_redaction_invalid (c : Claim) (reds : List Str) (map : List Claim) (ing : Bool)
    (o : Out) (h : verifyClaim c reds map ing = some o)
    (rs : List Str) (r : Str) (hrs : c.redactions = some rs) (hr : r ∈ rs) (hd : Disallowed c r)
    (pre post : List Ev) (sts : List St) (hdec : Decorates sts (pre ++ o.log ++ post))
    (active : Str) (recs : List Rec) (uriOf : St → List Char) (r0 res : C04.Results)
    (hrep : reportS active recs uriOf r0 sts = some res)
    (hrec : ing = true → ∀ s ∈ sts, s.ing = true →
      (s.code = cSelfRedacted ∨ s.code = cActionRedacted ∨ s.code = cHashRedacted) →
        recordedIn recs s = false) :
    C04.state res = .invalid := by
  obtain ⟨e, he, hf, hing, ht, hc⟩ := disallowed_redaction_logged c reds map ing o h rs r hrs hr hd
  refine failure_invalid _ e (List.mem_append_left _ (List.mem_append_right _ he)) hf ht sts hdec
    active recs uriOf r0 res ?_ hrep
  intro hi s hs hcode hsi
  exact hrec (by rw [← hing, hi]) s hs hsi (by rw [hcode]; exact hc)

/-- **store level, active manifest** — `verify_store` on a store whose active manifest has a
disallowed redaction entry either returns `Err` (the Reader fails) or the Reader's state is
`Invalid`: for every URL the logged items carry and **whatever the ingredient assertions of the
store record** (no `hrec`: `from_store` never filters a status of the active claim's own validation). -/
theorem active_disallowed_redaction_never_valid (s : Store) (o : Out) (h : verifyStore s = some o)
    (root : Claim) (hroot : s.getLast? = some root)
    (rs : List Str) (r : Str) (hrs : root.redactions = some rs) (hr : r ∈ rs) (hd : Disallowed root r)
    (sts : List St) (hdec : Decorates sts o.log)
    (active : Str) (recs : List Rec) (uriOf : St → List Char) (r0 res : C04.Results)
    (hrep : reportS active recs uriOf r0 sts = some res) :
    o.err = true ∨ C04.state res = .invalid := by
  refine active_failure_never_valid s o h root hroot (fun g vc _ hv => ?_)
    sts hdec active recs uriOf r0 res hrep
  obtain ⟨e, he, hf, hi, ht, _⟩ := disallowed_redaction_logged root _ _ false vc hv rs r hrs hr hd
  exact ⟨e, he, hf, hi, ht⟩

/-- the filter without the exemption for statuses of the active claim's own validation (`keep`
has it) -/
def keepOld (active : Str) (recs : List Rec) (s : St) : P Bool := do
  let a ← isActiveUrl active s.url
  pure (a || !recordedIn recs s)

def exBypassSt : St :=
  ⟨cHashRedacted, some "self#jumbf=/c2pa/urn:c2pa:ing/c2pa.assertions/c2pa.hash.data".toList, .failure, false⟩

/-- **the status on which the full statement fails with `keepOld` as the filter** (replayed on the
implementation by the harness; here the two predicates are evaluated on it, no report is computed):
the status the validator logs for a redaction of the
ingredient's hard binding, recorded by the active manifest's signer in its own ingredient
assertion, is dropped by `keepOld` and kept by `keep`. -/
theorem prefix_filter_bypass :
    keepOld "urn:c2pa:act".toList [⟨exBypassSt.code, exBypassSt.url, .failure⟩] exBypassSt = some false ∧
    keep "urn:c2pa:act".toList [⟨exBypassSt.code, exBypassSt.url, .failure⟩] exBypassSt = some true := by
  unfold exBypassSt cHashRedacted
  decide_run

/-! ### what a redaction *targets* (parsed key) versus what the rule *tests* (URI text) -/

/-- a redaction URI from which `assertion_label_from_link`
extracts a label that starts with `c2pa.actions` or with a hard-binding label is `Disallowed`
for every claim: the `contains` tests of the rule block see the label in the URI text. (A change
of URI normalisation under which the skip of the assertion loop still matches but the literal
`contains` does not would break this theorem's proof through the C34 model.) -/
theorem protected_target_disallowed (c : Claim) (r l : Str) (i : Nat)
    (hl : assertionLabelFromLink r = some (l, i))
    (hp : cActions.isPrefixOf l = true ∨ ∃ h ∈ hashLabels, h.isPrefixOf l = true) :
    Disallowed c r := by
  rcases hp with h | ⟨p, hp, h⟩
  · exact Or.inr (Or.inl (label_prefix_in_uri r l i hl cActions (Or.inl rfl) h))
  · exact Or.inr (Or.inr ⟨p, hp, label_prefix_in_uri r l i hl p (Or.inr hp) h⟩)

theorem self_target_disallowed (c : Claim) (r : Str)
    (hm : manifestLabelFromUri r = some (some c.label)) : Disallowed c r :=
  Or.inl (manifest_label_in_uri r c.label hm)

/-- in terms of the parsed key the assertion loop uses for its skip: whenever a redaction entry
of a claim would make the loop skip (`isRedacted`) a hashed URI whose label is protected, or a
hashed URI of the claim itself, the entry is `Disallowed` — and therefore flagged
(`disallowed_redaction_flagged`) -/
theorem skipping_protected_is_disallowed (c : Claim) (r : Str) (k : RedKey)
    (hk : parseRedaction r = some k)
    (hp : k.manifest = c.label ∧ k.manifest ≠ [] ∨ cActions.isPrefixOf k.label = true ∨
      ∃ h ∈ hashLabels, h.isPrefixOf k.label = true) : Disallowed c r := by
  unfold parseRedaction at hk
  obtain ⟨om, hm, hk⟩ := Option.bind_eq_some_iff.1 hk
  obtain ⟨⟨l, i⟩, hl, hk⟩ := Option.bind_eq_some_iff.1 hk
  cases hk
  rcases hp with ⟨h1, h2⟩ | h | h
  · cases om with
    | none => exact absurd rfl h2
    | some m =>
      obtain rfl : m = c.label := h1
      exact self_target_disallowed c r hm
  · exact protected_target_disallowed c r l i hl (Or.inl h)
  · exact protected_target_disallowed c r l i hl (Or.inr h)

/-! ### an assertion removed or changed without a redaction entry is never reported Valid -/

theorem missing_logged (c : Claim) (reds : List Str) (map : List Claim) (ing : Bool)
    (o : Out) (h : verifyClaim c reds map ing = some o)
    (keys : List RedKey) (refs : List Ref)
    (hk : parseRedactions reds = some keys) (hrefs : parseRefs c.assertions = some refs)
    (r : Ref) (hr : r ∈ refs)
    (hnot : isRedacted keys c.label r.label r.inst = false)
    (hgone : findCA c r.label r.inst = none) :
    fail "assertion.missing" ing ∈ o.log :=
  refEvents_sub_log c reds map ing o h keys refs hk hrefs r hr _ (refEvents_missing c keys ing r hnot hgone)

/-- a hashed URI of a verified claim whose assertion is no
longer in the assertion store and which is covered by no redaction of the hierarchy
(`svi.redactions`) yields `assertion.missing`; the reported state is `Invalid`. -/
theorem removal_without_redaction_invalid (c : Claim) (reds : List Str) (map : List Claim) (ing : Bool)
    (o : Out) (h : verifyClaim c reds map ing = some o)
    (keys : List RedKey) (refs : List Ref)
    (hk : parseRedactions reds = some keys) (hrefs : parseRefs c.assertions = some refs)
    (r : Ref) (hr : r ∈ refs)
    (hnot : isRedacted keys c.label r.label r.inst = false)
    (hgone : findCA c r.label r.inst = none)
    (pre post : List Ev) (sts : List St) (hdec : Decorates sts (pre ++ o.log ++ post))
    (active : Str) (recs : List Rec) (uriOf : St → List Char) (r0 res : C04.Results)
    (hrep : reportS active recs uriOf r0 sts = some res)
    (hrec : ing = true → ∀ s ∈ sts, s.code = cMissing → s.ing = true → recordedIn recs s = false) :
    fail "assertion.missing" ing ∈ o.log ∧ C04.state res = .invalid := by
  have hin := missing_logged c reds map ing o h keys refs hk hrefs r hr hnot hgone
  exact ⟨hin, fail_invalid _ _ ing (List.mem_append_left _ (List.mem_append_right _ hin))
    missing_not_tolerated sts hdec active recs uriOf r0 res hrec hrep⟩

/-- a hashed URI of a verified claim whose assertion data was changed (not removed) after signing and
which no redaction of the hierarchy covers yields `assertion.hashedURI.mismatch`: the reported state is
`Invalid`. -/
theorem change_without_redaction_invalid (c : Claim) (reds : List Str) (map : List Claim) (ing : Bool)
    (o : Out) (h : verifyClaim c reds map ing = some o)
    (keys : List RedKey) (refs : List Ref)
    (hk : parseRedactions reds = some keys) (hrefs : parseRefs c.assertions = some refs)
    (r : Ref) (hr : r ∈ refs) (ca : CA)
    (hnot : isRedacted keys c.label r.label r.inst = false)
    (hfound : findCA c r.label r.inst = some ca) (hchanged : ca.hash ≠ r.hu.hash)
    (pre post : List Ev) (sts : List St) (hdec : Decorates sts (pre ++ o.log ++ post))
    (active : Str) (recs : List Rec) (uriOf : St → List Char) (r0 res : C04.Results)
    (hrep : reportS active recs uriOf r0 sts = some res)
    (hrec : ing = true → ∀ s ∈ sts, s.code = cMismatch → s.ing = true → recordedIn recs s = false) :
    C04.state res = .invalid := by
  have hin := refEvents_sub_log c reds map ing o h keys refs hk hrefs r hr _
    (refEvents_mismatch c keys ing r ca hnot hfound hchanged)
  exact fail_invalid _ _ ing (List.mem_append_left _ (List.mem_append_right _ hin))
    mismatch_not_tolerated sts hdec active recs uriOf r0 res hrec hrep

/-- **store level, active manifest** — an assertion of the active manifest removed (or never
stored) while its hashed URI is still in the claim and no redaction of the hierarchy
(`svi.redactions` = `g.reds`) covers it: `verify_store` returns `Err` or the Reader's state is
`Invalid`, whatever the ingredient assertions record. -/
theorem active_removal_never_valid (s : Store) (o : Out) (h : verifyStore s = some o)
    (root : Claim) (hroot : s.getLast? = some root)
    (g : GSt) (hg : gcrm s (fuelFor s) root [] {} = .ok g)
    (keys : List RedKey) (refs : List Ref)
    (hk : parseRedactions g.reds = some keys) (hrefs : parseRefs root.assertions = some refs)
    (r : Ref) (hr : r ∈ refs)
    (hnot : isRedacted keys root.label r.label r.inst = false)
    (hgone : findCA root r.label r.inst = none)
    (sts : List St) (hdec : Decorates sts o.log)
    (active : Str) (recs : List Rec) (uriOf : St → List Char) (r0 res : C04.Results)
    (hrep : reportS active recs uriOf r0 sts = some res) :
    o.err = true ∨ C04.state res = .invalid := by
  refine active_failure_never_valid s o h root hroot (fun g' vc hg' hv => ?_)
    sts hdec active recs uriOf r0 res hrep
  rw [hg] at hg'; cases hg'
  exact ⟨_, missing_logged root g.reds _ false vc hv keys refs hk hrefs r hr hnot hgone,
    rfl, rfl, fail_not_tolerated false missing_not_tolerated⟩

/-- **store level, ingredient at depth 1** (the property's main case) — an assertion removed
from an ingredient manifest `ic` of the active manifest (the ingredient edge `x` resolves to
`ic`) while its hashed URI is still in `ic`'s claim and no redaction of the hierarchy covers
it: `verify_store` returns `Err`, or the Reader's state is `Invalid` **unless an ingredient
assertion of the store records exactly that `assertion.missing` status** (C2PA: a failure of an
ingredient that its importer recorded is not reported again; `keep_false_iff` is the exact
condition). -/
theorem ingredient_removal_never_valid (s : Store) (o : Out) (h : verifyStore s = some o)
    (root : Claim) (hroot : s.getLast? = some root)
    (g : GSt) (hg : gcrm s (fuelFor s) root [] {} = .ok g)
    (x : CA × Option IngD) (hx : x ∈ ingAssertions root)
    (d : IngD) (t : HU) (il : Str) (ic : Claim) (hres : Resolves s x d t il ic)
    (keys : List RedKey) (refs : List Ref)
    (hk : parseRedactions g.reds = some keys) (hrefs : parseRefs ic.assertions = some refs)
    (r : Ref) (hr : r ∈ refs)
    (hnot : isRedacted keys ic.label r.label r.inst = false)
    (hgone : findCA ic r.label r.inst = none)
    (sts : List St) (hdec : Decorates sts o.log)
    (active : Str) (recs : List Rec) (uriOf : St → List Char) (r0 res : C04.Results)
    (hrep : reportS active recs uriOf r0 sts = some res)
    (hrec : ∀ s ∈ sts, s.code = cMissing → s.ing = true → recordedIn recs s = false) :
    o.err = true ∨ C04.state res = .invalid := by
  cases herr : o.err
  · obtain ⟨g', _, hg', _, _, _, hreach⟩ := verifyStore_reaches_ingredients s o h herr root hroot
    rw [hg] at hg'; cases hg'
    obtain ⟨vc, hv, _, _, _, hsub⟩ := hreach x hx d t il ic hres
    have hin := hsub _ (missing_logged ic g.reds _ true vc hv keys refs hk hrefs r hr hnot hgone)
    exact Or.inr (fail_invalid _ _ true hin missing_not_tolerated
      sts hdec active recs uriOf r0 res (fun _ => hrec) hrep)
  · exact Or.inl rfl

/-- ingredient level: a manifest whose box hash no longer equals the ingredient's hashed URI
(nor the pre-1.3 hash), with no redaction of the hierarchy mentioning its label, is a
`ingredient.manifest.mismatch` failure. (That a removal changes the box hash is the
collision-freeness idealisation; it is a hypothesis here.) -/
theorem ingredient_changed_without_redaction_flagged (reds : List Str) (il : Str) (d : IngD) (t : HU)
    (ic : Claim) (hno : ∀ r ∈ reds, containsSub il r = false)
    (hbox : t.hash ≠ ic.boxHash) (hlegacy : t.hash ≠ ic.dataHash) :
    fail "ingredient.manifest.mismatch" true ∈ (edgeCheck reds il d t ic).log := by
  have hred : (reds.any fun r => containsSub il r) = false := by
    cases hc : (reds.any fun r => containsSub il r)
    · rfl
    · obtain ⟨r, hr, hr'⟩ := List.any_eq_true.1 hc
      rw [hno r hr] at hr'; cases hr'
  have h1 : (t.hash == ic.boxHash) = false := by simpa using hbox
  have h2 : (t.hash == ic.dataHash) = false := by simpa using hlegacy
  unfold edgeCheck
  simp [hred, h1, h2]

/-! ### the signer removes exactly the requested assertion or data box -/

/-- **exact redaction, one URI** — a successful `redact_assertion` of an assertion-store URI
removes exactly one assertion, the first whose label-with-instance is the requested one, and
changes nothing else of the claim. -/
theorem redact_assertion_exact (c c' : Claim) (uri : Str) (hstore : containsSub cAssertions uri = true)
    (h : redactAssertion c uri = some (.ok c')) :
    ∃ l i target pre a post,
      assertionLabelFromLink uri = some (l, i) ∧ labelWithInstance l i = some target ∧
      cActions.isPrefixOf l = false ∧ cHashPrefix.isPrefixOf l = false ∧
      c.store = pre ++ a :: post ∧ c'.store = pre ++ post ∧
      labelWithInstance a.label a.inst = some target ∧
      (∀ b ∈ pre, labelWithInstance b.label b.inst ≠ some target) ∧
      c' = { c with store := pre ++ post } := by
  obtain ⟨l, i, hl, h1, h2, hbr⟩ := redactAssertion_ok c c' uri h
  rw [if_pos hstore] at hbr
  obtain ⟨target, st, ht, he, hc'⟩ := hbr
  obtain ⟨pre, a, post, hs, rfl, ha, hpre⟩ := erasePos_spec target c.store (some st) he
  exact ⟨l, i, target, pre, a, post, hl, ht, h1, h2, hs, by rw [hc'], ha, hpre, hc'⟩

/-- the data-box branch: a successful run removes exactly the first data box whose normalised URL
is the normalised data-box URI of the requested box name -/
theorem redactDatabox_exact (c c' : Claim) (uri : Str) (h : redactDatabox c uri = some (.ok c')) :
    ∃ bn target pre b post,
      boxNameFromUri uri = some (some bn) ∧
      toNormalizedUri (toDataboxUri c.label bn) = some target ∧
      c.databoxes = pre ++ b :: post ∧ toNormalizedUri b.1 = some target ∧
      (∀ x ∈ pre, toNormalizedUri x.1 ≠ some target) ∧
      c' = { c with databoxes := pre ++ post } := by
  unfold redactDatabox at h
  obtain ⟨obn, hb, h⟩ := Option.bind_eq_some_iff.1 h
  cases obn with
  | none => cases h
  | some bn =>
    obtain ⟨target, ht, h⟩ := Option.bind_eq_some_iff.1 h
    obtain ⟨obs, he, h⟩ := Option.bind_eq_some_iff.1 h
    cases obs with
    | none => cases h
    | some bs =>
      obtain ⟨pre, b, post, h1, rfl, h3, h4⟩ := eraseBox_some target c.databoxes bs he
      cases h
      exact ⟨bn, target, pre, b, post, hb, ht, h1, h3, h4, rfl⟩

/-- **exact redaction, data box** — a successful `redact_assertion` of a URI outside the
assertion store went through the data-box branch: it removes exactly one data box (see
`redactDatabox_exact`) and changes nothing else of the claim, in particular not the assertion
store. -/
theorem redact_databox_exact (c c' : Claim) (uri : Str) (hstore : containsSub cAssertions uri = false)
    (h : redactAssertion c uri = some (.ok c')) :
    containsSub cDataboxes uri = true ∧ redactDatabox c uri = some (.ok c') ∧ c'.store = c.store := by
  obtain ⟨_, _, _, _, _, hbr⟩ := redactAssertion_ok c c' uri h
  rw [if_neg (by rw [hstore]; simp)] at hbr
  obtain ⟨hd, hdb⟩ := hbr
  obtain ⟨_, _, pre, _, post, _, _, _, _, _, hc'⟩ := redactDatabox_exact c c' uri hdb
  exact ⟨hd, hdb, by rw [hc']⟩

/-- the redacted assertion is gone: when labels-with-instance are unique in the store (they are
for every store built by `add_assertion`), no assertion with the requested label remains -/
theorem redact_assertion_gone (c c' : Claim) (uri : Str) (hstore : containsSub cAssertions uri = true)
    (h : redactAssertion c uri = some (.ok c'))
    (hnodup : (c.store.map fun a => labelWithInstance a.label a.inst).Nodup) :
    ∀ l i target, assertionLabelFromLink uri = some (l, i) → labelWithInstance l i = some target →
      ∀ b ∈ c'.store, labelWithInstance b.label b.inst ≠ some target := by
  obtain ⟨l, i, target, pre, a, post, hl, ht, _, _, hs, hs', ha, hpre, _⟩ :=
    redact_assertion_exact c c' uri hstore h
  intro l' i' target' hl' ht' b hb
  rw [hl] at hl'; cases hl'
  rw [ht] at ht'; cases ht'
  rw [hs'] at hb
  rw [hs, List.map_append, List.map_cons] at hnodup
  rcases List.mem_append.1 hb with hb | hb
  · exact hpre b hb
  · intro hc
    have hnd := (List.nodup_append.1 hnodup).2.1
    have : labelWithInstance a.label a.inst ∉ post.map fun a => labelWithInstance a.label a.inst :=
      (List.nodup_cons.1 hnd).1
    apply this
    rw [ha, ← hc]
    exact List.mem_map.2 ⟨b, hb, rfl⟩

/-- action and hard-binding assertions are never redacted by the signer's routine -/
theorem redact_assertion_refuses_protected (c : Claim) (uri : Str) (l : Str) (i : Nat)
    (hl : assertionLabelFromLink uri = some (l, i))
    (hp : cActions.isPrefixOf l = true ∨ cHashPrefix.isPrefixOf l = true) :
    redactAssertion c uri = some (.error .invalidRedaction) := by
  unfold redactAssertion
  have : (cActions.isPrefixOf l || cHashPrefix.isPrefixOf l) = true := by
    rcases hp with h | h <;> simp [h]
  simp only [hl, Option.bind_eq_bind, Option.bind_some, this, if_true]
  rfl

/-! ### the claim lists exactly the requested redactions -/

theorem applied_sublist :
    ∀ (reqs : List Str) (batch b : List Claim) (ap : List Str),
      applyRedactions reqs batch = some (.ok (b, ap)) → ap.Sublist reqs := by
  intro reqs
  induction reqs with
  | nil =>
    intro batch b ap h
    cases h
    exact List.Sublist.slnil
  | cons r rs ih =>
    intro batch b ap h
    unfold applyRedactions at h
    obtain ⟨x, _, h⟩ := Option.bind_eq_some_iff.1 h
    rcases x with e | _ | batch'
    · cases h
    · exact (ih batch b ap h).cons _
    · obtain ⟨y, hrec, h⟩ := Option.bind_eq_some_iff.1 h
      rcases y with e | ⟨b', ap'⟩
      · cases h
      · cases h
        exact (ih batch' _ _ hrec).cons_cons _

theorem addIngredientData_spec (self self' : Option (List Str)) (batch b : List Claim) (rq : List Str)
    (h : addIngredientData self batch (some rq) = some (.ok (self', b))) :
    ∃ ap, ap.Sublist rq ∧ self'.getD [] = self.getD [] ++ ap := by
  unfold addIngredientData at h
  obtain ⟨x, ha, h⟩ := Option.bind_eq_some_iff.1 h
  rcases x with e | ⟨b', ap⟩
  · cases h
  · cases h
    refine ⟨ap, applied_sublist rq batch b ap ha, ?_⟩
    cases self with
    | some ex => rfl
    | none => cases ap <;> rfl

theorem builderPostCheck_mem (applied : Option (List Str)) (reqs : List Str)
    (h : builderPostCheck applied (some reqs) = true) : ∀ r ∈ reqs, r ∈ applied.getD [] := by
  intro r hr
  unfold builderPostCheck at h
  simpa using List.all_eq_true.1 h r hr

/-- **listed = requested** — when the signer's redaction loop succeeds for a
claim without earlier redactions and the Builder's post-check accepts, the claim's redaction
list has exactly the requested entries: every listed one was requested (sub-list, same order)
and every requested one is listed. -/
theorem listed_exactly_requested (batch b : List Claim) (reqs : List Str) (self' : Option (List Str))
    (h : addIngredientData none batch (some reqs) = some (.ok (self', b)))
    (hpost : builderPostCheck self' (some reqs) = true) :
    (∀ r, r ∈ self'.getD [] ↔ r ∈ reqs) ∧ (self'.getD []).Sublist reqs := by
  obtain ⟨ap, hsub, hself⟩ := addIngredientData_spec none self' batch b reqs h
  rw [Option.getD_none, List.nil_append] at hself
  have hall := builderPostCheck_mem self' reqs hpost
  rw [hself] at hall ⊢
  exact ⟨fun r => ⟨fun hr => hsub.subset hr, hall r⟩, hsub⟩

/-- `Builder::to_claim`: one `Ingredient::add_to_claim` → `Store::load_ingredient_to_claim` →
`add_ingredient_data(claims, Some(list_k))` per ingredient; `list_k` is the de-duplicated
`definition.redactions` in hash-set order (plus, on a conflict, redactions already carried by the
stored copy). `none` = a call failed. -/
def builderLoop : Option (List Str) → List (List Claim × List Str) → Option (Option (List Str))
  | self, [] => some self
  | self, (batch, rq) :: rest =>
    match addIngredientData self batch (some rq) with
    | some (.ok (self', _)) => builderLoop self' rest
    | _ => none

theorem builderLoop_listed (reqs : List Str) :
    ∀ (ings : List (List Claim × List Str)) (self final : Option (List Str)),
      (∀ p ∈ ings, ∀ r ∈ p.2, r ∈ reqs) → (∀ r ∈ self.getD [], r ∈ reqs) →
      builderLoop self ings = some final → ∀ r ∈ final.getD [], r ∈ reqs := by
  intro ings
  induction ings with
  | nil =>
    intro self final _ hself h
    cases h
    exact hself
  | cons p rest ih =>
    intro self final hsub hself h
    obtain ⟨batch, rq⟩ := p
    unfold builderLoop at h
    split at h
    next self' b ha =>
      obtain ⟨ap, hap, hself'⟩ := addIngredientData_spec self self' batch b rq ha
      refine ih self' final (fun p hp => hsub p (List.mem_cons_of_mem _ hp)) ?_ h
      intro r hr
      rw [hself'] at hr
      rcases List.mem_append.1 hr with hr | hr
      · exact hself r hr
      · exact hsub (batch, rq) (List.mem_cons_self ..) r (hap.subset hr)
    · cases h

/-- **listed = requested, the Builder's real call pattern** — any number of
ingredients, each handled by its own `add_ingredient_data` call on the growing claim with a
request list drawn from the definition's redactions (any order, de-duplicated or not); if all
calls succeed and the post-check accepts, the claim lists exactly the requested redactions
(as sets: the code goes through a `HashSet`, so order and multiplicity are not determined). -/
theorem listed_exactly_requested_chain (reqs : List Str) (ings : List (List Claim × List Str))
    (final : Option (List Str))
    (hsub : ∀ p ∈ ings, ∀ r ∈ p.2, r ∈ reqs)
    (h : builderLoop none ings = some final)
    (hpost : builderPostCheck final (some reqs) = true) :
    ∀ r, r ∈ final.getD [] ↔ r ∈ reqs := by
  intro r
  constructor
  · exact builderLoop_listed reqs ings none final hsub (by simp) h r
  · exact builderPostCheck_mem final reqs hpost r

/-! ### the redacted claim still validates -/

/-- **validity of the assertion loop, both directions**: the loop of `verify_claim` logs no
failure iff every hashed URI of the claim points into the claim and is either covered by a
redaction of the hierarchy or resolves to an unchanged assertion. -/
theorem assertions_clean_iff (c : Claim) (keys : List RedKey) (ing : Bool) (refs : List Ref) :
    (∀ e ∈ (assertionLoop c keys ing refs c.store).1, e.isFailure = false) ↔
      ∀ r ∈ refs, RefClean c keys r := by
  rw [assertionLoop_eq]; exact refs_clean_iff c keys ing refs

/-- **still validates** — if every hashed URI of an ingredient claim was clean before, then
after the removal of one assertion `a` whose key is listed among the hierarchy's redactions
for this manifest, every hashed URI is still clean (the removed one is skipped, all others
still resolve to the same assertion). -/
theorem legal_redaction_still_clean (c : Claim) (pre post : List CA) (a : CA)
    (keys keys' : List RedKey) (refs : List Ref)
    (hs : c.store = pre ++ a :: post)
    (hsub : ∀ k ∈ keys, k ∈ keys')
    (hlisted : (⟨c.label, a.label, a.inst⟩ : RedKey) ∈ keys')
    (hclean : ∀ r ∈ refs, RefClean c keys r) :
    ∀ r ∈ refs, RefClean { c with store := pre ++ post } keys' r := by
  intro r hr
  obtain ⟨h1, h2⟩ := hclean r hr
  refine ⟨h1, ?_⟩
  by_cases hkey : r.label = a.label ∧ r.inst = a.inst
  · left
    unfold isRedacted
    refine List.any_eq_true.2 ⟨_, hlisted, ?_⟩
    simp [hkey.1, hkey.2]
  · rcases h2 with h2 | ⟨ca, hf, hh⟩
    · left
      unfold isRedacted at h2 ⊢
      obtain ⟨k, hk, hk'⟩ := List.any_eq_true.1 h2
      exact List.any_eq_true.2 ⟨k, hsub k hk, hk'⟩
    · right
      refine ⟨ca, ?_, hh⟩
      unfold findCA at hf ⊢
      rw [hs] at hf
      simp only []
      rw [← find_remove_other pre post a _ ?_]
      · exact hf
      · refine Bool.eq_false_iff.2 fun h => hkey ?_
        simp only [Bool.and_eq_true, beq_iff_eq] at h
        exact ⟨h.1.symm, h.2.symm⟩

/-- **still validates, whole `verify_claim`** — let `verify_claim` on the claim `c` return `Ok`
with a failure-free log under the hierarchy's redactions `reds`. Remove one assertion `a` that is
neither an actions nor an ingredient assertion, and let the (longer) redaction list `reds'`
contain an entry that parses to `a`'s key in this manifest. Then `verify_claim` on the reduced
claim `c'` (any manifest map `map'` that agrees with `map` on labels and hashed-URI lists — the
redacted ingredient claims differ from the original ones only in their assertion stores) again
returns `Ok` with a failure-free log: no `assertion.undeclared` from the tracking list, no
rule-block failure, no `assertion.missing`, no rule-2.d failure. -/
theorem legal_redaction_verifyClaim_clean (c c' : Claim) (pre post : List CA) (a : CA)
    (reds reds' : List Str) (map map' : List Claim) (ing : Bool) (o : Out) (keys' : List RedKey)
    (hs : c.store = pre ++ a :: post) (hc' : c' = { c with store := pre ++ post })
    (hacts : a.acts? = none) (hing : a.ing? = none)
    (h : verifyClaim c reds map ing = some o) (he : o.err = false)
    (hclean : ∀ e ∈ o.log, e.isFailure = false)
    (hsub : ∀ r ∈ reds, r ∈ reds') (hk' : parseRedactions reds' = some keys')
    (hl : ∃ r ∈ reds', parseRedaction r = some ⟨c.label, a.label, a.inst⟩)
    (hm : map.map ckey = map'.map ckey) :
    ∃ o', verifyClaim c' reds' map' ing = some o' ∧ o'.err = false ∧
      ∀ e ∈ o'.log, e.isFailure = false := by
  obtain ⟨keys, refs, hk, hr, h⟩ := (verifyClaim_iff c reds map ing o).1 h
  split at h
  case isFalse => subst h; cases he
  next htrack =>
  obtain ⟨av, hav, rfl⟩ := h
  -- `c'` differs from `c` in the store only: every other field reduces to that of `c`
  subst hc'
  simp only [List.forall_mem_append] at hclean
  obtain ⟨⟨hhead, hloopev⟩, havc⟩ := hclean
  have hlisted : (⟨c.label, a.label, a.inst⟩ : RedKey) ∈ keys' := by
    obtain ⟨r, hr', hp⟩ := hl
    obtain ⟨k, hkm, hp'⟩ := (parseRedactions_mem reds' keys' hk').1 r hr'
    rw [hp] at hp'; cases hp'; exact hkm
  have hsl : (pre ++ post).Sublist c.store :=
    hs ▸ List.Sublist.append_left (List.sublist_cons_self a post) pre
  have htrack' : track refs (pre ++ post) = [] :=
    List.sublist_nil.1 (htrack ▸ track_sublist refs c.store _ hsl)
  have hav' : actionsFor { c with store := pre ++ post } map' ing = some av := by
    unfold actionsFor at hav ⊢
    rw [actionAssertions_remove c { c with store := pre ++ post } pre post a hs rfl hacts,
      ← actionsEvents_congr c { c with store := pre ++ post } map map' ing rfl hm]
    exact hav
  refine ⟨_, (verifyClaim_iff { c with store := pre ++ post } reds' map' ing _).2
    ⟨keys', refs, hk', hr, by rw [if_pos htrack']; exact ⟨av, hav', rfl⟩⟩, rfl, ?_⟩
  simp only [List.forall_mem_append]
  refine ⟨⟨fun e hmem => hhead e ?_, ?_⟩, havc⟩
  -- the signature and redaction rule blocks do not read the store
  · exact List.mem_append.2 ((List.mem_append.1 hmem).imp id
      (manifestRules_mono c { c with store := pre ++ post } ing hsl rfl
        (actionAssertions_remove c _ pre post a hs rfl hacts) (parentCount_remove c _ pre post a hs rfl hing) e))
  · exact (refs_clean_iff _ keys' ing refs).2
      (legal_redaction_still_clean c pre post a keys keys' refs hs
        (keys_mono reds reds' keys keys' hk hk' hsub) hlisted
        ((refs_clean_iff c keys ing refs).1 hloopev))

/-! ### constants read from the sources (translators/c20_labels.py) -/

theorem cActions_gen : cActions = Gen.actions := rfl
theorem hashLabels_gen : hashLabels = Gen.hashLabels := rfl
theorem cHashPrefix_gen : cHashPrefix = Gen.signerHashPrefix := rfl
theorem cIngredientLabel_gen : cIngredientLabel = Gen.ingredient := rfl

/-- the signer refuses the *prefix* `c2pa.hash.`, the validator flags the four literal labels:
every label the validator protects is also refused by the signer -/
theorem validator_hash_labels_refused_by_signer :
    ∀ l ∈ hashLabels, cHashPrefix.isPrefixOf l = true := by
  unfold hashLabels cHashPrefix
  decide_run

def exUri : Str := "self#jumbf=/c2pa/urn:c2pa:aa/c2pa.assertions/org.note".toList
def exNote : CA := ⟨"org.note".toList, 0, "h1".toList, false, .other⟩
def exActs : CA := ⟨"c2pa.actions.v2".toList, 0, "h2".toList, false, .actions []⟩
def exClaim : Claim :=
  { label := "urn:c2pa:aa".toList, version := 2, update := false, sigOk := true,
    assertions := [⟨"self#jumbf=c2pa.assertions/c2pa.actions.v2".toList, "h2".toList⟩,
                   ⟨"self#jumbf=c2pa.assertions/org.note".toList, "h1".toList⟩],
    store := [exActs, exNote], redactions := none,
    boxHash := "b".toList, sigHash := "s".toList, dataHash := "d".toList }

def redactedStore (c : Claim) (uri : Str) : Option (List CA) :=
  match redactAssertion c uri with
  | some (.ok c') => some c'.store
  | _ => none

def redactError (c : Claim) (uri : Str) : Option RErr :=
  match redactAssertion c uri with
  | some (.error e) => some e
  | _ => none

example : redactedStore exClaim exUri = some [exActs] := by
  unfold exClaim exUri exActs exNote
  decide_run
example : containsSub cAssertions exUri = true := by
  unfold cAssertions exUri
  decide_run
example : redactError exClaim "self#jumbf=/c2pa/urn:c2pa:aa/c2pa.assertions/c2pa.actions.v2".toList
    = some .invalidRedaction := by
  unfold exClaim exActs exNote
  decide_run
example : Disallowed { exClaim with redactions := some [exUri] } exUri :=
  Or.inl (by unfold exClaim exUri; decide_run)
example : redactionRules { exClaim with redactions := some [exUri] } false
    = [fail "assertion.selfRedacted" false] := by
  unfold exClaim exUri exActs exNote fail
  decide_run
example : redactionRules { exClaim with label := "urn:c2pa:bb".toList, redactions := some [exUri] } false
    = [] := by
  unfold exClaim exUri exActs exNote
  decide_run

/-! Two closed stores on which the hypotheses of the store-level theorems are met with
`o.err = false` (the right disjunct is the one that matters): example (1), a single manifest
`…0a` that lists a redaction it may not make; example (2), a two-manifest store: base `…0b` (hard
binding + a note), active `…0a` with the base as `parentOf` ingredient. -/

def lB : Str := "urn:c2pa:00000000-0000-4000-8000-00000000000b".toList
def lA : Str := "urn:c2pa:00000000-0000-4000-8000-00000000000a".toList
def uriB (l : String) : Str := "self#jumbf=/c2pa/".toList ++ lB ++ "/c2pa.assertions/".toList ++ l.toList

def exHashCA (h : String) : CA := ⟨"c2pa.hash.data".toList, 0, h.toList, false, .hash⟩

/-! `verify_store` of the model is defined by well-founded mutual recursion (`gcrm`/`gLoop`,
`hbm`/`hbScan`, `ingChecks`/`iLoop`), which neither `decide` nor the kernel unfolds; the runs
below are computed from the equation lemmas: unfolded as deep as the run goes and then
evaluated, or step by step. Only what computes on strings (URI parsing, `contains`) is evaluated; which
claim `getClaim` finds, which assertions are ingredients and where `hbm` stops follow from the label
equations and by `rfl`: deciding an equation between claims compares every literal in them. -/

/-- example (1): the redaction it lists is of another manifest's actions assertion -/
def exSolo : Claim :=
  { label := lA, version := 2, update := false, sigOk := true,
    assertions := [⟨"self#jumbf=c2pa.assertions/c2pa.hash.data".toList, "h7".toList⟩],
    store := [exHashCA "h7"], redactions := some [uriB "c2pa.actions.v2"],
    boxHash := "ba".toList, sigHash := "sa".toList, dataHash := "da".toList }

def logSolo : List Ev :=
  [succ "claimSignature.insideValidity" false, succ "claimSignature.validated" false,
    fail "assertion.action.redacted" false, succ "assertion.hashedURI.match" false]

/-! The label of a fixture claim is rewritten to `lA` / `lB` by these equations: left to the
unifier, `exSolo.label =?= lA` is decided by evaluating the string literal. -/
theorem exSolo_label : exSolo.label = lA := by delta exSolo; with_reducible rfl

theorem exSolo_ing : ingAssertions exSolo = [] := rfl
theorem exSolo_gcrm : gcrm [exSolo] 3 exSolo [] {} = .ok ⟨[uriB "c2pa.actions.v2"], [lA], []⟩ := by
  unfold gcrm
  simp only [exSolo_ing]
  unfold gLoop
  rw [exSolo_label]
  rfl
theorem exSolo_hbm : hbm [exSolo] 3 exSolo [] = some (some lA) :=
  exSolo_label ▸ hbm_self _ 2 exSolo rfl rfl
theorem exSolo_vc : verifyClaim exSolo [uriB "c2pa.actions.v2"] ([lA].filterMap (getClaim [exSolo])) false =
    some ⟨logSolo, false⟩ := by
  unfold exSolo logSolo uriB lA lB exHashCA succ fail
  decide_run
theorem exSolo_run : verifyStore [exSolo] = some ⟨logSolo, false⟩ := by
  -- `verifyStore_ok_iff` from right to left: the links of the one `Ok` path, in its order
  exact ((verifyStore_ok_iff _ _).2 ⟨exSolo, ⟨[uriB "c2pa.actions.v2"], [lA], []⟩, lA, ⟨logSolo, false⟩, _,
    rfl, exSolo_gcrm, exSolo_hbm, exSolo_vc, rfl, ingChecks_leaf _ _ _ 2 _ _ exSolo_ing, rfl⟩).1

/-- all hypotheses of `active_disallowed_redaction_never_valid` hold for `[exSolo]` with `o.err = false` -/
example (sts : List St) (hdec : Decorates sts logSolo) (active : Str) (recs : List Rec)
    (uriOf : St → List Char) (r0 res : C04.Results)
    (hrep : reportS active recs uriOf r0 sts = some res) : C04.state res = .invalid := by
  exact (active_disallowed_redaction_never_valid [exSolo] ⟨logSolo, false⟩ exSolo_run exSolo rfl
    [uriB "c2pa.actions.v2"] (uriB "c2pa.actions.v2") rfl (List.mem_singleton.2 rfl)
    (Or.inr (Or.inl (by unfold cActions uriB lB; decide_run))) sts hdec active recs uriOf r0 res hrep
    ).resolve_left Bool.false_ne_true

/-- the base manifest; `withNote = false`: its note assertion was removed from the store -/
def exBase (withNote : Bool) : Claim :=
  { label := lB, version := 2, update := false, sigOk := true,
    assertions := [⟨"self#jumbf=c2pa.assertions/c2pa.hash.data".toList, "h9".toList⟩,
                   ⟨"self#jumbf=c2pa.assertions/org.note".toList, "h1".toList⟩],
    store := [exHashCA "h9"] ++ (if withNote then [exNote] else []), redactions := none,
    boxHash := (if withNote then "b1" else "b2").toList, sigHash := "sb".toList, dataHash := "db".toList }

def exIngCA (boxHash : String) : CA :=
  ⟨"c2pa.ingredient.v3".toList, 0, "h5".toList, false,
    .ingredient (some ⟨.parentOf, 3, true,
      some ⟨"self#jumbf=/c2pa/".toList ++ lB, boxHash.toList⟩,
      some ⟨"self#jumbf=/c2pa/".toList ++ lB ++ "/c2pa.signature".toList, "sb".toList⟩⟩)⟩

def exActive (boxHash : String) (reds : Option (List Str)) : Claim :=
  { label := lA, version := 2, update := false, sigOk := true,
    assertions := [⟨"self#jumbf=c2pa.assertions/c2pa.hash.data".toList, "h7".toList⟩,
                   ⟨"self#jumbf=c2pa.assertions/c2pa.ingredient.v3".toList, "h5".toList⟩],
    store := [exHashCA "h7", exIngCA boxHash], redactions := reds,
    boxHash := "ba".toList, sigHash := "sa".toList, dataHash := "da".toList }

/-- the base's note was removed, the ingredient's hashed URI re-made, no redaction entry -/
def exStoreSilentRemoval : Store := [exBase false, exActive "b2" none]

/-- example (2): two manifests, the ingredient's note is gone (`R`: the silent removal) -/
abbrev sR : Store := exStoreSilentRemoval
abbrev rootR : Claim := exActive "b2" none
abbrev baseR : Claim := exBase false
def tR : HU := ⟨"self#jumbf=/c2pa/".toList ++ lB, "b2".toList⟩
def dR : IngD := ⟨.parentOf, 3, true, some tR,
  some ⟨"self#jumbf=/c2pa/".toList ++ lB ++ "/c2pa.signature".toList, "sb".toList⟩⟩
def logRoot : List Ev := [succ "claimSignature.insideValidity" false, succ "claimSignature.validated" false,
  succ "assertion.hashedURI.match" false, succ "assertion.hashedURI.match" false]
def logBase : List Ev := [succ "claimSignature.insideValidity" true, succ "claimSignature.validated" true,
  succ "assertion.hashedURI.match" true, fail "assertion.missing" true]

theorem rootR_label : rootR.label = lA := by delta rootR exActive; with_reducible rfl
theorem baseR_label : baseR.label = lB := by delta baseR exBase; with_reducible rfl
theorem ingRoot : ingAssertions rootR = [(exIngCA "b2", some dR)] := rfl
theorem ingBase : ingAssertions baseR = [] := rfl
/-! `hZ`, `hT`, `tR_labelFromPath`, `sR_getClaim_lB`: the edge of `rootR` resolves to `baseR` (the
parts of `Resolves`); `dR_not_malformed`: the test of `iLoop` in front of the edge check. -/

theorem tR_labelFromPath : labelFromPath tR.url = some lB := by
  unfold tR lB
  decide_run
theorem hZ : (exIngCA "b2").zero = false := rfl
theorem hT : dR.target = some tR := rfl
theorem sR_getClaim_lB : getClaim sR lB = some baseR := baseR_label ▸ getClaim_head baseR _
theorem dR_not_malformed : (decide (dR.version ≥ 3) && !dR.hasResults) = false := rfl
theorem gcrmRoot : gcrm sR 4 rootR [] {} = .ok ⟨[], [lA, lB], []⟩ := by
  unfold gcrm gLoop gcrm gLoop
  decide +kernel
theorem hbmRoot : hbm sR 4 rootR [] = some (some lA) := rootR_label ▸ hbm_self sR 3 rootR rfl rfl
/-- `svi.manifest_map` of the run, as `verify_store` computes it -/
abbrev mapR : List Claim := [lA, lB].filterMap (getClaim sR)
theorem vcRoot : verifyClaim rootR [] mapR false = some ⟨logRoot, false⟩ := by decide +kernel
theorem vcBase : verifyClaim baseR [] mapR true = some ⟨logBase, false⟩ := by decide +kernel
theorem ecBase : edgeCheck [] lB dR tR baseR = ⟨[succ "ingredient.manifest.validated" true], false⟩ := rfl
theorem icBase (st : ISt) : ingChecks sR [] mapR 3 baseR st = .ok st :=
  ingChecks_leaf sR [] mapR 2 baseR st ingBase
theorem lB_ne_lA : ¬ lB = lA := by unfold lA lB; decide_run
theorem icRoot : ingChecks sR [] mapR 4 rootR ⟨[lA], logRoot⟩ =
    .ok ⟨[lA, lB], logRoot ++ [succ "ingredient.manifest.validated" true] ++ logBase⟩ := by
  unfold ingChecks
  simp only [ingRoot]
  unfold iLoop
  simp only [hT, tR_labelFromPath, sR_getClaim_lB, hZ, dR_not_malformed, ecBase, vcBase,
    baseR_label]
  -- the base is not yet visited: the visited list is `[lA]` and `lB ≠ lA`
  simp only [List.contains_cons, List.contains_nil, Bool.or_false, beq_iff_eq]
  rw [if_neg lB_ne_lA, icBase]
  unfold iLoop
  rfl
theorem exSilent_run : verifyStore sR =
    some ⟨logRoot ++ [succ "ingredient.manifest.validated" true] ++ logBase, false⟩ := by
  have hi : ingChecks sR [] mapR (fuelFor sR) rootR ⟨[rootR.label], [] ++ logRoot⟩ =
      .ok ⟨[lA, lB], logRoot ++ [succ "ingredient.manifest.validated" true] ++ logBase⟩ := by
    rw [rootR_label, List.nil_append]; exact icRoot
  exact ((verifyStore_ok_iff _ _).2
    ⟨rootR, ⟨[], [lA, lB], []⟩, lA, ⟨logRoot, false⟩, _, rfl, gcrmRoot, hbmRoot, vcRoot, rfl, hi, rfl⟩).1

def refNote : Ref :=
  ⟨⟨"self#jumbf=c2pa.assertions/org.note".toList, "h1".toList⟩, "org.note".toList, 0, none⟩
def refsBase : List Ref :=
  [⟨⟨"self#jumbf=c2pa.assertions/c2pa.hash.data".toList, "h9".toList⟩, "c2pa.hash.data".toList, 0, none⟩,
   refNote]

theorem exBase_note_gone : parseRefs baseR.assertions = some refsBase ∧ refNote ∈ refsBase ∧
    isRedacted [] baseR.label refNote.label refNote.inst = false ∧
    findCA baseR refNote.label refNote.inst = none := by
  unfold baseR refsBase refNote exBase exHashCA exNote lB
  decide_run

/-- all hypotheses of `ingredient_removal_never_valid` hold for this store with `o.err = false` -/
example (sts : List St)
    (hdec : Decorates sts (logRoot ++ [succ "ingredient.manifest.validated" true] ++ logBase))
    (active : Str) (recs : List Rec) (uriOf : St → List Char) (r0 res : C04.Results)
    (hrep : reportS active recs uriOf r0 sts = some res)
    (hrec : ∀ s ∈ sts, s.code = cMissing → s.ing = true → recordedIn recs s = false) :
    C04.state res = .invalid := by
  exact (ingredient_removal_never_valid sR _ exSilent_run rootR rfl ⟨[], [lA, lB], []⟩ gcrmRoot
    (exIngCA "b2", some dR) (by rw [ingRoot]; exact List.mem_singleton.2 rfl) dR tR lB baseR
    ⟨hZ, rfl, hT, tR_labelFromPath, sR_getClaim_lB⟩ [] refsBase rfl exBase_note_gone.1 refNote exBase_note_gone.2.1
    exBase_note_gone.2.2.1 exBase_note_gone.2.2.2 sts hdec active recs uriOf r0 res hrep hrec
    ).resolve_left Bool.false_ne_true

def exDecor (log : List Ev) (url : Str) : List St := log.map fun e => ⟨e.code, some url, e.kind, e.ing⟩

example : Decorates (exDecor logSolo (uriB "c2pa.actions.v2")) logSolo := by
  unfold Decorates exDecor logSolo uriB lB succ fail
  decide_run

/-- `reportS` on (1) does not panic and gives Invalid even when the ingredient assertions record
exactly the logged failure with its URL -/
example : (reportS lA [⟨cActionRedacted, some (uriB "c2pa.actions.v2"), .failure⟩] (fun _ => []) {}
    (exDecor logSolo (uriB "c2pa.actions.v2"))).map C04.state = some .invalid := by
  unfold lA cActionRedacted uriB lB exDecor logSolo succ fail
  decide_run

/-- hypotheses of `protected_target_disallowed` / `skipping_protected_is_disallowed` -/
example : assertionLabelFromLink (uriB "c2pa.hash.bmff.v3") = some ("c2pa.hash.bmff.v3".toList, 0) ∧
    "c2pa.hash.bmff".toList ∈ hashLabels ∧
    "c2pa.hash.bmff".toList.isPrefixOf "c2pa.hash.bmff.v3".toList = true := by
  unfold uriB lB hashLabels
  decide_run
example : parseRedaction (uriB "c2pa.actions.v2__1") = some ⟨lB, "c2pa.actions.v2".toList, 1⟩ := by
  unfold uriB lB
  decide_run

/-- hypotheses of `removal_without_redaction_invalid`; then, towards `change_without_redaction_invalid`,
what the reference resolves to and a copy of it with another hash (the copy is in no store here) -/
example : parseRefs baseR.assertions = some refsBase ∧ refNote ∈ refsBase ∧
    isRedacted [] baseR.label refNote.label refNote.inst = false ∧
    findCA baseR refNote.label refNote.inst = none := exBase_note_gone
example : findCA (exBase true) refNote.label refNote.inst = some exNote ∧
    ({ exNote with hash := "hX".toList } : CA).hash ≠ refNote.hu.hash := by decide +kernel

/-- on (2) the recorded `assertion.missing` *is* dropped (ingredient scope): the hypothesis
`hrec` of `ingredient_removal_never_valid` cannot be omitted — and that is C2PA's rule for
failures an importer recorded, not a defect -/
example : keep lA [⟨cMissing, some (uriB "org.note"), .failure⟩]
    ⟨cMissing, some (uriB "org.note"), .failure, true⟩ = some false := by
  unfold lA cMissing uriB lB
  decide_run
example : keep lA [] ⟨cMissing, some (uriB "org.note"), .failure, true⟩ = some true := by
  unfold lA cMissing uriB lB
  decide_run

end C2pa.C20
