import C2paModel.Lemmas.C03Base
import C2paModel.Lemmas.C03Split
import C2paModel.Lemmas.C03Count
import C2paModel.Lemmas.C03NoEmbed
import C2paModel.Lemmas.C03Report
import C2paModel.Props.C06
/-
C03 — property theorems. The statement (properties.jsonl):

  For any supported source asset, any well-formed manifest definition, any supported signing
  algorithm and hash algorithm, signing succeeds and reading the output back yields a Valid
  manifest (…). The reported active manifest carries exactly the title, format, claim
  generator, assertions (labels and data), ingredients and redactions that were supplied.

The theorems are about `Model/C03.lean`. The hypotheses are about the inputs — the handler,
serialiser, digest and signer functions, the source, the chunk sizes — except `fits` and `hone`,
which speak of the exclusion list the second pass finds on the first-pass output (derived for the two
containers: `source_fits`); the hasher's preconditions are derived (`Lemmas/C03Count.lean`: below 4 GiB the
`u32` progress counters cannot overflow). The chain: equal length (C14
`datahash_pad_exact`) ⇒ same Cai region ⇒ the verifier selects the same bytes as the signer hashed
(C13 `excl_complete_of_count`, `exclSpec_congr`) ⇒ the stored digest matches. The handler enters
through `Laws`; for real handlers the laws are checked by the harness on every data-hash format
(`handler_laws` in harness/src/bin/c03.rs), two container handlers are proved to obey them.

* `sign_then_verify_core` / `sign_then_verify_valid` — the flow succeeds and the stored binding
  verifies on the final asset;
* `sign_ok_iff_fits`, `sign_fails_unless_fits`, `no_source_region_fails` — when it ends in
  `JumbfCreationError`;
* `split_sign_then_verify_valid`, `splice_sign_then_verify_valid` — the two containers;
* `noembed_sign_then_verify_valid` — sidecar / remote manifests;
* `sign_then_state_valid`, `readBack_state` — composition with C01, C06, C04;
* `report_reflects_definition`, `report_instances` — what the reader reports.

Section "non-vacuity" applies `split_…`, `splice_…`, `noembed_sign_then_verify_valid` and
`sign_then_state_valid` to a concrete flow, every hypothesis discharged; for the failure theorems it
evaluates the model on a flow that fails.
-/
namespace C2pa.C03
open C2pa

/-- What the second pass computes on the first-pass output: the hasher absorbs one byte string `pre`,
from the first-pass output and from every asset that agrees with it outside the reported exclusions,
whatever the chunk size (`HashOK` is derived: `hashOK_of`). -/
theorem second_pass (E : Env) (alg : String) (src : Asset) (buf n base : Nat)
    (hd : digestLen alg = some n) (hn : 0 < n)
    (hH : ∀ x, (E.H x).length = n)
    (hj : ∀ d s, (E.jumbf d s).length = base + d.size + s.length)
    (laws : Laws E src (base + (placeholderDH alg src n).size + E.sigPlaceholder.length))
    (hbuf : 0 < buf) (hsz : (firstOut E alg src n).bytes.length ≤ C13.u32Max) :
    ∃ ex pre, finalExcl (firstOut E alg src n) = some ex ∧ ex ≠ [] ∧
      genDataHash E.H alg (firstOut E alg src n).bytes (firstOut E alg src n).locs true buf =
        .ok (rawDH alg ex (E.H pre)) ∧
      (rawDH alg ex (E.H pre)).size = (rawDH alg ex (List.replicate n 0)).size ∧
      ∀ buf' a', 0 < buf' → a'.length = (firstOut E alg src n).bytes.length →
        (∀ x, C13.included (firstOut E alg src n).bytes.length (ex.map toHR) x = true →
          a'[x]? = (firstOut E alg src n).bytes[x]?) →
        ∃ prog, C13.hashModel alg a' (rawDH alg ex []).ranges true buf' none = .ok pre prog := by
  obtain ⟨ex, hex, hne, hwithin⟩ := laws.reported _ (hj _ _)
  have hexm : ex.map toHR ≠ [] := mt List.map_eq_nil_iff.1 hne
  have hok := fun buf' hb => hashOK_of hd _ ex buf' hb hne (laws.nonempty _ (hj _ _)) hsz hwithin
  obtain ⟨prog, hhash⟩ := hash_excl_of_agree hexm (hok buf hbuf) rfl fun _ _ => rfl
  refine ⟨ex, _, hex, hne,
    genDataHash_second hex (by rw [ranges_of_ne _ hne]; exact hhash) (isEmpty_of_length (hH _) hn),
    by rw [size_eq, size_eq, hH, List.length_replicate], fun buf' a' hb hl hag => ?_⟩
  rw [ranges_of_ne _ hne]
  exact hash_excl_of_agree hexm (hok buf' hb) hl hag

theorem startSave_unfold (E : Env) (alg : String) (src : Asset) (buf n : Nat)
    (hd : digestLen alg = some n) (h1 : DHash)
    (hgen2 : genDataHash E.H alg (firstOut E alg src n).bytes (firstOut E alg src n).locs true buf = .ok h1) :
    startSave E alg src buf =
      (match updateDataHash h1 (placeholderDH alg src n).size with
        | .error e => .error e
        | .ok dh1 =>
          if (E.jumbf dh1 E.sigPlaceholder).length ≠ (E.jumbf (placeholderDH alg src n) E.sigPlaceholder).length
          then .error .jumbfCreation
          else .ok ⟨firstOut E alg src n, dh1, (E.jumbf (placeholderDH alg src n) E.sigPlaceholder).length⟩) := by
  unfold startSave
  rw [genDataHash_first E.H alg src buf n hd]
  -- `{ h0 with pad := 10 }` is the placeholder DataHash: restate the scrutinee in its terms
  show (match genDataHash E.H alg (firstOut E alg src n).bytes (firstOut E alg src n).locs true buf with
      | .error e => _
      | .ok h1 => _ : Except Err Started) = _
  rw [hgen2]
  rfl

/-- The size stage, whatever the handler and the hasher did: a second-pass DataHash `h1` that fits the
placeholder is padded to the placeholder's size, the equal-size check passes, and the final store has
the placeholder store's length. -/
theorem startSave_sized (E : Env) (alg : String) (src : Asset) (buf n base : Nat)
    (hd : digestLen alg = some n)
    (hj : ∀ d s, (E.jumbf d s).length = base + d.size + s.length)
    (hs : ∀ d, (E.sign d).length = E.sigPlaceholder.length) (h1 : DHash) (h12 : h1.pad2 = none)
    (hgen2 : genDataHash E.H alg (firstOut E alg src n).bytes (firstOut E alg src n).locs true buf = .ok h1)
    (fits : h1.size ≤ (placeholderDH alg src n).size) :
    ∃ p p2, let dh1 : DHash := { h1 with pad := p, pad2 := p2 }
      dh1.size = (placeholderDH alg src n).size ∧
      (E.jumbf dh1 (E.sign dh1)).length = (E.jumbf (placeholderDH alg src n) E.sigPlaceholder).length ∧
      startSave E alg src buf =
        .ok ⟨firstOut E alg src n, dh1, (E.jumbf (placeholderDH alg src n) E.sigPlaceholder).length⟩ := by
  obtain ⟨p, p2, hupd, hdh1⟩ := updateDataHash_of_le h1 _ h12 fits
  refine ⟨p, p2, hdh1, by rw [hj, hj, hs, hdh1], ?_⟩
  rw [startSave_unfold E alg src buf n hd h1 hgen2, hupd]
  exact if_neg (fun h => h (by rw [hj, hj, hdh1]))

/-- The flow succeeds; the final asset is the first-pass output with
the *final* store embedded over the placeholder; the store has the placeholder's length; and the
verifier, hashing the final asset with the stored exclusions, **absorbs exactly the byte string
`pre` whose digest the manifest stores** (so the comparison succeeds for every digest function,
collisions or not). `sign_then_verify_valid` is the digest-level corollary. -/
theorem sign_then_verify_core (E : Env) (alg : String) (src : Asset) (buf buf' n base : Nat)
    (hd : digestLen alg = some n) (hn : 0 < n)
    (hH : ∀ x, (E.H x).length = n)
    (hj : ∀ d s, (E.jumbf d s).length = base + d.size + s.length)
    (hs : ∀ d, (E.sign d).length = E.sigPlaceholder.length)
    (laws : Laws E src (base + (placeholderDH alg src n).size + E.sigPlaceholder.length))
    (hbuf : 0 < buf) (hbuf' : 0 < buf')
    (hsz : (firstOut E alg src n).bytes.length ≤ C13.u32Max)
    (fits : ∀ ex, finalExcl (firstOut E alg src n) = some ex →
      (rawDH alg ex (List.replicate n 0)).size ≤ (placeholderDH alg src n).size) :
    ∃ manifest dh pre,
      saveToStream E alg src buf = .ok (E.embed (firstOut E alg src n) manifest) manifest dh ∧
      manifest.length = (E.jumbf (placeholderDH alg src n) E.sigPlaceholder).length ∧
      (E.embed (firstOut E alg src n) manifest).bytes.length = (firstOut E alg src n).bytes.length ∧
      dh.size = (placeholderDH alg src n).size ∧
      finalExcl (firstOut E alg src n) = some dh.excl ∧ dh.excl ≠ [] ∧
      dh.hash = E.H pre ∧
      ∃ prog, C13.hashModel alg (E.embed (firstOut E alg src n) manifest).bytes dh.ranges true buf' none
        = .ok pre prog := by
  obtain ⟨ex, pre, hex, hne, hgen2, hsz1, hver⟩ :=
    second_pass E alg src buf n base hd hn hH hj laws hbuf hsz
  obtain ⟨p, p2, hdh1, hfinal, hstart⟩ := startSave_sized E alg src buf n base hd hj hs _ rfl hgen2
    (by rw [hsz1]; exact fits ex hex)
  obtain ⟨hl, hagree⟩ := laws.stable _ _ ex (hj _ _) (by rw [hfinal, hj]) hex
  refine ⟨_, _, pre, ?_, hfinal, hl, hdh1, hex, hne, rfl, hver buf' _ hbuf' hl hagree⟩
  unfold saveToStream
  rw [hstart]

/-- For every handler obeying `Laws`, every JUMBF serialisation with
the length law, every signer filling its reserve, every digest function of the right length,
every pair of positive chunk sizes and every first-pass output shorter than 4 GiB: if the final
DataHash fits the placeholder (`fits`: its unpadded CBOR is not longer than the placeholder's —
see `split_fits` for why 10 bytes of padding suffice, and `sign_ok_iff_fits` for the converse),
the flow succeeds, the returned manifest store has exactly the placeholder's length, the final
asset has the first-pass asset's length, and the verifier — hashing the *final* asset with the
exclusions stored in the manifest — recomputes exactly the stored digest. -/
theorem sign_then_verify_valid (E : Env) (alg : String) (src : Asset) (buf buf' n base : Nat)
    (hd : digestLen alg = some n) (hn : 0 < n)
    (hH : ∀ x, (E.H x).length = n)
    (hj : ∀ d s, (E.jumbf d s).length = base + d.size + s.length)
    (hs : ∀ d, (E.sign d).length = E.sigPlaceholder.length)
    (laws : Laws E src (base + (placeholderDH alg src n).size + E.sigPlaceholder.length))
    (hbuf : 0 < buf) (hbuf' : 0 < buf')
    (hsz : (firstOut E alg src n).bytes.length ≤ C13.u32Max)
    (fits : ∀ ex, finalExcl (firstOut E alg src n) = some ex →
      (rawDH alg ex (List.replicate n 0)).size ≤ (placeholderDH alg src n).size) :
    ∃ asset manifest dh, saveToStream E alg src buf = .ok asset manifest dh ∧
      manifest.length = (E.jumbf (placeholderDH alg src n) E.sigPlaceholder).length ∧
      asset.bytes.length = (firstOut E alg src n).bytes.length ∧
      dh.size = (placeholderDH alg src n).size ∧
      verifyBinding E.H alg asset.bytes dh buf' = true := by
  obtain ⟨manifest, dh, pre, hsave, hmlen, halen, hdsz, _, _, hdig, prog, hver⟩ :=
    sign_then_verify_core E alg src buf buf' n base hd hn hH hj hs laws hbuf hbuf' hsz fits
  exact ⟨_, manifest, dh, hsave, hmlen, halen, hdsz, verifyBinding_of hver hdig⟩

/-! ### the fit condition is necessary -/

/-- If the unpadded final DataHash is longer than the placeholder
(with its 10 bytes of padding), the flow ends in `JumbfCreationError` — for every handler obeying
`Laws`, whatever the definition size and reserve. -/
theorem sign_fails_unless_fits (E : Env) (alg : String) (src : Asset) (buf n base : Nat)
    (hd : digestLen alg = some n) (hn : 0 < n)
    (hH : ∀ x, (E.H x).length = n)
    (hj : ∀ d s, (E.jumbf d s).length = base + d.size + s.length)
    (laws : Laws E src (base + (placeholderDH alg src n).size + E.sigPlaceholder.length))
    (hbuf : 0 < buf) (hsz : (firstOut E alg src n).bytes.length ≤ C13.u32Max)
    (nofit : ∀ ex, finalExcl (firstOut E alg src n) = some ex → ex ≠ [] →
      (placeholderDH alg src n).size < (rawDH alg ex (List.replicate n 0)).size) :
    saveToStream E alg src buf = .err .jumbfCreation := by
  obtain ⟨ex, _, hex, hne, hgen2, hsz1, _⟩ := second_pass E alg src buf n base hd hn hH hj laws hbuf hsz
  unfold saveToStream
  rw [startSave_unfold E alg src buf n hd _ hgen2,
    updateDataHash_of_gt _ _ (by rw [hsz1]; exact nofit ex hex hne)]

/-- Under the input-level hypotheses of `sign_then_verify_valid`, signing
succeeds *exactly when* the unpadded final DataHash is not longer than the placeholder. -/
theorem sign_ok_iff_fits (E : Env) (alg : String) (src : Asset) (buf n base : Nat)
    (hd : digestLen alg = some n) (hn : 0 < n)
    (hH : ∀ x, (E.H x).length = n)
    (hj : ∀ d s, (E.jumbf d s).length = base + d.size + s.length)
    (hs : ∀ d, (E.sign d).length = E.sigPlaceholder.length)
    (laws : Laws E src (base + (placeholderDH alg src n).size + E.sigPlaceholder.length))
    (hbuf : 0 < buf) (hsz : (firstOut E alg src n).bytes.length ≤ C13.u32Max) :
    (∃ asset manifest dh, saveToStream E alg src buf = .ok asset manifest dh) ↔
      (∀ ex, finalExcl (firstOut E alg src n) = some ex →
        (rawDH alg ex (List.replicate n 0)).size ≤ (placeholderDH alg src n).size) := by
  constructor
  · rintro ⟨a, m, dh, hok⟩ ex hex
    rcases Nat.lt_or_ge (placeholderDH alg src n).size (rawDH alg ex (List.replicate n 0)).size with h | h
    · have := sign_fails_unless_fits E alg src buf n base hd hn hH hj laws hbuf hsz (by
        intro ex' hex' _
        rw [hex] at hex'
        cases hex'
        exact h)
      rw [this] at hok
      cases hok
    · exact h
  · intro fits
    obtain ⟨a, m, dh, h, _⟩ :=
      sign_then_verify_valid E alg src buf buf n base hd hn hH hj hs laws hbuf hbuf hsz fits
    exact ⟨a, m, dh, h⟩

/-- If the handler reports no exclusion for the source (so the
placeholder DataHash has no `exclusions` member at all) while the asset it writes has one, the
final DataHash is at least 18 bytes longer than the placeholder with its 10 bytes of padding and
the flow ends in `JumbfCreationError`. -/
theorem no_source_region_fails (E : Env) (alg : String) (src : Asset) (buf n base : Nat)
    (hd : digestLen alg = some n) (hn : 0 < n)
    (hH : ∀ x, (E.H x).length = n)
    (hj : ∀ d s, (E.jumbf d s).length = base + d.size + s.length)
    (hsrc : exclusionsOf src.bytes.length src.locs false = some [])
    (laws : Laws E src (base + (placeholderDH alg src n).size + E.sigPlaceholder.length))
    (hbuf : 0 < buf) (hsz : (firstOut E alg src n).bytes.length ≤ C13.u32Max) :
    saveToStream E alg src buf = .err .jumbfCreation := by
  apply sign_fails_unless_fits E alg src buf n base hd hn hH hj laws hbuf hsz
  intro ex hex hne
  -- the placeholder has no `exclusions` member, the final DataHash one of at least 28 bytes
  have hdh0 : placeholderDH alg src n = ⟨[], alg.length, List.replicate n 0, 10, none⟩ := by
    unfold placeholderDH
    rw [hsrc]; rfl
  rw [hdh0]
  apply Nat.lt_of_not_le
  rw [size_le_placeholder alg.length rfl]
  cases ex with
  | nil => exact absurd rfl hne
  | cons r rs => show ¬ 11 + C15.exclSize (r :: rs) ≤ 0 + 10; omega

/-! ### the prefix ++ framed manifest ++ suffix container -/

/-- **sign_then_verify_valid for every container split**: any prefix/suffix (which may depend on
the payload length), any framing whose length depends on the payload length only, any source
bytes with a non-empty reported region whose start has (up to 2 bytes) the CBOR head size of the
start of the written region (`hat`; equal starts in every real handler), any definition size
`base`, any reserve (`ph`), any digest, any positive chunk sizes, any output below 4 GiB. -/
theorem split_sign_then_verify_valid (s : Split) (bytes : List UInt8) (at_ probe : Nat)
    (alg : String) (buf buf' n base : Nat) (jm : DHash → List UInt8 → List UInt8)
    (H : List UInt8 → List UInt8) (sg : DHash → List UInt8) (ph : List UInt8)
    (hprobe : 0 < probe) (hd : digestLen alg = some n) (hn : 0 < n)
    (hH : ∀ x, (H x).length = n)
    (hj : ∀ d σ, (jm d σ).length = base + d.size + σ.length)
    (hs : ∀ d, (sg d).length = ph.length)
    (hw : ∀ j, 0 < (s.wrap j).length)
    (hwl : ∀ j j', j.length = j'.length → (s.wrap j').length = (s.wrap j).length)
    (hat : ∀ m, C15.hdr (s.pre m).length ≤ C15.hdr at_ + 2)
    (hbuf : 0 < buf) (hbuf' : 0 < buf')
    (hsz : (firstOut ⟨s.embed, jm, H, sg, ph⟩ alg (Split.source bytes at_ probe) n).bytes.length ≤ C13.u32Max) :
    ∃ asset manifest dh,
      saveToStream ⟨s.embed, jm, H, sg, ph⟩ alg (Split.source bytes at_ probe) buf = .ok asset manifest dh ∧
      verifyBinding H alg asset.bytes dh buf' = true := by
  let E : Env := ⟨s.embed, jm, H, sg, ph⟩
  let src := Split.source bytes at_ probe
  have laws : Laws E src (base + (placeholderDH alg src n).size + E.sigPlaceholder.length) :=
    split_laws (jm := jm) (H := H) (sg := sg) (ph := ph) s src _ (fun j _ => hw j)
      (fun j j' h h' => hwl j j' (by rw [h, h']))
  obtain ⟨asset, manifest, dh, h1, _, _, _, h5⟩ :=
    sign_then_verify_valid E alg src buf buf' n base hd hn hH hj hs laws hbuf hbuf' hsz
      (fun ex hex => (source_fits alg bytes at_ probe n hprobe (split_finalExcl s src _ (hw _)) (hat _) ex hex).1)
  exact ⟨asset, manifest, dh, h1, h5⟩

/-! ### a handler that reads the asset it is given -/

/-- `sign_then_verify_valid` for the splice handler. `Splice.embed` *reads*
the asset it is handed: it cuts the region the asset reports and writes the framed payload in
its place; that the second write replaces the first is proved (`splice_embed_embed`), not built
in. For every source whose reported region `[at_, at_+probe)` starts inside it: signing succeeds,
the binding verifies, and the signed asset is the source with its region replaced by the framed
*final* manifest store. -/
theorem splice_sign_then_verify_valid (s : Splice) (bytes : List UInt8) (at_ probe : Nat)
    (alg : String) (buf buf' n base : Nat) (jm : DHash → List UInt8 → List UInt8)
    (H : List UInt8 → List UInt8) (sg : DHash → List UInt8) (ph : List UInt8)
    (hprobe : 0 < probe) (hin : at_ ≤ bytes.length) (hd : digestLen alg = some n) (hn : 0 < n)
    (hH : ∀ x, (H x).length = n)
    (hj : ∀ d σ, (jm d σ).length = base + d.size + σ.length)
    (hs : ∀ d, (sg d).length = ph.length)
    (hw : ∀ j, 0 < (s.wrap j).length)
    (hwl : ∀ j j', j.length = j'.length → (s.wrap j').length = (s.wrap j).length)
    (hbuf : 0 < buf) (hbuf' : 0 < buf')
    (hsz : (firstOut ⟨s.embed, jm, H, sg, ph⟩ alg (Split.source bytes at_ probe) n).bytes.length ≤ C13.u32Max) :
    ∃ asset manifest dh,
      saveToStream ⟨s.embed, jm, H, sg, ph⟩ alg (Split.source bytes at_ probe) buf = .ok asset manifest dh ∧
      verifyBinding H alg asset.bytes dh buf' = true ∧
      asset.bytes = bytes.take at_ ++ s.wrap manifest ++ bytes.drop (at_ + probe) := by
  let E : Env := ⟨s.embed, jm, H, sg, ph⟩
  let src := Split.source bytes at_ probe
  have hreg : s.region src = (at_, probe) := splice_source_region s bytes at_ probe
  have ho : (s.region src).1 ≤ src.bytes.length := by rw [hreg]; exact hin
  have laws : Laws E src (base + (placeholderDH alg src n).size + E.sigPlaceholder.length) :=
    splice_laws (jm := jm) (H := H) (sg := sg) (ph := ph) s src _ ho (fun j _ => hw j)
      (fun j j' h h' => hwl j j' (by rw [h, h']))
  obtain ⟨manifest, dh, pre, hsave, _, _, _, _, _, hdig, prog, hver⟩ :=
    sign_then_verify_core E alg src buf buf' n base hd hn hH hj hs laws hbuf hbuf' hsz
      (fun ex hex => (source_fits alg bytes at_ probe n hprobe (splice_finalExcl s src _ (hw _) ho)
        (by rw [hreg]; exact Nat.le_add_right _ 2) ex hex).1)
  refine ⟨_, manifest, dh, hsave, ?_, ?_⟩
  · exact verifyBinding_of hver hdig
  · have := splice_embed_embed s src (jm (placeholderDH alg src n) ph) manifest ho
    rw [hreg] at this
    exact this

/-! ### sidecar / remote manifests -/

/-- `RemoteManifest::SideCar` / `Remote(url)`: for every non-empty
intermediate asset below 4 GiB (source without a store, plus the XMP reference for `Remote`) whose handler
reports no `OtherExclusion` location, whatever `Cai` placeholder it reports: signing succeeds,
the output is the intermediate asset unchanged, the store has the placeholder's length, the
final DataHash has **no exclusions** and stores the digest of the whole asset, and the verifier
recomputes it. -/
theorem noembed_sign_then_verify_valid (E : Env) (alg : String) (inter : Asset)
    (buf buf' n base : Nat)
    (hd : digestLen alg = some n) (hn : 0 < n)
    (hH : ∀ x, (E.H x).length = n)
    (hj : ∀ d s, (E.jumbf d s).length = base + d.size + s.length)
    (hs : ∀ d, (E.sign d).length = E.sigPlaceholder.length)
    (hno : ∀ l ∈ inter.locs, l.kind ≠ .otherExcl)
    (h1 : 1 ≤ inter.bytes.length) (hsz : inter.bytes.length ≤ C13.u32Max)
    (hbuf : 0 < buf) (hbuf' : 0 < buf') :
    ∃ manifest dh, saveNoEmbed E alg inter buf = .ok inter manifest dh ∧
      manifest.length = (E.jumbf (placeholderDH alg inter n) E.sigPlaceholder).length ∧
      dh.excl = [] ∧ dh.hash = E.H inter.bytes ∧
      verifyBinding E.H alg inter.bytes dh buf' = true := by
  have halg := supported_of_digestLen hd
  obtain ⟨prog, hhash⟩ := hash_whole alg inter.bytes buf halg h1 hsz hbuf
  obtain ⟨prog', hhash'⟩ := hash_whole alg inter.bytes buf' halg h1 hsz hbuf'
  obtain ⟨p, p2, _, hfinal, hstart⟩ := startSave_sized (noEmbedEnv E) alg inter buf n base hd hj hs
    (rawDH alg [] (E.H inter.bytes)) rfl
    (genDataHash_second (exclusionsOf_zero _ _ hno) hhash (isEmpty_of_length (hH inter.bytes) hn))
    ((size_le_placeholder alg.length (by rw [hH, List.length_replicate]) [] _).2 (Nat.zero_le _))
  refine ⟨_, { rawDH alg [] (E.H inter.bytes) with pad := p, pad2 := p2 }, ?_, hfinal, rfl, rfl,
    verifyBinding_of hhash' rfl⟩
  unfold saveNoEmbed
  rw [startSaveNoEmbed_eq, hstart]
  rfl

/-! ### reading back: binding verdict (C01) and validation state (C04/C06) -/

theorem match_not_decisive : cUriMatch ∉ C04.decisive ∧ cDataMatch ∉ C04.decisive := by
  delta cUriMatch cDataMatch C04.decisive C04.cSigValidated C04.cInsideValidity C04.cTrusted
  decide_run

/-- A store whose claim signature validates, whose assertions all match
their hashed URIs and whose data-hash binding matches (without additional exclusions) reads back
as `Trusted` when the signer chains to a configured anchor and `Valid` otherwise: the hashed-URI
and data-hash matches are successes `state` does not look for, so the state is the one of C06's
signature step. -/
theorem readBack_state (trust : C06.Trust) (k : Nat) :
    (readBack trust true (List.replicate k true) (.matched false)).map C04.state =
      some (match trust with | .trusted => .trusted | .untrusted => .valid) := by
  show some (C04.state (List.foldl C04.addStatus _ (_ ++ ([] ++ [_])))) = _
  rw [C04.foldl_add_inert, C06.state_signatureCodes]
  · cases trust <;> rfl
  · intro s hs
    simp only [List.map_replicate, if_true, List.nil_append, List.mem_append, List.mem_replicate,
      List.mem_singleton] at hs
    -- `s.code` is reduced to the code constant first: left to `exact`, the unifier would evaluate
    -- the string literal behind it
    rcases hs with ⟨_, rfl⟩ | rfl <;> dsimp only
    · exact ⟨nofun, fun _ _ => match_not_decisive.1⟩
    · exact ⟨nofun, fun _ _ => match_not_decisive.2⟩

/-- Composition with the verifier models of C01 (binding), C06
(signature codes) and C04 (state): under the hypotheses of `sign_then_verify_valid`, for a
handler reporting a single exclusion, C01's `bindData` on the *signed asset* with the *stored*
exclusions and the stored digest's preimage returns `matched` (no additional exclusions), and a
read-back whose signature validates and whose `k` hashed URIs match is `Trusted` / `Valid`
according to the trust verdict. -/
theorem sign_then_state_valid (E : Env) (alg : String) (src : Asset) (buf buf' n base : Nat)
    (hd : digestLen alg = some n) (hn : 0 < n)
    (hH : ∀ x, (E.H x).length = n)
    (hj : ∀ d s, (E.jumbf d s).length = base + d.size + s.length)
    (hs : ∀ d, (E.sign d).length = E.sigPlaceholder.length)
    (laws : Laws E src (base + (placeholderDH alg src n).size + E.sigPlaceholder.length))
    (hbuf : 0 < buf) (hbuf' : 0 < buf')
    (hsz : (firstOut E alg src n).bytes.length ≤ C13.u32Max)
    (fits : ∀ ex, finalExcl (firstOut E alg src n) = some ex →
      (rawDH alg ex (List.replicate n 0)).size ≤ (placeholderDH alg src n).size)
    (hone : ∀ ex, finalExcl (firstOut E alg src n) = some ex → ex.length ≤ 1)
    (trust : C06.Trust) (k : Nat) :
    ∃ asset manifest dh pre, saveToStream E alg src buf = .ok asset manifest dh ∧
      dh.hash = E.H pre ∧
      C01.bindData ⟨false, none, dh.ranges, pre⟩ (some alg) false none asset.bytes buf' = .matched false ∧
      (readBack trust true (List.replicate k true)
          (C01.bindData ⟨false, none, dh.ranges, pre⟩ (some alg) false none asset.bytes buf')).map C04.state =
        some (match trust with | .trusted => .trusted | .untrusted => .valid) := by
  obtain ⟨manifest, dh, pre, hsave, _, _, _, hexcl, hne, hdig, prog, hver⟩ :=
    sign_then_verify_core E alg src buf buf' n base hd hn hH hj hs laws hbuf hbuf' hsz fits
  have hb : C01.bindData ⟨false, none, dh.ranges, pre⟩ (some alg) false none
      (E.embed (firstOut E alg src n) manifest).bytes buf' = .matched false := by
    have hr : dh.ranges = some (dh.excl.map toHR) := ranges_of_ne dh hne
    have hlen := hone dh.excl hexcl
    unfold C01.bindData C01.verifyData C01.compareHash
    simp only [Bool.false_eq_true, if_false]
    rw [hver]
    simp only [if_true, hr, List.length_map]
    have : ¬ dh.excl.length > 1 := by omega
    simp [this]
  exact ⟨_, manifest, dh, pre, hsave, hdig, hb, by rw [hb]; exact readBack_state trust k⟩

/-! ### non-vacuity: the headline theorems instantiated on a concrete flow -/

/-- a concrete container: 3-byte prefix, framing = 2-byte header + payload + 1-byte trailer,
2-byte suffix -/
def exSplit : Split :=
  { pre := fun _ => [1, 2, 3], suf := fun _ => [9, 9], wrap := fun j => [0xff, 0xeb] ++ j ++ [0] }

/-- a 32-byte "digest" that depends on its input (byte sum) -/
def exH (x : List UInt8) : List UInt8 := x.foldl (· + ·) 0 :: List.replicate 31 7

def exJumbf (d : DHash) (σ : List UInt8) : List UInt8 := List.replicate (7 + d.size + σ.length) 5

theorem exH_length (x : List UInt8) : (exH x).length = 32 := by simp [exH]

theorem exJumbf_length (d : DHash) (σ : List UInt8) : (exJumbf d σ).length = 7 + d.size + σ.length := by
  simp [exJumbf]

example : ∃ asset manifest dh,
    saveToStream ⟨exSplit.embed, exJumbf, exH, fun _ => [1, 1], [0, 0]⟩ "sha256"
      (Split.source [1, 2, 3, 9, 9] 3 4) 64 = .ok asset manifest dh ∧
    verifyBinding exH "sha256" asset.bytes dh 3 = true :=
  split_sign_then_verify_valid exSplit [1, 2, 3, 9, 9] 3 4 "sha256" 64 3 32 7 exJumbf exH
    (fun _ => [1, 1]) [0, 0] (by decide) (by decide) (by decide)
    exH_length exJumbf_length
    (by intro d; rfl)
    (by intro j; simp [exSplit])
    (by intro j j' h; simp [exSplit, h])
    (by intro m; show C15.hdr 3 ≤ C15.hdr 3 + 2; omega)
    (by decide) (by decide)
    (by decide +kernel)

/-- the value the example above speaks about is the one the model computes (kernel evaluation of the
same flow) -/
example :
    (match saveToStream ⟨exSplit.embed, exJumbf, exH, fun _ => [1, 1], [0, 0]⟩ "sha256"
        (Split.source [1, 2, 3, 9, 9] 3 4) 64 with
      | .ok a m dh => verifyBinding exH "sha256" a.bytes dh 3 && decide (a.bytes.length = m.length + 8)
      | .err _ => false) = true := by decide +kernel

/-- a concrete splice handler (same framing) -/
def exSplice : Splice := { wrap := fun j => [0xff, 0xeb] ++ j ++ [0], ins := 2 }

example : ∃ asset manifest dh,
    saveToStream ⟨exSplice.embed, exJumbf, exH, fun _ => [1, 1], [0, 0]⟩ "sha256"
      (Split.source [1, 2, 3, 4, 5, 6, 7, 8, 9] 3 4) 64 = .ok asset manifest dh ∧
    verifyBinding exH "sha256" asset.bytes dh 3 = true ∧
    asset.bytes = [1, 2, 3] ++ exSplice.wrap manifest ++ [8, 9] :=
  splice_sign_then_verify_valid exSplice [1, 2, 3, 4, 5, 6, 7, 8, 9] 3 4 "sha256" 64 3 32 7 exJumbf exH
    (fun _ => [1, 1]) [0, 0] (by decide) (by decide) (by decide) (by decide)
    exH_length exJumbf_length
    (by intro d; rfl)
    (by intro j; simp [exSplice])
    (by intro j j' h; simp [exSplice, h])
    (by decide) (by decide)
    (by decide +kernel)

example : ∃ asset manifest dh pre,
    saveToStream ⟨exSplit.embed, exJumbf, exH, fun _ => [1, 1], [0, 0]⟩ "sha256"
      (Split.source [1, 2, 3, 9, 9] 3 4) 64 = .ok asset manifest dh ∧
    dh.hash = exH pre ∧
    C01.bindData ⟨false, none, dh.ranges, pre⟩ (some "sha256") false none asset.bytes 3 = .matched false ∧
    (readBack .trusted true (List.replicate 3 true)
      (C01.bindData ⟨false, none, dh.ranges, pre⟩ (some "sha256") false none asset.bytes 3)).map C04.state
      = some .trusted :=
  have hf := source_fits "sha256" [1, 2, 3, 9, 9] 3 4 32 (by decide)
    (split_finalExcl exSplit (Split.source [1, 2, 3, 9, 9] 3 4)
      (exJumbf (placeholderDH "sha256" (Split.source [1, 2, 3, 9, 9] 3 4) 32) [0, 0]) (by simp [exSplit]))
    (by show C15.hdr 3 ≤ C15.hdr 3 + 2; omega)
  sign_then_state_valid ⟨exSplit.embed, exJumbf, exH, fun _ => [1, 1], [0, 0]⟩ "sha256"
    (Split.source [1, 2, 3, 9, 9] 3 4) 64 3 32 7 (by decide) (by decide)
    exH_length exJumbf_length
    (by intro d; rfl)
    (split_laws exSplit _ _ (by intro j _; simp [exSplit]) (by intro j j' h h'; simp [exSplit, h, h']))
    (by decide) (by decide) (by decide +kernel)
    (fun ex hex => (hf ex hex).1) (fun ex hex => (hf ex hex).2) .trusted 3

/-- a sidecar signing of an asset whose handler reports a placeholder region -/
example : ∃ manifest dh,
    saveNoEmbed ⟨exSplit.embed, exJumbf, exH, fun _ => [1, 1], [0, 0]⟩ "sha256"
      ⟨[1, 2, 3, 4, 5], [⟨2, 3, .cai⟩]⟩ 64 = .ok ⟨[1, 2, 3, 4, 5], [⟨2, 3, .cai⟩]⟩ manifest dh ∧
    manifest.length = (exJumbf (placeholderDH "sha256" ⟨[1, 2, 3, 4, 5], [⟨2, 3, .cai⟩]⟩ 32) [0, 0]).length ∧
    dh.excl = [] ∧ dh.hash = exH [1, 2, 3, 4, 5] ∧
    verifyBinding exH "sha256" [1, 2, 3, 4, 5] dh 2 = true :=
  noembed_sign_then_verify_valid ⟨exSplit.embed, exJumbf, exH, fun _ => [1, 1], [0, 0]⟩ "sha256"
    ⟨[1, 2, 3, 4, 5], [⟨2, 3, .cai⟩]⟩ 64 2 32 7 (by decide) (by decide)
    exH_length exJumbf_length
    (by intro d; rfl)
    (by decide) (by decide) (by decide) (by decide) (by decide)

/-- the model evaluated on the same flow with a source for which the handler reports no region: it
ends as `no_source_region_fails` says (an evaluation; no hypothesis of that theorem is discharged
here) -/
example :
    (match saveToStream ⟨exSplit.embed, exJumbf, exH, fun _ => [1, 1], [0, 0]⟩ "sha256"
        ⟨[1, 2, 3, 9, 9], []⟩ 64 with
      | .err .jumbfCreation => true
      | _ => false) = true := by decide +kernel

/-! ### report -/

theorem classify_thumb (v : Nat) : classify (thumbLabel v) = .thumbnail := by
  unfold thumbLabel; split <;> decide +kernel

theorem classify_ingredient (v : Nat) : classify (ingredientLabel v) = .ingredient := by
  unfold ingredientLabel; split <;> decide +kernel

theorem filter_const_part (l : List Asn) (Q P : Part) (h : ∀ a ∈ l, classify a.label = Q) :
    l.filter (fun a => classify a.label == P) = if Q = P then l else [] := by
  by_cases hq : Q = P
  · rw [if_pos hq]
    apply List.filter_eq_self.2
    intro a ha
    rw [h a ha, hq]; simp
  · rw [if_neg hq]
    apply List.filter_eq_nil_iff.2
    intro a ha
    rw [h a ha]; simpa using hq

/-- how `Manifest::from_store` partitions what the claim stores -/
theorem filter_allAsns (d : Definition)
    (hl : ∀ a ∈ d.assertions, classify (normLabel a.label) = .assertion) (P : Part) :
    (allAsns d).filter (fun a => classify a.label == P) =
      (if Part.thumbnail = P then (if d.thumbnail then [(⟨thumbLabel d.version, "", false⟩ : Asn)] else []) else []) ++
      (if Part.ingredient = P then (List.replicate d.ingredients (ingredientLabel d.version)).map
        (fun l => (⟨l, "", false⟩ : Asn)) else []) ++
      (if Part.assertion = P then d.assertions.map (fun a => { a with label := normLabel a.label }) else []) ++
      (if Part.hidden = P then [(⟨"c2pa.hash.data", "", false⟩ : Asn)] else []) := by
  unfold allAsns preLabels
  simp only [List.map_append, List.filter_append]
  rw [filter_const_part _ .thumbnail P, filter_const_part _ .ingredient P,
    filter_const_part _ .assertion P, filter_const_part _ .hidden P]
  · cases hd : d.thumbnail <;> simp
  · intro a ha
    simp only [List.mem_singleton] at ha
    subst ha; decide +kernel
  · intro a ha
    obtain ⟨b, hb, rfl⟩ := List.mem_map.1 ha
    exact hl b hb
  · intro a ha
    obtain ⟨l, hl', rfl⟩ := List.mem_map.1 ha
    rw [(List.mem_replicate.1 hl').2]
    exact classify_ingredient _
  · intro a ha
    obtain ⟨l, hl', rfl⟩ := List.mem_map.1 ha
    cases hd : d.thumbnail with
    | false => simp [hd] at hl'
    | true =>
      simp only [hd, if_true, List.mem_singleton] at hl'
      rw [hl']; exact classify_thumb _

theorem map_asn_filter (S : List CAsn) (P : Part) :
    (S.filter (fun x => classify x.asn.label == P)).map (·.asn) =
      (S.map (·.asn)).filter (fun a => classify a.label == P) := by
  rw [List.filter_map]
  rfl

/-- For every definition whose (re-labelled) assertion labels
are reported as assertions (not `c2pa.ingredient…`, `c2pa.thumbnail.claim…` or hard-binding
labels): the report carries the definition's title; its format exactly when the claim version
is below 2 (a version ≥ 2 claim has no `dc:format` field); exactly the definition's assertions —
same order, same payloads and kinds, labels unchanged except the documented `c2pa.actions…` →
`c2pa.actions.v2`; exactly as many ingredients as supplied; a thumbnail exactly when one was
supplied; and the hard binding added by the signing flow is not reported. (Instance numbers:
`report_instances`.) -/
theorem report_reflects_definition (d : Definition)
    (hl : ∀ a ∈ d.assertions, classify (normLabel a.label) = .assertion) :
    (report (wire (toClaim d))).title = d.title ∧
    ((report (wire (toClaim d))).format = if d.version ≥ 2 then none else some d.format) ∧
    (report (wire (toClaim d))).assertions.map (·.asn) =
      d.assertions.map (fun a => { a with label := normLabel a.label }) ∧
    (report (wire (toClaim d))).ingredients.map (·.asn) =
      List.replicate d.ingredients ⟨ingredientLabel d.version, "", false⟩ ∧
    (report (wire (toClaim d))).thumbnail.map (·.asn) =
      (if d.thumbnail then some ⟨thumbLabel d.version, "", false⟩ else none) := by
  refine ⟨rfl, rfl, ?_, ?_, ?_⟩
  · show ((toClaim d).store.filter (fun x => classify x.asn.label == .assertion)).map (·.asn) = _
    rw [map_asn_filter, store_asns, filter_allAsns d hl]
    simp
  · show ((toClaim d).store.filter (fun x => classify x.asn.label == .ingredient)).map (·.asn) = _
    rw [map_asn_filter, store_asns, filter_allAsns d hl]
    simp
  · show (((toClaim d).store.filter (fun x => classify x.asn.label == .thumbnail)).getLast?).map (·.asn) = _
    rw [← List.getLast?_map, map_asn_filter, store_asns, filter_allAsns d hl]
    cases d.thumbnail <;> simp

/-- The reported assertions (and ingredients) *with their instance
numbers*: the claim store is the stored assertions paired with the number of earlier stored
assertions of the same label, and the report is its filter — for every definition in which no
stored label is a proper substring of another stored label (`next_instance` filters by
substring; see the example below for what happens otherwise). -/
theorem report_instances (d : Definition) (hnp : NoProperInfix (allLabels d)) :
    (report (wire (toClaim d))).assertions =
      (List.zipWith CAsn.mk (allAsns d) (occBefore (allLabels d))).filter
        (fun x => classify x.asn.label == .assertion) ∧
    (report (wire (toClaim d))).ingredients =
      (List.zipWith CAsn.mk (allAsns d) (occBefore (allLabels d))).filter
        (fun x => classify x.asn.label == .ingredient) := by
  have hS := claim_store_eq d hnp
  exact ⟨by show (toClaim d).store.filter _ = _; rw [hS], by show (toClaim d).store.filter _ = _; rw [hS]⟩

/-- The usual case of `report_instances`: when no stored label repeats, no reported assertion has an
instance number above 0. -/
theorem report_instances_zero (d : Definition) (hnp : NoProperInfix (allLabels d))
    (hnd : (allLabels d).Nodup) : ∀ x ∈ (report (wire (toClaim d))).assertions, x.inst = 0 := by
  intro x hx
  have : x ∈ (toClaim d).store := (List.mem_filter.1 hx).1
  exact claim_instances_zero d hnp hnd x this

def exDef : Definition :=
  { title := some "t", format := "image/jpeg", version := 2
    assertions := [⟨"c2pa.actions", "x", false⟩, ⟨"org.verif.custom", "y", true⟩, ⟨"org.verif.custom", "z", true⟩]
    thumbnail := true, ingredients := 2 }

example : ∀ a ∈ exDef.assertions, classify (normLabel a.label) = .assertion := by decide +kernel
example : NoProperInfix (allLabels exDef) := by unfold NoProperInfix; decide +kernel
/-- duplicate labels are numbered 0, 1 (and the second ingredient is `__1`) -/
example : (report (wire (toClaim exDef))).assertions.map (fun x => (x.asn.label, x.inst)) =
    [("c2pa.actions.v2", 0), ("org.verif.custom", 0), ("org.verif.custom", 1)] ∧
    (report (wire (toClaim exDef))).ingredients.map (·.inst) = [0, 1] := by decide +kernel
/-- what the substring test does outside `NoProperInfix`: the *first* `org.verif` assertion is
numbered 1 because the earlier label `org.verif.custom` contains it (the harness compares the
implementation with exactly this numbering) -/
example : (report (wire (toClaim { exDef with assertions :=
      [⟨"org.verif.custom", "y", true⟩, ⟨"org.verif", "z", true⟩] }))).assertions.map
        (fun x => (x.asn.label, x.inst)) = [("org.verif.custom", 0), ("org.verif", 1)] := by decide +kernel

end C2pa.C03
