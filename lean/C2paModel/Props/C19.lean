import C2paModel.Lemmas.C19Gcrm
import C2paModel.Lemmas.C19Depth
import C2paModel.Lemmas.C19Ic
import C2paModel.Lemmas.C19Hb
import C2paModel.Props.C04
import C2paModel.Lemmas.C19Clean
import C2paModel.Lemmas.C20Filter
/-
C19 — property theorems. The statement (properties.jsonl):

  For any manifest store whose ingredients form an arbitrary graph (chains, shared
  sub-graphs, self references, cycles, missing manifests, chains deeper than the limit),
  validation terminates in time polynomial in the store size without stack overflow. It
  never reports a cyclic, dangling or over-deep graph as Valid.

The theorems quantify over every store (any number of claims, any ingredient lists, dangling
labels included), every root label (mostly one that names a claim; `ChainPrefix` puts its chain at
claim 0), every depth limit `lim` (the code's constant is passed by the harness) and, for `gcrm`,
both log behaviours (`stop`; `gcrm_cycle_rejected_small` is for the continuing log).

"Over-deep" is the walker's own recursion depth (DESIGN §5): `dag_not_over_deep` exhibits a
DAG whose longest path exceeds the limit and which gets a report, not the depth error, because
every claim is first reached on a short path.
-/
namespace C2pa.C04

/-- the status code that C19's `validate` logs for an ingredient whose manifest is not in the
store; as C04 sees it, a failure that is not tolerated -/
def cManifestMissing : Code := "ingredient.manifest.missing".toList

theorem manifestMissing_not_tolerated : tolerated cManifestMissing = false := by
  delta cManifestMissing tolerated cUntrusted cawgX509Prefix; decide_run

end C2pa.C04

namespace C2pa.C19

/-! ## `get_claim_referenced_manifests` -/

/-- **fuel_suffices** — fuel `|V| + 1` is never exhausted (termination measure: claims not yet
in the memo map), and any larger fuel gives the same result. -/
theorem gcrm_fuel_suffices (lim : Nat) (s : Store) (stop : Bool) (root : Nat)
    (hr : root < s.length) :
    (gcrm lim s stop (s.length + 1) root {}).1 ≠ .outOfFuel ∧
      ∀ k, gcrm lim s stop (s.length + 1 + k) root {} = gcrm lim s stop (s.length + 1) root {} := by
  have h := (gcrm_safe_root lim s stop (s.length + 1) root hr).2.2 (Nat.le_refl _)
  exact ⟨h, gcrm_fuel_le lim s stop _ root {} h⟩

/-- **depth_bounded** — the recursion is never more than `lim + 1` frames deep: fuel
`lim + 1` (one unit per nested call) is never exhausted, whatever the store. -/
theorem gcrm_depth_bounded (lim : Nat) (s : Store) (stop : Bool) (root : Nat) :
    (gcrm lim s stop (lim + 1) root {}).1 ≠ .outOfFuel ∧
      ∀ k, gcrm lim s stop (lim + 1 + k) root {} = gcrm lim s stop (lim + 1) root {} := by
  have h := (gcrm_run lim s stop (lim + 1) root {}).fuel_depth (Nat.zero_le _) (by simp)
  exact ⟨h, gcrm_fuel_le lim s stop _ root {} h⟩

/-- **terminates_poly** — for every fuel and every outcome: at most `|V|` claims are expanded,
at most `|E|` ingredient references are looked up, each with at most `lim` label comparisons. -/
theorem gcrm_terminates_poly (lim : Nat) (s : Store) (stop : Bool) (fuel root : Nat)
    (hr : root < s.length) :
    (gcrm lim s stop fuel root {}).2.exp ≤ s.length ∧
    (gcrm lim s stop fuel root {}).2.insp ≤ edgeCount s ∧
    (gcrm lim s stop fuel root {}).2.cmps ≤ lim * (gcrm lim s stop fuel root {}).2.insp := by
  obtain ⟨⟨hbd, _, h1, h2, h3⟩, _⟩ := gcrm_safe_root lim s stop fuel root hr
  generalize (gcrm lim s stop fuel root {}).2 = r at hbd h1 h2 h3 ⊢
  have hlen := nodup_length_le s.length _ hbd.mnd hbd.mlt
  have hdeg := degSum_le_edgeCount s _ hbd.mnd hbd.mlt
  -- the start state `{}` has empty memo map and zero counters
  have h1 : r.exp + 0 = 0 + r.map.length := h1
  have h2 : r.insp + 0 ≤ 0 + 0 + degSum s r.map := h2
  have h3 : r.cmps + lim * 0 ≤ 0 + lim * r.insp := h3
  omega

/-- **ok ⇒ the finish order is a topological order of everything reachable.** -/
theorem gcrm_ok_finish_topological (lim : Nat) (s : Store) (stop : Bool) (fuel root : Nat)
    (hok : (gcrm lim s stop fuel root {}).1 = .ok) :
    Topo s (gcrm lim s stop fuel root {}).2.fin ∧ (gcrm lim s stop fuel root {}).2.fin.Nodup ∧
      ∀ v, Reach s root v → v ∈ (gcrm lim s stop fuel root {}).2.fin := by
  obtain ⟨h, _, hr⟩ := gcrm_ok_spec lim s stop fuel root hok
  exact ⟨h.topo, h.fnd, hr⟩

/-- **ok_implies_acyclic** — if the walk returns `Ok`, no claim reachable from the root lies on
a cycle (self references included). -/
theorem gcrm_ok_implies_acyclic (lim : Nat) (s : Store) (stop : Bool) (fuel root : Nat)
    (hok : (gcrm lim s stop fuel root {}).1 = .ok) :
    ∀ v, Reach s root v → ¬ OnCycle s v := by
  obtain ⟨h1, h2, h3⟩ := gcrm_ok_finish_topological lim s stop fuel root hok
  exact fun v hv => h1.acyclic h2 v (h3 v hv)

theorem gcrm_outcomes (lim : Nat) (s : Store) (stop : Bool) (root k : Nat) (hr : root < s.length) :
    let o := (gcrm lim s stop (s.length + 1 + k) root {}).1
    o = .ok ∨ (o = .tooDeep ∧ lim < s.length) ∨ o = .cyclic ∨ (o = .missing ∧ stop = true) := by
  intro o
  obtain ⟨_, hout, hfuel⟩ := gcrm_safe_root lim s stop (s.length + 1 + k) root hr
  rcases hout with h | h | h | h | h
  · exact Or.inl h
  · exact Or.inr (Or.inl h)
  · exact Or.inr (Or.inr (Or.inl h))
  · exact Or.inr (Or.inr (Or.inr h))
  · exact absurd h (hfuel (Nat.le_add_right ..))

/-- **rejections have witnesses** — the depth error is returned only when some path from the
root has `lim` edges or more, `CyclicIngredients` only when a reachable claim lies on a cycle. -/
theorem gcrm_rejection_witness (lim : Nat) (s : Store) (stop : Bool) (fuel root : Nat) :
    ((gcrm lim s stop fuel root {}).1 = .tooDeep → ∃ v k, ReachIn s root k v ∧ lim ≤ k) ∧
    ((gcrm lim s stop fuel root {}).1 = .cyclic → ∃ v, Reach s root v ∧ OnCycle s v) :=
  let h := gcrm_dfs_root lim s stop fuel root
  ⟨h.deep, h.cyc⟩

/-- **cycle_rejected** — a reachable cycle is always rejected: `CyclicIngredients`, or the depth
error when the walk runs into the limit first (or the missing-manifest error when the log
stops on the first error). -/
theorem gcrm_cycle_rejected (lim : Nat) (s : Store) (stop : Bool) (root v k : Nat)
    (hr : root < s.length) (hv : Reach s root v) (hc : OnCycle s v) :
    let o := (gcrm lim s stop (s.length + 1 + k) root {}).1
    o = .cyclic ∨ (o = .tooDeep ∧ lim < s.length) ∨ (o = .missing ∧ stop = true) := by
  rcases gcrm_outcomes lim s stop root k hr with h | h | h | h
  · exact absurd hc (gcrm_ok_implies_acyclic lim s stop _ root h v hv)
  · exact Or.inr (Or.inl h)
  · exact Or.inl h
  · exact Or.inr (Or.inr h)

/-- With at most `lim` claims and a continuing log the error is exactly `CyclicIngredients`. -/
theorem gcrm_cycle_rejected_small (lim : Nat) (s : Store) (root v k : Nat)
    (hr : root < s.length) (hs : s.length ≤ lim) (hv : Reach s root v) (hc : OnCycle s v) :
    (gcrm lim s false (s.length + 1 + k) root {}).1 = .cyclic := by
  rcases gcrm_cycle_rejected lim s false root v k hr hv hc with h | ⟨_, h⟩ | ⟨_, h⟩
  · exact h
  · omega
  · cases h

/-- **dangling_logged** — if the walk returns `Ok`, every reference from a reachable claim to a
manifest that is not in the store has been logged as `ingredient.manifest.missing`. -/
theorem gcrm_dangling_logged (lim : Nat) (s : Store) (stop : Bool) (fuel root u v : Nat)
    (hok : (gcrm lim s stop fuel root {}).1 = .ok) (hu : Reach s root u) (hd : Dangling s u v) :
    Ev.missing v ∈ (gcrm lim s stop fuel root {}).2.log := by
  obtain ⟨h, _, hr⟩ := gcrm_ok_spec lim s stop fuel root hok
  exact h.dlog u (hr u hu) v hd

/-! ### over-deep graphs: the general statement -/

/-- **ok ⇒ every reference was followed below the limit** — if the walk returns `Ok`, every
reachable claim `u` lies on a path of `k` edges from the root such that `k + 1 < lim`, as soon as
it references an existing claim at all. The depth test precedes the memo test, so this also
holds when the referenced claim has a short path of its own and was walked before
(`gcrm_arrival_too_deep`). -/
theorem gcrm_ok_references_below_limit (lim : Nat) (s : Store) (stop : Bool) (fuel root : Nat)
    (hok : (gcrm lim s stop fuel root {}).1 = .ok) :
    ∀ u v, Reach s root u → Edge s u v → ∃ k, k + 1 < lim ∧ ReachIn s root k u := by
  intro u v hu he
  obtain ⟨_, hd, hr⟩ := gcrm_ok_spec lim s stop fuel root hok
  obtain ⟨k, hk, hall⟩ := hd.einv u (hr u hu)
  exact ⟨k, hall v he, hk⟩

/-- **ok_within_limit** — if the walk returns `Ok`, every claim reachable from the root is
reachable on a path of fewer than `lim` edges (one edge beyond the path on which the walker entered a
claim that references it). -/
theorem gcrm_ok_within_limit (lim : Nat) (s : Store) (stop : Bool) (fuel root : Nat)
    (hok : (gcrm lim s stop fuel root {}).1 = .ok) :
    ∀ v, Reach s root v → ∃ k, k < lim ∧ ReachIn s root k v := by
  intro v hv
  cases hv with
  | refl =>
    have h := gcrm_run lim s stop fuel root {}
    rw [hok] at h
    exact ⟨0, h.entry_depth, .refl⟩
  | step hb he =>
    obtain ⟨k, hk, hin⟩ := gcrm_ok_references_below_limit lim s stop fuel root hok _ _ hb he
    exact ⟨k + 1, hk, .step hin he⟩

/-- `v` is **over-deep**: reachable from the root, and every path from the root to it has at
least `lim` edges (= passes through more than `lim` claims). -/
def OverDeep (lim : Nat) (s : Store) (root v : Nat) : Prop :=
  Reach s root v ∧ ∀ k, ReachIn s root k v → lim ≤ k

/-- **over_deep_rejected** — a graph with an over-deep claim is never walked successfully,
wherever the long paths hang (first or later ingredient, any labels, shared sub-graphs). -/
theorem gcrm_over_deep_rejected (lim : Nat) (s : Store) (stop : Bool) (fuel root v : Nat)
    (hod : OverDeep lim s root v) : (gcrm lim s stop fuel root {}).1 ≠ .ok := by
  intro hok
  obtain ⟨k, hk, hin⟩ := gcrm_ok_within_limit lim s stop fuel root hok v hod.1
  have := hod.2 k hin
  omega

/-- a **reference nested at the limit**: `u → v` where every path from the root to `u` has at
least `lim - 1` edges, so `v` is nested under at least `lim` claims on each of them — even if `v`
also has a short path from the root. -/
def DeepRef (lim : Nat) (s : Store) (root u v : Nat) : Prop :=
  Reach s root u ∧ Edge s u v ∧ ∀ k, ReachIn s root k u → lim ≤ k + 1

/-- **deep_reference_rejected** — such a store is never walked successfully, whatever the order
of the ingredient assertions. (In which *other* cases a long path is rejected depends on that
order: the walk rejects exactly when it arrives somewhere with `lim` claims above; the harness
oracle `walk-depth-limit-accepted` / `depth-error-without-deep-walk` states that on the code.) -/
theorem gcrm_deep_reference_rejected (lim : Nat) (s : Store) (stop : Bool) (fuel root u v : Nat)
    (hd : DeepRef lim s root u v) : (gcrm lim s stop fuel root {}).1 ≠ .ok := by
  intro hok
  obtain ⟨k, hk, hin⟩ := gcrm_ok_references_below_limit lim s stop fuel root hok u v hd.1 hd.2.1
  have := hd.2.2 k hin
  omega

/-- The first ingredient of every claim `k < lim` names claim `k + 1`, and claims `0 … lim`
exist: the store contains a linear chain of `lim + 1` claims starting at claim 0 (whatever
else it contains). -/
def ChainPrefix (lim : Nat) (s : Store) : Prop :=
  lim < s.length ∧
    ∀ k, k < lim → ∃ c i rest, s[k]? = some c ∧ c.ings = i :: rest ∧ i.target = some (k + 1)

/-- Walking down the chain from claim `k` with the claims `0 … k-1` on the path: after `j` more
calls the path has `lim` entries and the depth error comes back up through every loop. -/
theorem gcrm_chain_tooDeep (lim : Nat) (s : Store) (stop : Bool) (hch : ChainPrefix lim s) :
    ∀ (j k : Nat) (st : GSt) (n : Nat), k + j = lim → st.path.length = k →
      (∀ x ∈ st.path, x < k) → (∀ x ∈ st.map, x < k) → j + 1 ≤ n →
      (gcrm lim s stop n k st).1 = .tooDeep := by
  intro j
  induction j with
  | zero =>
    intro k st n hk hlen _ _ hn
    obtain ⟨n', rfl⟩ : ∃ n', n = n' + 1 := ⟨n - 1, by omega⟩
    rw [gcrm_arrival_too_deep lim s stop n' k st (by omega)]
  | succ j ih =>
    intro k st n hk hlen hp hm hn
    obtain ⟨n', rfl⟩ : ∃ n', n = n' + 1 := ⟨n - 1, by omega⟩
    obtain ⟨c, i, rest, hc, hi, ht⟩ := hch.2 k (by omega)
    have hrec := ih (k + 1) (gPre (gPush st k) k (k + 1)) n' (by omega)
      (by show (k :: st.path).length = k + 1; rw [List.length_cons, hlen])
      (List.forall_mem_cons.2 ⟨Nat.lt_succ_self k, fun x hx => Nat.lt_succ_of_lt (hp x hx)⟩)
      (List.forall_mem_cons.2 ⟨Nat.lt_succ_self k, fun x hx => Nat.lt_succ_of_lt (hm x hx)⟩)
      (by omega)
    have hne : (gcrm lim s stop n' (k + 1) (gPre (gPush st k) k (k + 1))).1 ≠ .ok := by
      rw [hrec]; exact Out.noConfusion
    -- claim `k` is expanded; its loop calls `k + 1` first and returns that call's error
    have hnp : k + 1 ∉ (gPush st k).path := by
      intro h
      rcases List.mem_cons.1 h with h | h
      · omega
      · have := hp _ h; omega
    rw [gcrm_expand (by omega) (fun h => Nat.lt_irrefl k (hm k h)) hc, hi,
      gLoop_call ht (by have := hch.1; omega) hnp, if_neg hne, if_neg hne]
    exact hrec

/-- **chain_over_limit_rejected** — a store that contains a linear chain of more than `lim`
claims from the root (claim 0) is rejected with the depth error, for every fuel that does not
run out (`lim + 1` suffices) and both log behaviours. -/
theorem gcrm_chain_over_limit_rejected (lim : Nat) (s : Store) (stop : Bool) (k : Nat)
    (hch : ChainPrefix lim s) : (gcrm lim s stop (lim + 1 + k) 0 {}).1 = .tooDeep :=
  gcrm_chain_tooDeep lim s stop hch lim 0 {} (lim + 1 + k) (by simp) rfl
    (fun _ h => by cases h) (fun _ h => by cases h) (by omega)

/-! ## `ingredient_checks` -/

theorem ic_init_bounded (s : Store) (root : Nat) (hr : root < s.length) (log : List Ev) :
    IBounded s { visited := [root], log := log } :=
  ⟨List.nodup_cons.2 ⟨List.not_mem_nil, List.nodup_nil⟩, List.forall_mem_singleton.2 hr⟩

/-- **fuel_suffices (ingredient_checks)** — measure: claims not yet in the visited set. -/
theorem ic_fuel_suffices (lim : Nat) (s : Store) (root : Nat) (hr : root < s.length)
    (log : List Ev) :
    (ic lim s (s.length + 1) 0 root { visited := [root], log := log }).1 ≠ .outOfFuel ∧
      ∀ k, ic lim s (s.length + 1 + k) 0 root { visited := [root], log := log } =
        ic lim s (s.length + 1) 0 root { visited := [root], log := log } := by
  have h := (ic_safe s lim (s.length + 1) 0 root _ (ic_init_bounded s root hr log) hr).2.2 (by simp)
  exact ⟨h, ic_fuel_le s lim _ 0 root _ h⟩

/-- **depth_bounded (ingredient_checks)** — never more than `lim + 1` nested calls. -/
theorem ic_depth_bounded (lim : Nat) (s : Store) (root : Nat) (st : ISt) :
    (ic lim s (lim + 1) 0 root st).1 ≠ .outOfFuel ∧
      ∀ k, ic lim s (lim + 1 + k) 0 root st = ic lim s (lim + 1) 0 root st := by
  have h := ic_fuel_depth s lim (lim + 1) 0 root st (Nat.zero_le _) (by simp)
  exact ⟨h, ic_fuel_le s lim _ 0 root st h⟩

/-- **terminates_poly (ingredient_checks)** — at most `|V| - 1` recursive expansions and `|E|`
ingredient look-ups (hence at most `|E|` `verify_claim` calls), for every fuel and outcome. -/
theorem ic_terminates_poly (lim : Nat) (s : Store) (fuel root : Nat) (hr : root < s.length)
    (log : List Ev) :
    (ic lim s fuel 0 root { visited := [root], log := log }).2.exp + 1 ≤ s.length ∧
    (ic lim s fuel 0 root { visited := [root], log := log }).2.insp ≤ edgeCount s := by
  obtain ⟨h, _⟩ := ic_safe s lim fuel 0 root _ (ic_init_bounded s root hr log) hr
  have hlen := nodup_length_le s.length _ h.bounded.vnd h.bounded.vlt
  have hdeg := degSum_le_edgeCount s _ h.bounded.vnd h.bounded.vlt
  have h1 := h.expg
  have h2 := h.inspg
  generalize (ic lim s fuel 0 root { visited := [root], log := log }).2 = r at hlen hdeg h1 h2 ⊢
  -- the start state has visited `[root]` and zero counters; the root pays for its own loop
  have h1 : r.exp + 1 = 0 + r.visited.length := h1
  have h2 : r.insp + (deg s root + 0) ≤ 0 + deg s root + degSum s r.visited := h2
  omega

theorem ic_outcomes (lim : Nat) (s : Store) (root k : Nat) (hr : root < s.length) (log : List Ev) :
    let o := (ic lim s (s.length + 1 + k) 0 root { visited := [root], log := log }).1
    o = .ok ∨ o = .tooDeep ∨ o = .verifyFailed := by
  intro o
  obtain ⟨_, hout, hfuel⟩ :=
    ic_safe s lim (s.length + 1 + k) 0 root _ (ic_init_bounded s root hr log) hr
  rcases hout with h | h | h | h
  · exact Or.inl h
  · exact Or.inr (Or.inl h)
  · exact Or.inr (Or.inr h)
  · exact absurd h (hfuel (by rw [List.length_singleton]; omega))

/-! ## `get_hash_binding_manifest` -/

/-- **binding_search_terminates** — fuel `|V| + 1` is never exhausted (measure: claims not yet
visited), more fuel changes nothing, at most `|V|` claims are examined, and a manifest that
is found is a non-update claim of the store carrying a hash assertion. -/
theorem binding_search_terminates (lim : Nat) (s : Store) (root : Nat) (hr : root < s.length) :
    (hb lim s (s.length + 1) root []).1 ≠ .outOfFuel ∧
    (∀ k, hb lim s (s.length + 1 + k) root [] = hb lim s (s.length + 1) root []) ∧
    (hb lim s (s.length + 1) root []).2.length ≤ s.length ∧
    ∀ l, (hb lim s (s.length + 1) root []).1 = .found l →
      ∃ c, s[l]? = some c ∧ c.update = false ∧ c.hasHash = true := by
  obtain ⟨h1, h2, h3⟩ := hb_fuel lim s (s.length + 1) root [] List.nodup_nil
    (fun _ h => by cases h) hr (by simp)
  exact ⟨h1, hb_fuel_le lim s _ root [] h1, nodup_length_le _ _ h2 h3,
    fun l hl => hb_found_sound lim s _ root [] l hl⟩

/-- **depth_bounded (hash-binding search)** — with the depth guard
(fixes/C19-hash-binding-depth-limit.patch) the search is never more than `lim + 1` frames deep,
whatever the store. -/
theorem binding_search_depth_bounded (lim : Nat) (s : Store) (root : Nat) :
    (hb lim s (lim + 1) root []).1 ≠ .outOfFuel ∧
      ∀ k, hb lim s (lim + 1 + k) root [] = hb lim s (lim + 1) root [] := by
  have h := hb_fuel_depth lim s (lim + 1) root [] (Nat.zero_le _) (by simp)
  exact ⟨h, hb_fuel_le lim s _ root [] h⟩

/-! ## `verify_store` (graph part) -/

theorem validate_walk_error (lim : Nat) (s : Store) (root : Nat) (hr : root < s.length)
    (hne : (gcrm lim s false (fuelFor s) root {}).1 ≠ .ok) :
    (validate lim s root).out = (gcrm lim s false (fuelFor s) root {}).1 := by
  unfold validate
  rw [List.getElem?_eq_getElem hr]
  exact congrArg VRes.out (if_neg hne)

/-- The error of a failing walk is the depth error or `CyclicIngredients`: the log continues, so a
missing manifest does not stop the walk. Never a report, hence never Valid. -/
theorem validate_walk_failed (lim : Nat) (s : Store) (root : Nat) (hr : root < s.length)
    (hne : (gcrm lim s false (fuelFor s) root {}).1 ≠ .ok) :
    (validate lim s root).out = .tooDeep ∨ (validate lim s root).out = .cyclic := by
  rw [validate_walk_error lim s root hr hne]
  rcases gcrm_outcomes lim s false root 0 hr with h | ⟨h, _⟩ | h | ⟨_, h⟩
  · exact absurd h hne
  · exact Or.inl h
  · exact Or.inr h
  · cases h

/-- A report (outcome `Ok`) comes only after an `Ok` walk; its log entries, with their scopes, are
those of the walk, of `verify_claim` on the active claim and of `ingredient_checks`, in this
order. -/
theorem validate_ok (lim : Nat) (s : Store) (root : Nat) (hok : (validate lim s root).out = .ok) :
    (gcrm lim s false (fuelFor s) root {}).1 = .ok ∧
    scopeLog lim s root =
      ((gcrm lim s false (fuelFor s) root {}).2.log.reverse.map fun e => (e, false)) ++
        [(Ev.verify root, false)] ++
        (ic lim s (fuelFor s) 0 root { visited := [root], log := [] }).2.log.reverse.map
          fun e => (e, true) := by
  unfold validate at hok
  unfold scopeLog
  cases hs : s[root]? with
  | none => rw [hs] at hok; cases hok
  | some c =>
    rw [hs] at hok
    simp only at hok ⊢
    by_cases hg : (gcrm lim s false (fuelFor s) root {}).1 = .ok
    · rw [if_pos hg] at hok ⊢
      cases hh : (hb lim s (fuelFor s) root []).1 with
      | found l =>
        rw [hh] at hok
        simp only at hok ⊢
        by_cases hsig : c.sigOk = false
        · rw [if_pos hsig] at hok; cases hok
        · rw [if_neg hsig]
          exact ⟨hg, rfl⟩
      | none => rw [hh] at hok; cases hok
      | outOfFuel => rw [hh] at hok; cases hok
    · rw [if_neg hg] at hok
      exact absurd hok hg

theorem scopeLog_fst (lim : Nat) (s : Store) (root : Nat) :
    (scopeLog lim s root).map Prod.fst = (validate lim s root).log := by
  unfold scopeLog validate
  cases hs : s[root]? with
  | none => rfl
  | some c =>
    simp only
    by_cases hg : (gcrm lim s false (fuelFor s) root {}).1 = .ok
    · simp only [hg, if_true]
      cases hh : (hb lim s (fuelFor s) root []).1 with
      | found l =>
        simp only
        by_cases hsig : c.sigOk = false
        · simp [hsig, Function.comp_def]
        · rw [if_neg hsig, if_neg hsig]
          simp [Function.comp_def]
      | none => simp [Function.comp_def]
      | outOfFuel => simp [Function.comp_def]
    · rw [if_neg hg, if_neg hg]
      simp [Function.comp_def]

/-- **validation terminates** — the composed walk never runs out of the fuel `|V| + 1`. -/
theorem validate_terminates (lim : Nat) (s : Store) (root : Nat) :
    (validate lim s root).out ≠ .outOfFuel := by
  unfold validate
  cases hs : s[root]? with
  | none => exact Out.noConfusion
  | some c =>
    have hr := (List.getElem?_eq_some_iff.1 hs).1
    simp only
    by_cases hg : (gcrm lim s false (fuelFor s) root {}).1 = .ok
    · rw [if_pos hg]
      cases hh : (hb lim s (fuelFor s) root []).1 with
      | found l =>
        simp only
        by_cases hsig : c.sigOk = false
        · rw [if_pos hsig]; exact Out.noConfusion
        · rw [if_neg hsig]
          exact (ic_fuel_suffices lim s root hr []).1
      | none => exact Out.noConfusion
      | outOfFuel => exact absurd hh (binding_search_terminates lim s root hr).1
    · rw [if_neg hg]
      exact (gcrm_fuel_suffices lim s false root hr).1

/-- **cycle_rejected (composed)** — a reachable cycle makes validation fail with
`CyclicIngredients` or the depth error; never a report. -/
theorem validate_cycle_rejected (lim : Nat) (s : Store) (root v : Nat)
    (hv : Reach s root v) (hc : OnCycle s v) (hr : root < s.length) :
    (validate lim s root).out = .cyclic ∨ (validate lim s root).out = .tooDeep :=
  (validate_walk_failed lim s root hr
    fun h => gcrm_ok_implies_acyclic lim s false _ root h v hv hc).symm

/-- **chain_over_limit_rejected (composed)**. -/
theorem validate_chain_over_limit_rejected (lim : Nat) (s : Store) (hch : ChainPrefix lim s) :
    (validate lim s 0).out = .tooDeep := by
  have hl := hch.1
  have hg : (gcrm lim s false (fuelFor s) 0 {}).1 = .tooDeep := by
    rw [show fuelFor s = lim + 1 + (s.length - lim) by unfold fuelFor; omega]
    exact gcrm_chain_over_limit_rejected lim s false _ hch
  rw [validate_walk_error lim s 0 (by omega) (by rw [hg]; exact Out.noConfusion), hg]

/-- **over_deep_rejected (composed)** — a store with an over-deep claim makes validation fail
with the depth error (or `CyclicIngredients` when it also has a reachable cycle): never a
report, hence never Valid. -/
theorem validate_over_deep_rejected (lim : Nat) (s : Store) (root v : Nat) (hr : root < s.length)
    (hod : OverDeep lim s root v) :
    (validate lim s root).out = .tooDeep ∨ (validate lim s root).out = .cyclic :=
  validate_walk_failed lim s root hr (gcrm_over_deep_rejected lim s false _ root v hod)

/-- **deep_reference_rejected (composed)** — never a report, hence never Valid. -/
theorem validate_deep_reference_rejected (lim : Nat) (s : Store) (root u v : Nat)
    (hr : root < s.length) (hd : DeepRef lim s root u v) :
    (validate lim s root).out = .tooDeep ∨ (validate lim s root).out = .cyclic :=
  validate_walk_failed lim s root hr (gcrm_deep_reference_rejected lim s false _ root u v hd)

/-- On an acyclic reachable graph an over-deep claim gives exactly the depth error. -/
theorem validate_over_deep_acyclic_rejected (lim : Nat) (s : Store) (root v : Nat)
    (hr : root < s.length) (hod : OverDeep lim s root v)
    (hac : ∀ w, Reach s root w → ¬ OnCycle s w) : (validate lim s root).out = .tooDeep := by
  have hne := gcrm_over_deep_rejected lim s false (fuelFor s) root v hod
  rcases validate_walk_failed lim s root hr hne with h | h
  · exact h
  · rw [validate_walk_error lim s root hr hne] at h
    obtain ⟨w, hw, hc⟩ := (gcrm_rejection_witness lim s false _ root).2 h
    exact absurd hc (hac w hw)

/-- the missing-manifest event of `get_claim_referenced_manifests` is logged in the scope of the
active claim -/
theorem scopeLog_dangling_active (lim : Nat) (s : Store) (root u v : Nat)
    (hok : (validate lim s root).out = .ok) (hu : Reach s root u) (hd : Dangling s u v) :
    (Ev.missing v, false) ∈ scopeLog lim s root := by
  obtain ⟨hg, hsc⟩ := validate_ok lim s root hok
  have hm := gcrm_dangling_logged lim s false _ root u v hg hu hd
  rw [hsc]
  exact List.mem_append_left _ (List.mem_append_left _
    (List.mem_map.2 ⟨_, List.mem_reverse.2 hm, rfl⟩))

/-- **dangling_logged (composed)** — a reachable reference to a missing manifest makes
validation fail or puts `ingredient.manifest.missing` (a failure) in the report. -/
theorem validate_dangling_flagged (lim : Nat) (s : Store) (root u v : Nat)
    (hu : Reach s root u) (hd : Dangling s u v) :
    (validate lim s root).out ≠ .ok ∨ Ev.missing v ∈ (validate lim s root).log := by
  by_cases hok : (validate lim s root).out = .ok
  · rw [← scopeLog_fst]
    exact Or.inr (List.mem_map.2 ⟨_, scopeLog_dangling_active lim s root u v hok hu hd, rfl⟩)
  · exact Or.inl hok

/-- **never Valid** — if the composed walk yields a clean report (`Ok` and no failure logged)
then no reachable claim lies on a cycle and no reachable claim references a missing manifest. -/
theorem validate_clean_wellformed (lim : Nat) (s : Store) (root : Nat)
    (hclean : (validate lim s root).isClean = true) :
    (∀ v, Reach s root v → ¬ OnCycle s v) ∧ (∀ u v, Reach s root u → ¬ Dangling s u v) := by
  unfold VRes.isClean at hclean
  simp only [Bool.and_eq_true, beq_iff_eq, List.all_eq_true] at hclean
  refine ⟨gcrm_ok_implies_acyclic lim s false _ root (validate_ok lim s root hclean.1).1,
    fun u v hu hd => ?_⟩
  rcases validate_dangling_flagged lim s root u v hu hd with h | h
  · exact h hclean.1
  · -- the logged missing-manifest event is a failure
    cases hclean.2 _ h

/-- On a well-formed reachable graph the walk returns `Ok` (each failing outcome has a witness
that `WF` excludes) and logs nothing (it logs reachable dangling references only). -/
theorem gcrm_wellformed_ok (lim : Nat) (s : Store) (root : Nat) (hwf : WF s root lim) :
    (gcrm lim s false (fuelFor s) root {}).1 = .ok ∧
      LogClean (gcrm lim s false (fuelFor s) root {}).2.log := by
  have hdep := gcrm_dfs_root lim s false (fuelFor s) root
  have hg : (gcrm lim s false (fuelFor s) root {}).1 = .ok := by
    rcases gcrm_outcomes lim s false root 0 hwf.root_lt with h | ⟨h, _⟩ | h | ⟨_, h⟩
    · exact h
    · obtain ⟨v, k, hin, hk⟩ := hdep.deep h
      have := hwf.depth v k hin
      omega
    · obtain ⟨v, hv, hc⟩ := hdep.cyc h
      exact absurd hc (hwf.acyclic v hv)
    · cases h
  refine ⟨hg, fun e he => ?_⟩
  obtain ⟨u, v, _, hu, hd⟩ := (hdep.ok hg).2.1.linv e he
  exact absurd hd (hwf.nd u v hu)

/-- **wellformed ⇒ clean** (a partial converse of `validate_clean_wellformed`: it asks more of the
reachable part than that theorem concludes) — when the part of the store reachable from the root
has no dangling reference, only paths of fewer than `lim` edges, signatures that parse and hashed
URIs carrying the right hash (`WF`), and the active claim has a hard binding, the composed walk
returns `Ok` and logs no failure.
So the model does not reject everything, and the depth limit is not off by one (a chain of exactly
`lim` claims has paths of at most `lim - 1` edges). -/
theorem validate_wellformed_clean (lim : Nat) (s : Store) (root : Nat) (hwf : WF s root lim)
    (hbf : ∃ l, (hb lim s (fuelFor s) root []).1 = .found l) :
    (validate lim s root).isClean = true := by
  have hr := hwf.root_lt
  have hs : s[root]? = some s[root] := List.getElem?_eq_getElem hr
  obtain ⟨hg, hglog⟩ := gcrm_wellformed_ok lim s root hwf
  have hsig : ¬ s[root].sigOk = false := by
    rw [hwf.sig root s[root] .refl hs]; decide
  obtain ⟨hio, hil⟩ := ic_clean s root lim hwf (fuelFor s) 0 root { visited := [root], log := [] }
    .refl (fun _ h => by cases h)
  have hiok : (ic lim s (fuelFor s) 0 root { visited := [root], log := [] }).1 = .ok := by
    rcases hio with h | h
    · exact h
    · exact absurd h (ic_fuel_suffices lim s root hr []).1
  obtain ⟨l, hl⟩ := hbf
  unfold VRes.isClean validate
  rw [hs]
  simp only [hg, if_true, hl]
  rw [if_neg hsig]
  simp only [hiok, beq_self_eq_true, Bool.true_and, List.all_eq_true, List.mem_append,
    List.mem_reverse, List.mem_singleton]
  rintro e ((he | he) | he)
  · simp [hglog e he]
  · subst he; rfl
  · simp [hil e he]

/-! ### dangling ⇒ Invalid: composition with C04 and with `ValidationResults::from_store` -/

/-- **dangling ⇒ Invalid (composition with C04, no filter)** — when validation returns a report
although a reachable claim references a missing manifest, folding the *whole* log into C04 results
by `add_status` gives `Invalid`, for every translation of log events into statuses that renders the
missing-manifest event as the failure `ingredient.manifest.missing` and every initial results
value. The Reader does not fold the whole log: `from_store` filters it first;
`validate_dangling_invalid_filtered` is the statement through that filter. -/
theorem validate_dangling_invalid (lim : Nat) (s : Store) (root u v : Nat)
    (hok : (validate lim s root).out = .ok) (hu : Reach s root u) (hd : Dangling s u v)
    (toStatus : Ev → C04.Status)
    (hmap : ∀ l, (toStatus (.missing l)).kind = .failure ∧
      (toStatus (.missing l)).code = C04.cManifestMissing)
    (r : C04.Results) :
    C04.state (((validate lim s root).log.map toStatus).foldl C04.addStatus r) = .invalid := by
  rcases validate_dangling_flagged lim s root u v hu hd with h | h
  · exact absurd hok h
  · refine C04.nontolerated_failure_in_sequence_invalid r _ (toStatus (.missing v))
      (List.mem_map.2 ⟨_, h, rfl⟩) (hmap v).1 ?_
    rw [(hmap v).2]
    exact C04.manifestMissing_not_tolerated

/-- **dangling ⇒ Invalid, through the real `from_store` filter** — when validation returns a
report although a reachable claim references a missing manifest, the Reader's state is `Invalid`

* for every rendering of the walkers' events as logged statuses (`render`; `verify_claim` logs
  many) that renders a missing-manifest event as the failure `ingredient.manifest.missing` in
  the scope the event was logged in,
* for every URL the statuses carry (`sts` decorates the log),
* **for every content of the ingredient assertions of the store** (`recs`, written by the signers
  of the manifests under validation — they may pre-record an equal status), every active label,
  every initial results value.

The status that survives is the one `get_claim_referenced_manifests` logs: it is logged before
any ingredient URI is pushed, and `from_store` (after
`fixes/C20-from-store-active-claim-status-filter.patch`) never filters such a status. The
second `ingredient.manifest.missing` logged by `ingredient_checks` is ingredient-scoped and *is*
dropped when pre-recorded; before that repair both were (finding `malformed-reported-valid`,
replayed by the harness with pre-recorded statuses). -/
theorem validate_dangling_invalid_filtered (lim : Nat) (s : Store) (root u v : Nat)
    (hok : (validate lim s root).out = .ok) (hu : Reach s root u) (hd : Dangling s u v)
    (render : Ev → Bool → List C20.Ev)
    (hren : ∀ l sc, C20.fail "ingredient.manifest.missing" sc ∈ render (.missing l) sc)
    (sts : List C20.St)
    (hdec : C20.Decorates sts ((scopeLog lim s root).flatMap fun p => render p.1 p.2))
    (active : C34.Str) (recs : List C20.Rec) (uriOf : C20.St → List Char) (r0 r : C04.Results)
    (h : C20.reportS active recs uriOf r0 sts = some r) : C04.state r = .invalid := by
  have hm := scopeLog_dangling_active lim s root u v hok hu hd
  exact C20.fail_invalid _ "ingredient.manifest.missing" false
    (List.mem_flatMap.2 ⟨_, hm, hren v false⟩) C04.manifestMissing_not_tolerated
    sts hdec active recs uriOf r0 r nofun h

/-- **terminates_poly (composed)** — the three walkers of one `validate` together perform at most
`3·|V| + (lim + 2)·|E|` counted steps: claim expansions, ingredient-loop iterations of `gcrm` and
`ic` (every ingredient assertion examined, with or without a manifest reference), label comparisons
of the cycle test, and claims examined by the hash-binding search (the iterations of its own loop,
`hbScan`, carry no counter). Hash-set and hash-map operations count as one step each. -/
theorem validate_cost_poly (lim : Nat) (s : Store) (root : Nat) (hr : root < s.length) :
    (gcrm lim s false (fuelFor s) root {}).2.exp + (gcrm lim s false (fuelFor s) root {}).2.insp +
      (gcrm lim s false (fuelFor s) root {}).2.cmps + (hb lim s (fuelFor s) root []).2.length +
      (ic lim s (fuelFor s) 0 root { visited := [root], log := [] }).2.exp +
      (ic lim s (fuelFor s) 0 root { visited := [root], log := [] }).2.insp
      ≤ 3 * s.length + (lim + 2) * edgeCount s := by
  obtain ⟨g1, g2, g3⟩ := gcrm_terminates_poly lim s false (fuelFor s) root hr
  obtain ⟨_, _, h3, _⟩ := binding_search_terminates lim s root hr
  obtain ⟨i1, i2⟩ := ic_terminates_poly lim s (fuelFor s) root hr []
  have hh : (hb lim s (fuelFor s) root []).2.length ≤ s.length := h3
  have hc : lim * (gcrm lim s false (fuelFor s) root {}).2.insp ≤ lim * edgeCount s :=
    Nat.mul_le_mul_left _ g2
  rw [Nat.add_mul]
  omega

/-! ## Non-vacuity and the interpretive point (small limit so that `decide` is cheap) -/

def cl (ings : List (Option Nat)) : Claim :=
  { ings := ings.map fun t => { target := t, parent := false, hashOk := false },
    update := false, hasHash := true, sigOk := true }

/-- chain 0→1→2→3 : 4 claims -/
def exChain4 : Store := [cl [some 1], cl [some 2], cl [some 3], cl []]
/-- DAG whose longest path 0→1→2→3→4 has 5 claims but every claim is first reached at depth ≤ 1 -/
def exDag : Store := [cl [some 4, some 3, some 2, some 1], cl [some 2], cl [some 3], cl [some 4], cl []]
def exCycle : Store := [cl [some 1], cl [some 2], cl [some 1]]
def exSelf : Store := [cl [some 0]]
def exDangling : Store := [cl [some 1, some 7], cl []]

example : ChainPrefix 3 exChain4 := by
  refine ⟨by decide, ?_⟩
  intro k hk
  match k, hk with
  | 0, _ => exact ⟨_, _, _, rfl, rfl, rfl⟩
  | 1, _ => exact ⟨_, _, _, rfl, rfl, rfl⟩
  | 2, _ => exact ⟨_, _, _, rfl, rfl, rfl⟩
example : (validate 3 exChain4 0).out = .tooDeep := by decide +kernel
/-- (`cl` builds hashed URIs that do *not* carry the target's hash: a report with
`ingredient.manifest.mismatch`; the positive witnesses with matching hashes are at the end) -/
example : (validate 4 exChain4 0).isClean = false ∧ (validate 4 exChain4 0).out = .ok := by decide +kernel
/-- **The interpretive point**: longest path 5 > limit 3, no depth error but a report (not a clean
one: `cl` builds hashed URIs that do not match). -/
theorem dag_not_over_deep : (validate 3 exDag 0).out = .ok := by decide +kernel
example : (validate 3 exCycle 0).out = .cyclic := by decide +kernel
example : (validate 200 exSelf 0).out = .cyclic := by decide +kernel
example : OnCycle exSelf 0 := ⟨0, ⟨_, rfl, _, List.mem_cons_self .., rfl, by decide⟩, .refl⟩
example : Dangling exDangling 0 7 :=
  ⟨_, rfl, _, List.mem_cons_of_mem _ (List.mem_cons_self ..), rfl, by decide⟩
example : (validate 200 exDangling 0).out = .ok ∧ Ev.missing 7 ∈ (validate 200 exDangling 0).log := by
  decide +kernel
example : (hb 200 [ { cl [] with update := true, ings := [{ target := some 1, parent := true, hashOk := false }] },
    cl [] ] 3 0 []).1 = .found 1 := by decide +kernel

/-! ### positive witnesses (hashed URIs that match) -/

def clh (ings : List Nat) : Claim :=
  { ings := ings.map fun t => { target := some t, parent := false, hashOk := true },
    update := false, hasHash := true, sigOk := true }

def exGoodChain4 : Store := [clh [1], clh [2], clh [3], clh []]
def exGoodDiamond : Store := [clh [1, 2], clh [3], clh [3], clh []]
/-- the over-deep chain hangs off the *second* ingredient of the root, labels not in path order -/
def exSecondDeep : Store := [clh [4, 2], clh [], clh [3], clh [1], clh []]

/-- exactly at the limit: 4 claims, limit 4 — clean; one claim more than the limit — rejected -/
example : (validate 4 exGoodChain4 0).isClean = true := by decide +kernel
example : (validate 3 exGoodChain4 0).out = .tooDeep := by decide +kernel
example : (validate 3 exGoodDiamond 0).isClean = true := by decide +kernel
example : (validate 3 exSecondDeep 0).out = .tooDeep := by decide +kernel
example : (validate 4 exSecondDeep 0).isClean = true := by decide +kernel

theorem exTwo_claim {u : Nat} {c : Claim} (hc : [clh [1], clh []][u]? = some c) :
    c.sigOk = true ∧ ∀ i ∈ c.ings, u = 0 ∧ i = ⟨some 1, false, true⟩ := by
  match u, hc with
  | 0, hc => cases hc; exact ⟨rfl, fun i hi => ⟨rfl, List.mem_singleton.1 hi⟩⟩
  | 1, hc => cases hc; exact ⟨rfl, fun _ hi => by cases hi⟩
  | _ + 2, hc => cases hc

theorem exTwo_reachIn (k v : Nat) (h : ReachIn [clh [1], clh []] 0 k v) :
    (k = 0 ∧ v = 0) ∨ (k = 1 ∧ v = 1) := by
  induction h with
  | refl => exact Or.inl ⟨rfl, rfl⟩
  | step _ he ih =>
    obtain ⟨_, hc, _, hi, ht, _⟩ := he
    obtain ⟨rfl, rfl⟩ := (exTwo_claim hc).2 _ hi
    cases ht
    rcases ih with ⟨rfl, _⟩ | ⟨_, h⟩
    · exact Or.inr ⟨rfl, rfl⟩
    · cases h

/-- the hypotheses of `validate_wellformed_clean` are satisfiable by a store with an edge -/
example : WF [clh [1], clh []] 0 2 := by
  refine ⟨by decide, ?_, fun _ _ _ hc => (exTwo_claim hc).1, ?_, ?_⟩
  · rintro u v _ ⟨c, hc, i, hi, ht, hv⟩
    obtain ⟨_, rfl⟩ := (exTwo_claim hc).2 i hi
    cases ht
    exact absurd hv (by decide)
  · intro u c _ hc i hi v _
    obtain ⟨_, rfl⟩ := (exTwo_claim hc).2 i hi
    rfl
  · intro v k hk
    rcases exTwo_reachIn k v hk with ⟨rfl, _⟩ | ⟨rfl, _⟩ <;> decide

/-- an over-deep claim that `ChainPrefix` does not see (`exSecondDeep`, limit 3): claim 1 is only
reachable through 0 → 2 → 3 → 1 -/
example : (validate 3 exSecondDeep 0).out ≠ .ok ∧ ¬ ChainPrefix 3 exSecondDeep := by
  refine ⟨by decide, ?_⟩
  rintro ⟨_, h⟩
  obtain ⟨c, i, rest, hc, hi, ht⟩ := h 0 (by decide)
  simp [exSecondDeep] at hc
  subst hc
  simp [clh] at hi
  obtain ⟨rfl, _⟩ := hi
  simp at ht

/-- a chain 0 → 1 → 2 → 3 whose tail the root also lists directly, before or after the chain:
claim 3 has a path of one edge (it is not `OverDeep`), yet with limit 3 the chain nests it under
three claims and the store is rejected in both orders; the reference 2 → 3 is a `DeepRef` -/
def exShortcutFirst : Store := [clh [3, 1], clh [2], clh [3], clh []]
def exShortcutLast : Store := [clh [1, 3], clh [2], clh [3], clh []]
example : (validate 3 exShortcutFirst 0).out = .tooDeep ∧ (validate 3 exShortcutLast 0).out = .tooDeep ∧
    (validate 4 exShortcutFirst 0).isClean = true := by decide +kernel
/-- where the order matters: 0 → 3 → 4 and 0 → 1 → 2 → 3, limit 4 — the short side first is
accepted, the long side first is rejected (then 3 is entered with three claims above it and its
reference to 4 arrives at the limit) -/
example : (validate 4 [clh [3, 1], clh [2], clh [3], clh [4], clh []] 0).isClean = true ∧
    (validate 4 [clh [1, 3], clh [2], clh [3], clh [4], clh []] 0).out = .tooDeep := by decide +kernel

/-- scopes: the walker's missing event is active-scope, `ingredient_checks`' one is not -/
example : scopeLog 200 exDangling 0 =
    [(.missing 7, false), (.verify 0, false), (.mismatch 1, true), (.verify 1, true),
      (.missing 7, true)] := by decide +kernel

end C2pa.C19
