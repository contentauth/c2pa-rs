import C2paModel.Props.C04
import C2paModel.Model.C04Store
/-
C04 (second part) — what `ValidationResults::from_store` guarantees about the results object,
and hence about the state, in terms of the *validation log* (the input of `from_store`), not of
an already built results value:

  * a failure log item that carries a code and was logged for the active claim itself (no
    ingredient URI), or concerns the active manifest, or is not already recorded in an ingredient
    assertion, is placed — by ingredient URI — in
    `activeManifest.failure` or in the failure list of the delta with that URI, and stays there;
  * therefore one such item with a non-tolerated code makes the store Invalid;
  * an item with only an `err_val` becomes an active-manifest failure with a never-tolerated code;
  * an item with neither code nor `err_val` has no influence at all (stated, not hidden);
  * the state can be Valid/Trusted only if the log holds a `claimSignature.validated` and a
    `claimSignature.insideValidity` *success* item that are not attributed to an ingredient;
    ingredient-attributed items never reach the active manifest.
-/
namespace C2pa.C04

theorem codeFromErrorStr_not_tolerated (e : List Char) : tolerated (codeFromErrorStr e) = false := by
  have h : tolerated "claim.missing".toList = false ∧ tolerated "assertion.missing".toList = false ∧
      tolerated "assertion.required.missing".toList = false ∧
      tolerated "manifest.inaccessible".toList = false ∧
      tolerated "com.adobe.prerelease".toList = false ∧
      tolerated "general.error".toList = false := by
    delta tolerated cUntrusted cawgX509Prefix; decide_run
  obtain ⟨h1, h2, h3, h5, h6, h7⟩ := h
  -- `tolerated` is pushed to the leaves of the cascade, where it is `false` on every branch
  simp only [codeFromErrorStr, apply_ite tolerated, h1, h2, h3, dataHashMismatch_not_tolerated, h5, h6,
    h7, ite_self]

theorem fromLogItem_status (it : LogItem) (c : Code) (h : it.status = some c) :
    fromLogItem it = some { code := c, url := some it.label, kind := it.kind, ingUri := it.ingUri } := by
  unfold fromLogItem; rw [h]

theorem fromLogItem_err (it : LogItem) (e : List Char) (h : it.status = none) (he : it.err = some e) :
    fromLogItem it =
      some { code := codeFromErrorStr e, url := some it.label, kind := .failure, ingUri := none } := by
  unfold fromLogItem; rw [h, he]; rfl

theorem fromLogItem_none_iff (it : LogItem) :
    fromLogItem it = none ↔ it.status = none ∧ it.err = none := by
  unfold fromLogItem
  cases it.status <;> cases it.err <;> simp

/-! ### the "already captured in an ingredient assertion" filter -/

/-- the status survives the filter: it was not logged for an ingredient, or it is about the active
manifest, or no ingredient status has the same code, url and kind -/
def Survives (lbl : List Char) (ing : List VStatus) (v : VStatus) : Prop :=
  v.ingUri = none ∨ isActiveUrl lbl v.url = true ∨ ∀ i ∈ ing, i.eqv v = false

/-- A status is kept when it survives the filter, or when the filter is not run at all: that is
when every status is about the active manifest. -/
theorem mem_keptStatuses (lbl : List Char) (ing sts : List VStatus) (v : VStatus) :
    v ∈ keptStatuses lbl ing sts ↔
      v ∈ sts ∧ (Survives lbl ing v ∨ ∀ s ∈ sts, isActiveUrl lbl s.url = true) := by
  have hany : (sts.any fun s => !isActiveUrl lbl s.url) = true ↔
      ¬ ∀ s ∈ sts, isActiveUrl lbl s.url = true := by simp
  unfold keptStatuses
  by_cases hall : ∀ s ∈ sts, isActiveUrl lbl s.url = true
  · rw [if_neg (fun h => hany.1 h hall)]
    exact ⟨fun h => ⟨h, Or.inr hall⟩, And.left⟩
  · rw [if_pos (hany.2 hall), List.mem_filter]
    simp [Survives, hall, or_assoc]

/-- **No provenance claim: empty results, Invalid.** -/
theorem fromStore_no_provenance (st : StoreAbs) (log : List LogItem) (h : st.active = none) :
    fromStore st log = {} ∧ state (fromStore st log) = .invalid := by
  unfold fromStore; rw [h]; exact ⟨rfl, rfl⟩

/-- the statuses that `from_store` hands to `add_status`, in order -/
def storeStatuses (lbl : List Char) (ing : List VStatus) (log : List LogItem) : List Status :=
  (keptStatuses lbl ing (log.filterMap fromLogItem)).map VStatus.toStatus

theorem fromStore_eq (st : StoreAbs) (log : List LogItem) (lbl : List Char) (h : st.active = some lbl) :
    fromStore st log =
      (storeStatuses lbl st.ing log).foldl addStatus { active := some {}, deltas := none } := by
  unfold fromStore storeStatuses; rw [h]

theorem mem_storeStatuses (lbl : List Char) (ing : List VStatus) (log : List LogItem)
    (it : LogItem) (v : VStatus) (hit : it ∈ log) (hv : fromLogItem it = some v)
    (hs : Survives lbl ing v) : v.toStatus ∈ storeStatuses lbl ing log :=
  List.mem_map.2 ⟨v, (mem_keptStatuses ..).2 ⟨List.mem_filterMap.2 ⟨it, hit, hv⟩, Or.inl hs⟩, rfl⟩

/-- **Placement.** A failure log item that carries a status code and survives the ingredient
filter ends in the failure list designated by its ingredient URI: `activeManifest.failure` when
it has none, the delta with exactly that URI otherwise — whatever else is in the log. -/
theorem fromStore_failure_placed (st : StoreAbs) (log : List LogItem) (lbl : List Char)
    (it : LogItem) (c : Code) (hl : st.active = some lbl) (hit : it ∈ log)
    (hc : it.status = some c) (hk : it.kind = .failure)
    (hs : it.ingUri = none ∨ manifestLabelFromUri it.label = some lbl ∨
          ∀ i ∈ st.ing, ¬ (i.code = c ∧ i.url = some it.label ∧ i.kind = .failure)) :
    Placed (fromStore st log) { code := c, kind := .failure, uri := it.ingUri } := by
  rw [fromStore_eq st log lbl hl]
  -- `hs` is `Survives` spelled on the fields of the item
  have hsurv : Survives lbl st.ing
      { code := c, url := some it.label, kind := it.kind, ingUri := it.ingUri } := by
    refine hs.imp id (Or.imp (fun h => by simp [isActiveUrl, h]) fun h i hi => ?_)
    have := h i hi
    simpa [VStatus.eqv, hk, and_assoc] using this
  have hm := mem_storeStatuses lbl st.ing log it _ hit (fromLogItem_status it c hc) hsurv
  have := placed_of_mem _ _ hm (by simp [VStatus.toStatus, hk]) { active := some {}, deltas := none }
  simpa [VStatus.toStatus, hk] using this

/-- **One surviving failure item with a non-tolerated code makes the store Invalid** — for every
log around it and every content of the ingredient assertions. -/
theorem fromStore_nontolerated_failure_invalid (st : StoreAbs) (log : List LogItem) (lbl : List Char)
    (it : LogItem) (c : Code) (hl : st.active = some lbl) (hit : it ∈ log)
    (hc : it.status = some c) (hk : it.kind = .failure) (ht : tolerated c = false)
    (hs : it.ingUri = none ∨ manifestLabelFromUri it.label = some lbl ∨
          ∀ i ∈ st.ing, ¬ (i.code = c ∧ i.url = some it.label ∧ i.kind = .failure)) :
    state (fromStore st log) = .invalid :=
  invalid_of_failure _ c (placed_failure _ _ (fromStore_failure_placed st log lbl it c hl hit hc hk hs)) ht

/-- **An item with only an `err_val`** (no status code), in a store that has a provenance claim,
becomes an `activeManifest.failure`
with a never-tolerated code — whatever its kind, label and ingredient URI, and whatever the
ingredient assertions record: the store is Invalid. -/
theorem fromStore_err_item_invalid (st : StoreAbs) (log : List LogItem) (lbl : List Char)
    (it : LogItem) (e : List Char) (hl : st.active = some lbl) (hit : it ∈ log)
    (hc : it.status = none) (he : it.err = some e) :
    (∃ a, (fromStore st log).active = some a ∧ codeFromErrorStr e ∈ a.failure) ∧
      state (fromStore st log) = .invalid := by
  rw [fromStore_eq st log lbl hl]
  have hm := mem_storeStatuses lbl st.ing log it _ hit (fromLogItem_err it e hc he) (Or.inl rfl)
  have hp := placed_of_mem _ _ hm rfl { active := some {}, deltas := none }
  exact ⟨hp, invalid_of_failure _ _ (placed_failure _ _ hp) (codeFromErrorStr_not_tolerated e)⟩

/-- **Items without a status code and without an `err_val` are ignored**, whatever their kind:
removing them from the log changes nothing. (So a failure logged without any code cannot lower
the state — `from_store` relies on every failure site supplying one.) -/
theorem fromStore_codeless_ignored (st : StoreAbs) (log : List LogItem) :
    fromStore st (log.filter fun it => it.status.isSome || it.err.isSome) = fromStore st log := by
  have h : ∀ it : LogItem,
      (if (it.status.isSome || it.err.isSome) = true then fromLogItem it else none) = fromLogItem it := by
    intro it; unfold fromLogItem; cases it.status <;> cases it.err <;> rfl
  simp only [fromStore, List.filterMap_filter, h]

/-- **Valid or Trusted only if the log holds a success item `claimSignature.validated` (and one
`claimSignature.insideValidity`) that is not attributed to any ingredient.** Success items of
ingredients, informational items and `err_val`-only items can never supply them. -/
theorem fromStore_not_invalid_needs_own_signature (st : StoreAbs) (log : List LogItem)
    (h : state (fromStore st log) ≠ .invalid) :
    (∃ it ∈ log, it.status = some cSigValidated ∧ it.kind = .success ∧ it.ingUri = none) ∧
    (∃ it ∈ log, it.status = some cInsideValidity ∧ it.kind = .success ∧ it.ingUri = none) := by
  cases hl : st.active with
  | none => exact absurd (fromStore_no_provenance st log hl).2 h
  | some lbl =>
    rw [state_not_invalid_iff, validCond_iff, fromStore_eq st log lbl hl] at h
    have own_success_item : ∀ c : Code, c ∈ actSuccess ((storeStatuses lbl st.ing log).foldl addStatus
          { active := some {}, deltas := none }) →
        ∃ it ∈ log, it.status = some c ∧ it.kind = .success ∧ it.ingUri = none := by
      intro c hc
      rcases mem_actSuccess_foldl _ _ c hc with hc0 | ⟨s, hs, rfl, hkind, huri⟩
      · cases hc0
      · obtain ⟨v, hv, rfl⟩ := List.mem_map.1 hs
        obtain ⟨it, hit, hfi⟩ := List.mem_filterMap.1 ((mem_keptStatuses _ _ _ v).1 hv).1
        refine ⟨it, hit, ?_⟩
        unfold fromLogItem at hfi
        cases hst : it.status <;> rw [hst] at hfi
        · -- an `err_val`-only item yields a failure, never a success
          cases he : it.err <;> rw [he] at hfi <;> cases hfi
          cases hkind
        · cases hfi
          exact ⟨rfl, hkind, huri⟩
    exact ⟨own_success_item _ h.1, own_success_item _ h.2.1⟩

/-! ### Non-vacuity -/

def exLbl : List Char := "urn:c2pa:1".toList
def exUrl : List Char := "self#jumbf=/c2pa/urn:c2pa:1/c2pa.signature".toList
def exIngUrl : List Char := "self#jumbf=/c2pa/urn:c2pa:2/c2pa.assertions/c2pa.hash.data".toList
def exOk : List LogItem :=
  [ { status := some cSigValidated, err := none, kind := .success, label := exUrl, ingUri := none },
    { status := some cInsideValidity, err := none, kind := .success, label := exUrl, ingUri := none },
    { status := some cTrusted, err := none, kind := .success, label := exUrl, ingUri := none } ]
def exMismatch : LogItem :=
  { status := some "assertion.dataHash.mismatch".toList, err := none, kind := .failure,
    label := exIngUrl, ingUri := some "self#jumbf=/c2pa/urn:c2pa:1/c2pa.assertions/c2pa.ingredient.v3".toList }

theorem fromStore_exOk :
    state (fromStore { active := some exLbl, ing := [] } exOk) = .trusted := by
  -- the results object first, then its state: each evaluation stays small
  have h : fromStore { active := some exLbl, ing := [] } exOk =
      { active := some { success := [cSigValidated, cInsideValidity, cTrusted] }, deltas := none } := by
    delta exLbl exOk exUrl cSigValidated cInsideValidity cTrusted; decide_run
  rw [h]
  delta state isTrusted isValid cSigValidated cInsideValidity cTrusted; decide_run

example : manifestLabelFromUri exUrl = some exLbl := by
  delta exUrl exLbl; decide_run
example : state (fromStore { active := some exLbl, ing := [] } exOk) = .trusted := fromStore_exOk
-- a new ingredient failure lands in a delta and makes the store Invalid …
example : state (fromStore { active := some exLbl, ing := [] } (exOk ++ [exMismatch])) = .invalid :=
  fromStore_nontolerated_failure_invalid _ _ exLbl exMismatch _ rfl (List.mem_append_right _ (.head _)) rfl rfl
    dataHashMismatch_not_tolerated (Or.inr (Or.inr fun _ h => by cases h))
-- … unless the ingredient assertion already recorded exactly that status (the filter's purpose)
def exRecorded : VStatus :=
  { code := "assertion.dataHash.mismatch".toList, url := some exIngUrl, kind := .failure, ingUri := none }
example : state (fromStore { active := some exLbl, ing := [exRecorded] } (exOk ++ [exMismatch])) = .trusted := by
  -- the recorded item is dropped: the same results as without it
  have h : fromStore { active := some exLbl, ing := [exRecorded] } (exOk ++ [exMismatch]) =
      fromStore { active := some exLbl, ing := [] } exOk := by
    delta exLbl exRecorded exOk exMismatch exUrl exIngUrl cSigValidated cInsideValidity cTrusted
    decide_run
  rw [h]
  exact fromStore_exOk
-- … but never when the item was logged for the active claim itself (no ingredient URI)
example : state (fromStore { active := some exLbl, ing := [exRecorded] }
    (exOk ++ [{ exMismatch with ingUri := none }])) = .invalid :=
  fromStore_nontolerated_failure_invalid _ _ exLbl { exMismatch with ingUri := none } _ rfl
    (List.mem_append_right _ (.head _)) rfl rfl dataHashMismatch_not_tolerated (Or.inl rfl)
-- an `err_val`-only item and a codeless failure item
example : state (fromStore { active := some exLbl, ing := [] }
    (exOk ++ [{ status := none, err := some "HashMismatch(x)".toList, kind := .failure, label := exUrl, ingUri := none }])) = .invalid :=
  (fromStore_err_item_invalid _ _ exLbl _ _ rfl (List.mem_append_right _ (.head _)) rfl rfl).2
example : state (fromStore { active := some exLbl, ing := [] }
    (exOk ++ [{ status := none, err := none, kind := .failure, label := exUrl, ingUri := none }])) = .trusted := by
  rw [← fromStore_codeless_ignored]; exact fromStore_exOk

end C2pa.C04
