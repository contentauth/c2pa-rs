import C2paModel.Model.C35
import C2paModel.Lemmas.C11IO
import C2paModel.Lemmas.C11Sig
/-
C35 — results do not depend on stream chunking, and I/O errors are never hidden.  Statement:

  Signing and reading give identical results when the underlying streams return data in
  arbitrarily small pieces. When a stream fails at any point, the operation returns an error; it
  never panics and never reports Valid for data it could not read or write.

Proved for the read primitives of Model/C35 (fill loop, `read_exact`, `read_to_vec`,
`BoxReader::read_header`, the sniff of `container_from_stream`, `format_from_stream`), over every
read schedule and every seek schedule: `*_chunk_independent` (no hard fault: the full-read result)
and `*_fault_or_exact` / `*_fault_reached` (a fault is an error, never other data).  The second
clause is false for the sniff's ID3 probe and for `format_from_stream`: `sniff_id3_fault_hidden`,
`format_hides_sniff_fault` (open findings).  Whole operations, handlers and write paths are not
modelled; see registry/C35.json `partial`.

Every read primitive is specified by a `Reads s bs s'`; programs compose by `Reads.trans`, and
`take`/`drop` arithmetic appears only where a theorem is stated on `take want`.
-/
namespace C2pa.C35

open C2pa.C11 (Fmt b sliceEq id3Size firstMatch detectB rulesB isId3 mFLaC lMp3 lFlac detect)

/-- No read of the schedule fails with a hard error (`Interrupted` is allowed). -/
def NoFault (sched : List Ev) : Prop := ∀ e ∈ sched, e ≠ Ev.rd 0

/-- No seek of the seek schedule fails. -/
def NoSeekFault (seeks : List Bool) : Prop := ∀ x ∈ seeks, x = false

theorem NoFault.nil : NoFault [] := by intro e h; cases h

theorem NoFault.append {a c : List Ev} (ha : NoFault a) (hc : NoFault c) : NoFault (a ++ c) := by
  intro e he
  rcases List.mem_append.1 he with h | h
  · exact ha e h
  · exact hc e h

theorem NoFault.right {a c : List Ev} (h : NoFault (a ++ c)) : NoFault c :=
  fun e he => h e (List.mem_append.2 (Or.inr he))

theorem readOnce_nil {s : St} {want : Nat} (hs : s.sched = []) (hw : want ≠ 0) :
    readOnce s want = (.ok ((s.data.drop s.pos).take want),
      { s with pos := s.pos + ((s.data.drop s.pos).take want).length }) := by
  unfold readOnce; rw [if_neg hw, hs]

theorem readOnce_io {s : St} {want : Nat} {rest : List Ev} (hs : s.sched = Ev.rd 0 :: rest)
    (hw : want ≠ 0) : readOnce s want = (.io, { s with sched := rest }) := by
  unfold readOnce; rw [if_neg hw, hs]

theorem readOnce_intr {s : St} {want : Nat} {rest : List Ev} (hs : s.sched = Ev.intr :: rest)
    (hw : want ≠ 0) : readOnce s want = (.intr, { s with sched := rest }) := by
  unfold readOnce; rw [if_neg hw, hs]

theorem readOnce_rd {s : St} {want k : Nat} {rest : List Ev} (hs : s.sched = Ev.rd (k + 1) :: rest)
    (hw : want ≠ 0) :
    readOnce s want = (.ok ((s.data.drop s.pos).take (min want (k + 1))),
      { s with pos := s.pos + ((s.data.drop s.pos).take (min want (k + 1))).length,
               sched := rest }) := by
  unfold readOnce; rw [if_neg hw, hs]

/-- bytes the `read` calls of a schedule prefix can deliver at most (`C11.budget` of Lemmas/C11IO is
the same count for C11's model of the sniff loop) -/
def budget : List Ev → Nat
  | [] => 0
  | Ev.rd k :: r => k + budget r
  | Ev.intr :: r => budget r

theorem budget_append (a c : List Ev) : budget (a ++ c) = budget a + budget c := by
  induction a with
  | nil => exact (Nat.zero_add _).symm
  | cons e a ih =>
    cases e with
    | intr => exact ih
    | rd k => show k + budget (a ++ c) = k + budget a + budget c; rw [ih, Nat.add_assoc]

/-- A fault-free consumed prefix of a schedule lies before its first hard fault. -/
theorem NoFault.before {c r pre post : List Ev} (h : c ++ r = pre ++ Ev.rd 0 :: post)
    (hc : NoFault c) : ∃ d, pre = c ++ d ∧ r = d ++ Ev.rd 0 :: post := by
  rcases List.append_eq_append_iff.1 h with hd | ⟨_ | ⟨x, b⟩, rfl, hb⟩
  · exact hd
  · exact ⟨[], by rw [List.append_nil, List.append_nil], hb.symm⟩
  · injection hb with hx
    exact absurd hx.symm (hc x (List.mem_append_right _ List.mem_cons_self))

theorem drop_length_take {α} (l : List α) (k : Nat) : l.drop (l.take k).length = l.drop k := by
  have := @List.drop_left _ (l.take k) (l.drop k)
  rwa [List.take_append_drop] at this

/-- The unread bytes: all that the read primitives see of `data` and `pos`. -/
abbrev St.rest (s : St) : List UInt8 := s.data.drop s.pos

/-- From `s` to `s'` the `read` calls consumed exactly the unread bytes `bs`: what is unread at `s` is
`bs` and then what is unread at `s'`; same data and seek schedule; fault-free schedule entries `c`
used up, whose budget covers `bs` unless the schedule ran out. -/
structure Reads (s : St) (bs : List UInt8) (s' : St) : Prop where
  data : s'.data = s.data
  pos : s'.pos = s.pos + bs.length
  rest : s.rest = bs ++ s'.rest
  seeks : s'.seeks = s.seeks
  sched : ∃ c, s.sched = c ++ s'.sched ∧ NoFault c ∧ (bs.length ≤ budget c ∨ s'.sched = [])

theorem Reads.refl (s : St) : Reads s [] s :=
  ⟨rfl, rfl, rfl, rfl, [], rfl, NoFault.nil, .inl (Nat.le_refl 0)⟩

theorem Reads.trans {s s1 s2 : St} {bs cs : List UInt8} (h : Reads s bs s1) (h' : Reads s1 cs s2) :
    Reads s (bs ++ cs) s2 := by
  obtain ⟨c, hc, hn, hb⟩ := h.sched
  obtain ⟨c', hc', hn', hb'⟩ := h'.sched
  refine ⟨h'.data.trans h.data, by rw [h'.pos, h.pos, List.length_append, Nat.add_assoc],
    by rw [h.rest, h'.rest, List.append_assoc], h'.seeks.trans h.seeks,
    c ++ c', by rw [hc, hc', List.append_assoc], hn.append hn', ?_⟩
  rw [List.length_append, budget_append]
  rcases hb' with hb' | hb'
  · -- an exhausted schedule stays exhausted
    exact hb.imp (by omega) fun hb => (List.append_eq_nil_iff.1 (hc' ▸ hb)).2
  · exact .inr hb'

theorem Reads.noFault {s s' : St} {bs : List UInt8} (h : Reads s bs s') (hn : NoFault s.sched) :
    NoFault s'.sched := by
  obtain ⟨c, hc, _⟩ := h.sched
  exact (hc ▸ hn).right

/-- A loop that asked for `want` bytes and stopped with `bs` at the end of the data or with all of
them has read `take want` of the unread bytes. -/
theorem Reads.eq_take {s s' : St} {bs : List UInt8} {want : Nat} (h : Reads s bs s')
    (hfull : bs.length = want ∨ bs.length ≤ want ∧ s'.rest = []) : bs = s.rest.take want := by
  rw [h.rest]
  rcases hfull with rfl | ⟨hle, h0⟩
  · exact List.take_left.symm
  · rw [h0, List.append_nil, List.take_of_length_le hle]

theorem Reads.take (s : St) (k : Nat) {c r : List Ev} (hc : s.sched = c ++ r) (hn : NoFault c)
    (hb : k ≤ budget c ∨ r = []) :
    Reads s (s.rest.take k) { s with pos := s.pos + (s.rest.take k).length, sched := r } :=
  ⟨rfl, rfl, by
      show s.rest = _ ++ s.data.drop _
      rw [← List.drop_drop, drop_length_take, List.take_append_drop],
    rfl, c, hc, hn, hb.imp_left (Nat.le_trans (List.length_take_le _ _))⟩

/-- One `read` call with a non-empty buffer: at most `want` of the unread bytes, none only if none
are left, and the entry consumed (if any) could deliver them; or one of the two failures. -/
theorem readOnce_cases (s : St) (want : Nat) (hw : want ≠ 0) :
    (∃ bs s1, readOnce s want = (.ok bs, s1) ∧ Reads s bs s1 ∧ bs.length ≤ want ∧
        (bs = [] → s.rest = []))
    ∨ (∃ s1, readOnce s want = (.io, s1) ∧ ¬ NoFault s.sched)
    ∨ (∃ s1, readOnce s want = (.intr, s1) ∧ s.sched = Ev.intr :: s1.sched ∧ Reads s [] s1) := by
  have single (e : Ev) (he : e ≠ Ev.rd 0) : NoFault [e] := fun x hx => List.mem_singleton.mp hx ▸ he
  cases hs : s.sched with
  | nil =>
    exact Or.inl ⟨_, _, readOnce_nil hs hw, hs ▸ Reads.take s want hs NoFault.nil (.inr rfl),
      List.length_take_le _ _, fun h => (List.take_eq_nil_iff.1 h).resolve_left hw⟩
  | cons e rest =>
    cases e with
    | intr =>
      exact Or.inr (Or.inr ⟨_, readOnce_intr hs hw, rfl, rfl, rfl, rfl, rfl, [Ev.intr], hs,
        single _ nofun, .inl (Nat.le_refl 0)⟩)
    | rd k =>
      cases k with
      | zero =>
        exact Or.inr (Or.inl ⟨_, readOnce_io hs hw, fun hn => hn _ List.mem_cons_self rfl⟩)
      | succ k' =>
        exact Or.inl ⟨_, _, readOnce_rd hs hw,
          Reads.take s _ (c := [Ev.rd (k' + 1)]) hs (single _ nofun) (.inl (Nat.min_le_right _ _)),
          Nat.le_trans (List.length_take_le _ _) (Nat.min_le_left _ _),
          fun h => (List.take_eq_nil_iff.1 h).resolve_left (by omega)⟩

/-! ### The fill loop -/

/-- The fill loop under every schedule (any sufficient fuel): the I/O error, and then the schedule
has a hard fault; or bytes `bs` read as `Reads` says, `want` of them or fewer because none are
left. A fault is never turned into data, a truncated or a padded buffer. -/
theorem readFill_cases : ∀ (fuel : Nat) (s : St) (want : Nat), want + s.sched.length ≤ fuel →
    (∃ s', readFill fuel s want = (none, s') ∧ ¬ NoFault s.sched)
    ∨ (∃ bs s', readFill fuel s want = (some bs, s') ∧ Reads s bs s' ∧
        (bs.length = want ∨ bs.length ≤ want ∧ s'.rest = [])) := by
  intro fuel
  induction fuel with
  | zero =>
    intro s want hf
    obtain rfl : want = 0 := by omega
    exact Or.inr ⟨[], s, rfl, Reads.refl s, .inl rfl⟩
  | succ fuel ih =>
    intro s want hf
    by_cases hw : want = 0
    · subst hw
      exact Or.inr ⟨[], s, rfl, Reads.refl s, .inl rfl⟩
    rw [readFill, if_neg hw]
    rcases readOnce_cases s want hw with ⟨bs, s1, hro, r1, hle, hnil⟩ | ⟨s1, hro, hbad⟩ |
      ⟨s1, hro, hsc, r1⟩
    · rw [hro]
      dsimp only
      by_cases hbs : bs = []
      · -- `Ok(0)`: nothing is left
        rw [if_pos hbs]
        subst hbs
        exact Or.inr ⟨[], s1, rfl, r1, .inr ⟨Nat.zero_le _, r1.rest.symm.trans (hnil rfl)⟩⟩
      · rw [if_neg hbs]
        have hpos : 1 ≤ bs.length := List.length_pos_iff.2 hbs
        obtain ⟨c, hc, _⟩ := r1.sched
        have hlen : s.sched.length = c.length + s1.sched.length := by rw [hc, List.length_append]
        rcases ih s1 (want - bs.length) (by omega) with ⟨s2, hrec, hbad⟩ | ⟨more, s2, hrec, r2, hfull⟩
        · rw [hrec]
          exact Or.inl ⟨s2, rfl, fun hn => hbad (r1.noFault hn)⟩
        · rw [hrec]
          refine Or.inr ⟨bs ++ more, s2, rfl, r1.trans r2, ?_⟩
          rw [List.length_append]
          exact hfull.imp (by omega) (.imp_left (by omega))
    · rw [hro]
      exact Or.inl ⟨s1, rfl, hbad⟩
    · -- `Interrupted`: retried
      rw [hro]
      dsimp only
      have hlen : s.sched.length = s1.sched.length + 1 := by rw [hsc]; rfl
      rcases ih s1 want (by omega) with ⟨s2, hrec, hbad⟩ | ⟨more, s2, hrec, r2, hfull⟩
      · exact Or.inl ⟨s2, hrec, fun hn => hbad (r1.noFault hn)⟩
      · exact Or.inr ⟨more, s2, hrec, r1.trans r2, hfull⟩

/-- **Whatever the loop returns is the exact data**: for *every* schedule (faults included), if
the fill loop returns bytes they are exactly the next `want` bytes (or all that remain), the
position advanced by that much, and no consumed schedule entry was a hard fault. -/
theorem readFill_exact : ∀ (fuel : Nat) (s : St) (want : Nat) (bs : List UInt8) (s' : St),
    want + s.sched.length ≤ fuel → readFill fuel s want = (some bs, s') →
    bs = (s.data.drop s.pos).take want ∧ s'.data = s.data ∧ s'.pos = s.pos + bs.length ∧
      s'.seeks = s.seeks ∧ ∃ c, s.sched = c ++ s'.sched ∧ NoFault c := by
  intro fuel s want bs s' hf h
  rcases readFill_cases fuel s want hf with ⟨_, h', _⟩ | ⟨_, _, h', r, hfull⟩
  · cases h.symm.trans h'
  · cases h.symm.trans h'
    obtain ⟨c, hc, hcn, _⟩ := r.sched
    exact ⟨r.eq_take hfull, r.data, r.pos, r.seeks, c, hc, hcn⟩

/-- `fill` in terms of the request: the I/O error, or exactly the next `want` bytes (or all that
remain). -/
theorem fill_cases (s : St) (want : Nat) :
    (∃ s', fill s want = (none, s') ∧ ¬ NoFault s.sched)
    ∨ (∃ s', fill s want = (some (s.rest.take want), s') ∧ Reads s (s.rest.take want) s') := by
  rcases readFill_cases _ s want (Nat.le_refl _) with h | ⟨bs, s', h, r, hfull⟩
  · exact .inl h
  · cases r.eq_take hfull
    exact .inr ⟨s', h, r⟩

/-- **The fill loop is independent of chunking**: under every schedule without a hard fault
(any short reads, `Interrupted` anywhere) it returns exactly the next `want` bytes (or all that
remain) and advances the position by that much. -/
theorem fill_chunk_independent (s : St) (want : Nat) (hn : NoFault s.sched) :
    ∃ s', fill s want = (some ((s.data.drop s.pos).take want), s') ∧
      s'.data = s.data ∧ s'.pos = s.pos + ((s.data.drop s.pos).take want).length ∧
      s'.seeks = s.seeks ∧ NoFault s'.sched := by
  rcases fill_cases s want with ⟨_, _, hbad⟩ | ⟨s', h, r⟩
  · exact absurd hn hbad
  · exact ⟨s', h, r.data, r.pos, r.seeks, r.noFault hn⟩

/-- **Fault or exact** (every schedule): the fill loop either reports the I/O error or returns
exactly what a full read returns. -/
theorem fill_fault_or_exact (s : St) (want : Nat) :
    (fill s want).1 = none ∨ (fill s want).1 = some ((s.data.drop s.pos).take want) := by
  rcases fill_cases s want with ⟨_, h, _⟩ | ⟨_, h, _⟩
  · exact Or.inl (by rw [h])
  · exact Or.inr (by rw [h])

/-- `fill_chunk_independent` for any sufficient fuel (without its clause on the seek schedule). -/
theorem readFill_chunk_independent (fuel : Nat) (s : St) (want : Nat)
    (hf : want + s.sched.length ≤ fuel) (hn : NoFault s.sched) :
    ∃ s', readFill fuel s want = (some ((s.data.drop s.pos).take want), s') ∧
      s'.data = s.data ∧ s'.pos = s.pos + ((s.data.drop s.pos).take want).length ∧
      NoFault s'.sched := by
  rcases readFill_cases fuel s want hf with ⟨_, _, hbad⟩ | ⟨bs, s', h, r, hfull⟩
  · exact absurd hn hbad
  · cases r.eq_take hfull
    exact ⟨s', h, r.data, r.pos, r.noFault hn⟩

/-- A fault that is reached is never turned into data: if the fill loop returns bytes, no
schedule entry it consumed was a hard fault (stated for `fill`, the loop at its own fuel; the last
clause of `readFill_exact`). -/
theorem readFill_ok_consumed_no_fault (s : St) (want : Nat) (bs : List UInt8) (s' : St)
    (h : fill s want = (some bs, s')) :
    ∃ consumed, s.sched = consumed ++ s'.sched ∧ NoFault consumed :=
  (readFill_exact _ s want bs s' (Nat.le_refl _) h).2.2.2.2

/-- **A hard fault that is reached is an error**: if the reads before the failing one cannot
deliver the `want` bytes (nor reach the end of the data), the loop returns the I/O error —
whatever comes after in the schedule. -/
theorem fill_fault_reached (pre post : List Ev) (s : St) (want : Nat)
    (hs : s.sched = pre ++ Ev.rd 0 :: post) (hn : NoFault pre)
    (hb : budget pre < want) (hr : budget pre < (s.data.drop s.pos).length) :
    (fill s want).1 = none := by
  rcases fill_cases s want with ⟨_, h, _⟩ | ⟨_, _, r⟩
  · rw [h]
  · -- returning bytes, the loop stopped before the fault: within `pre`, which cannot deliver them
    obtain ⟨c, hc, hcn, hacc⟩ := r.sched
    obtain ⟨d, rfl, hd⟩ := NoFault.before (hc.symm.trans hs) hcn
    rw [budget_append] at hb hr
    rw [List.length_take, hd] at hacc
    unfold St.rest at hacc
    rcases hacc with hacc | hacc
    · omega
    · cases d <;> cases hacc

/-! ### `read_exact` -/

/-- The value `read_exact(want)` has on a stream that delivers everything. (The three full-read
values take what their theorems are stated on: `exactOf` the state, `toVecOf` data and position,
`headerOf` the unread bytes.) -/
def exactOf (s : St) (want : Nat) : Except RErr (List UInt8) :=
  if want ≤ (s.data.drop s.pos).length then .ok ((s.data.drop s.pos).take want) else .error .eof

/-- **`read_exact`, every schedule**: the I/O error, or exactly the full-read outcome (the
requested slice, or `UnexpectedEof` exactly when fewer than `want` bytes remain) with the
position advanced over what was read. -/
theorem readExact_cases (s : St) (want : Nat) :
    (∃ s', readExact s want = (.error .io, s') ∧ ¬ NoFault s.sched)
    ∨ (∃ s', readExact s want = (exactOf s want, s') ∧ Reads s (s.rest.take want) s') := by
  unfold readExact
  rcases fill_cases s want with ⟨s', h, hbad⟩ | ⟨s', h, r⟩
  · exact Or.inl ⟨s', by rw [h], hbad⟩
  · refine Or.inr ⟨s', ?_, r⟩
    rw [h]
    dsimp only
    unfold exactOf
    rw [List.length_take]
    by_cases hle : want ≤ (s.data.drop s.pos).length
    · rw [if_pos (Nat.min_eq_left hle), if_pos hle]
    · rw [if_neg (by unfold St.rest; omega), if_neg hle]

/-- `readExact_cases` by outcome: the I/O error; `UnexpectedEof`, and fewer than `want` bytes were
left; or `want` bytes, read as `Reads` says. -/
theorem readExact_reads (s : St) (want : Nat) :
    (∃ s', readExact s want = (.error .io, s') ∧ ¬ NoFault s.sched)
    ∨ (∃ s', readExact s want = (.error .eof, s') ∧ s.rest.length < want)
    ∨ (∃ bs s', readExact s want = (.ok bs, s') ∧ Reads s bs s' ∧ bs.length = want) := by
  rcases readExact_cases s want with h | ⟨s', h, r⟩
  · exact .inl h
  · unfold exactOf at h
    by_cases hle : want ≤ s.rest.length
    · rw [if_pos hle] at h
      exact .inr (.inr ⟨_, s', h, r, List.length_take_of_le hle⟩)
    · rw [if_neg hle] at h
      exact .inr (.inl ⟨s', h, Nat.lt_of_not_le hle⟩)

/-- `read_exact` under every schedule without a hard fault (short reads, `Interrupted`). -/
theorem readExact_spec (s : St) (want : Nat) (hn : NoFault s.sched) :
    ∃ s', readExact s want = (exactOf s want, s') ∧ s'.data = s.data ∧
      s'.pos = s.pos + ((s.data.drop s.pos).take want).length ∧ s'.seeks = s.seeks ∧
      NoFault s'.sched := by
  rcases readExact_cases s want with ⟨_, _, hbad⟩ | ⟨s', h, r⟩
  · exact absurd hn hbad
  · exact ⟨s', h, r.data, r.pos, r.seeks, r.noFault hn⟩

theorem readExact_chunk_independent (s : St) (want : Nat) (hn : NoFault s.sched) :
    (readExact s want).1 = exactOf s want := by
  obtain ⟨s', h, _⟩ := readExact_spec s want hn
  rw [h]

/-- **Fault or exact**: `read_exact` never returns `Ok` with other bytes, and never reports
`UnexpectedEof` for data that is there — under any schedule. -/
theorem readExact_fault_or_exact (s : St) (want : Nat) :
    (readExact s want).1 = .error .io ∨ (readExact s want).1 = exactOf s want := by
  rcases readExact_cases s want with ⟨_, h, _⟩ | ⟨_, h, _⟩
  · exact Or.inl (by rw [h])
  · exact Or.inr (by rw [h])

/-! ### Seeks -/

theorem NoSeekFault.right {a c : List Bool} (h : NoSeekFault (a ++ c)) : NoSeekFault c :=
  fun e he => h e (List.mem_append.2 (Or.inr he))

theorem NoSeekFault.take {seeks : List Bool} (hs : NoSeekFault seeks) (k : Nat) :
    ¬ (seeks.take k).contains true = true :=
  fun h => nomatch hs true (List.mem_of_mem_take (List.contains_iff_mem.1 h))

theorem seekTo_cases (s : St) (p : Nat) :
    (∃ s', seekTo s p = (true, s') ∧ s'.data = s.data ∧ s'.pos = p ∧ s'.sched = s.sched ∧
        (NoSeekFault s.seeks → NoSeekFault s'.seeks))
    ∨ (∃ s', seekTo s p = (false, s') ∧ ¬ NoSeekFault s.seeks) := by
  unfold seekTo
  cases hs : s.seeks with
  | nil =>
    exact Or.inl ⟨_, rfl, rfl, rfl, rfl, fun _ x hx => by cases hx⟩
  | cons x rest =>
    cases x with
    | true => exact Or.inr ⟨_, rfl, fun h => by have := h true List.mem_cons_self; cases this⟩
    | false => exact Or.inl ⟨_, rfl, rfl, rfl, rfl, NoSeekFault.right (a := [false])⟩

/-! ### `read_to_vec` -/

/-- What `read_to_vec` returns on a stream without short reads and faults: the closed form. -/
def toVecOf (data : List UInt8) (pos want : Nat) : Option (List UInt8) :=
  if pos + want ≥ 2 ^ 64 ∨ pos + want > data.length ∨ want ≥ 2 ^ 63 then none
  else some ((data.drop pos).take want)

theorem ite3_none {α : Type} (p q r : Prop) [Decidable p] [Decidable q] [Decidable r]
    (x : Option α) :
    (if p then none else if q then none else if r then none else x)
      = if p ∨ q ∨ r then none else x := by
  by_cases p <;> by_cases q <;> by_cases r <;> simp [*]

/-- `read_to_vec` in closed form: a failing seek among the two or three it makes, the range checks,
then the fill loop from `pos` on the read schedule as given. -/
theorem readToVec_eq (data : List UInt8) (pos want : Nat) (sched : List Ev) (seeks : List Bool) :
    readToVec data pos want sched seeks =
      if (seeks.take (if pos = data.length then 2 else 3)).contains true then none
      else if pos + want ≥ 2 ^ 64 ∨ pos + want > data.length ∨ want ≥ 2 ^ 63 then none
      else (fill { data := data, pos := pos, sched := sched,
                   seeks := seeks.drop (if pos = data.length then 2 else 3) } want).1 := by
  rw [← ite3_none]
  unfold readToVec seekTo
  -- the function looks at the first two seeks, and at the third unless `pos` is the end
  by_cases hp : pos = data.length
  · rcases seeks with _ | ⟨_ | _, _ | ⟨_ | _, r⟩⟩ <;> simp [hp]
  · rcases seeks with _ | ⟨_ | _, _ | ⟨_ | _, _ | ⟨_ | _, r⟩⟩⟩ <;> simp [hp]

/-- **`read_to_vec`, every read schedule and every seek schedule**: an error, or exactly the
full-read result — never other bytes, never fewer. -/
theorem readToVec_fault_or_exact (data : List UInt8) (pos want : Nat) (sched : List Ev)
    (seeks : List Bool) :
    readToVec data pos want sched seeks = none
      ∨ readToVec data pos want sched seeks = toVecOf data pos want := by
  rw [readToVec_eq, toVecOf]
  generalize (if pos = data.length then 2 else 3) = k
  split
  · exact Or.inl rfl
  · split
    · exact Or.inl rfl
    · exact fill_fault_or_exact _ want

/-- **`read_to_vec` is independent of chunking**: without a hard read fault and without a
failing seek (any short reads, `Interrupted` anywhere) the result is the full-read result. -/
theorem readToVec_chunk_independent (data : List UInt8) (pos want : Nat) (sched : List Ev)
    (seeks : List Bool) (hn : NoFault sched) (hs : NoSeekFault seeks) :
    readToVec data pos want sched seeks = toVecOf data pos want := by
  rw [readToVec_eq, if_neg (hs.take _), toVecOf]
  split
  · rfl
  · obtain ⟨_, hf, _⟩ := fill_chunk_independent
      { data := data, pos := pos, sched := sched, seeks := seeks.drop _ } want hn
    rw [hf]

theorem readToVec_full (data : List UInt8) (pos want : Nat) :
    readToVec data pos want [] [] = toVecOf data pos want :=
  readToVec_chunk_independent data pos want [] [] NoFault.nil (fun _ h => nomatch h)

/-- **A failing seek is an error**: when the first seek-type call (`stream_position`) fails, or
the second (`seek(End(0))`), or the third (back to the old position, made unless already at the
end), `read_to_vec` returns the error. -/
theorem readToVec_seek_fault_is_error (data : List UInt8) (pos want : Nat) (sched : List Ev)
    (seeks : List Bool)
    (h : (seeks.take (if pos = data.length then 2 else 3)).contains true = true) :
    readToVec data pos want sched seeks = none := by
  rw [readToVec_eq, if_pos h]

/-- **A hard read fault that is reached is an error**: in-range request, seeks succeed, and the
reads before the failing one cannot deliver `want` bytes. -/
theorem readToVec_fault_reached (data : List UInt8) (pos want : Nat) (pre post : List Ev)
    (seeks : List Bool) (hs : NoSeekFault seeks) (hn : NoFault pre)
    (hin : pos + want ≤ data.length) (hb : budget pre < want) :
    readToVec data pos want (pre ++ Ev.rd 0 :: post) seeks = none := by
  rw [readToVec_eq, if_neg (hs.take _)]
  split
  · rfl
  · exact fill_fault_reached pre post _ want rfl hn hb
      (by show _ < (data.drop pos).length; rw [List.length_drop]; omega)

/-! ### `BoxReader::read_header` -/

/-- The header as a function of the bytes from the current position on (what a stream that
delivers everything yields). -/
def headerOf (data : List UInt8) : Option Hdr :=
  if data = [] then some .empty
  else if data.length < 8 then some .eof
  else
    let size := be (data.take 4)
    let typ := be ((data.drop 4).take 4)
    if size = 1 then
      (if 16 ≤ data.length then some (.ok typ (be ((data.drop 8).take 8))) else some .eof)
    else some (.ok typ size)

theorem headerOf_append {buf D : List UInt8} (h8 : buf.length = 8) :
    headerOf (buf ++ D) =
      if be (buf.take 4) = 1 then
        (if 8 ≤ D.length then some (.ok (be ((buf.drop 4).take 4)) (be (D.take 8))) else some .eof)
      else some (.ok (be ((buf.drop 4).take 4)) (be (buf.take 4))) := by
  have hne : buf ++ D ≠ [] := fun h => by rw [List.append_eq_nil_iff.1 h |>.1] at h8; cases h8
  rw [headerOf, if_neg hne, List.length_append, h8, if_neg (by omega)]
  dsimp only
  rw [List.take_append_of_le_length (by omega), List.drop_append_of_le_length (by omega),
    List.take_append_of_le_length (by rw [List.length_drop]; omega), List.drop_left' h8]
  by_cases h : 8 ≤ D.length
  · rw [if_pos h, if_pos (show 16 ≤ 8 + D.length by omega)]
  · rw [if_neg h, if_neg (show ¬ 16 ≤ 8 + D.length by omega)]

/-- `read_header` returns the header of the data, or the I/O error — and the
error only when a read really failed (hard fault somewhere in the schedule, or `Interrupted`
delivered to the first, bare `read`). -/
theorem readHeader_cases (data : List UInt8) (pos : Nat) (sched : List Ev) :
    readHeader data pos sched = headerOf (data.drop pos)
      ∨ (readHeader data pos sched = none ∧ (¬ NoFault sched ∨ sched.head? = some Ev.intr)) := by
  unfold readHeader
  rcases readOnce_cases { data := data, pos := pos, sched := sched } 8 (by decide) with
    ⟨bs, s1, hro, r1, hle, hnil⟩ | ⟨s1, hro, hbad⟩ | ⟨s1, hro, hsc, _⟩
  · rw [hro]
    cases bs with
    | nil => left; rw [show data.drop pos = [] from hnil rfl]; rfl
    | cons a t =>
      dsimp only
      rcases readExact_reads s1 (8 - (a :: t).length) with
        ⟨s2, hre, hbad⟩ | ⟨s2, hre, hlt⟩ | ⟨more, s2, hre, r2, hl⟩ <;> rw [hre]
      · exact Or.inr ⟨rfl, Or.inl fun hn => hbad (r1.noFault hn)⟩
      · -- the data ends within the first eight bytes
        left
        rw [headerOf, show data.drop pos = a :: t ++ s1.rest from r1.rest, if_neg nofun,
          if_pos (by rw [List.length_append]; omega)]
      · -- the short first read and its completion are the next eight bytes `buf`
        dsimp only
        have r := r1.trans r2
        have h8 : (a :: t ++ more).length = 8 := by rw [List.length_append]; omega
        rw [show data.drop pos = a :: t ++ more ++ s2.rest from r.rest]
        generalize a :: t ++ more = buf at *
        rw [headerOf_append h8]
        by_cases hs1 : be (buf.take 4) = 1
        · rw [if_pos hs1, if_pos hs1]
          rcases readExact_reads s2 8 with
            ⟨s3, hre3, hbad3⟩ | ⟨s3, hre3, hlt3⟩ | ⟨l, s3, hre3, r3, hl3⟩ <;> rw [hre3]
          · exact Or.inr ⟨rfl, Or.inl fun hn => hbad3 (r.noFault hn)⟩
          · left; rw [if_neg (by omega)]
          · left; rw [r3.rest, List.length_append, if_pos (by omega), List.take_left' hl3]
        · rw [if_neg hs1, if_neg hs1]; left; rfl
  · rw [hro]
    exact Or.inr ⟨rfl, Or.inl hbad⟩
  · rw [hro]
    exact Or.inr ⟨rfl, Or.inr (by rw [show sched = _ from hsc]; rfl)⟩

/-- **`read_header`: fault or exact** (every schedule, every stream position): the I/O error,
or exactly the header of the bytes at the position — a truncated or zero-padded header is never
decoded after a fault. -/
theorem readHeader_fault_or_exact (data : List UInt8) (pos : Nat) (sched : List Ev) :
    readHeader data pos sched = none ∨ readHeader data pos sched = headerOf (data.drop pos) := by
  rcases readHeader_cases data pos sched with h | ⟨h, _⟩
  · exact Or.inr h
  · exact Or.inl h

/-- **`read_header` is independent of chunking**: any short reads, and `Interrupted` anywhere but on
the very first `read`. (The `read_header` modelled is the repaired one, which completes a short first
read: fixes/C18-read-header-short-read-and-dest-overflow.patch.) -/
theorem readHeader_chunk_independent (data : List UInt8) (pos : Nat) (sched : List Ev)
    (hn : NoFault sched) (hi : sched.head? ≠ some Ev.intr) :
    readHeader data pos sched = headerOf (data.drop pos) := by
  rcases readHeader_cases data pos sched with h | ⟨_, h | h⟩
  · exact h
  · exact absurd hn h
  · exact absurd h hi

/-- The first, bare `read` does not retry: `Interrupted` there is returned as an error (it is an
error, not a hidden one; std convention would retry). -/
theorem readHeader_interrupted_first (data : List UInt8) (pos : Nat) (rest : List Ev) :
    readHeader data pos (Ev.intr :: rest) = none := by
  unfold readHeader readOnce; rfl

/-! ### The sniff (`container_from_stream`) -/

/-- The eight magic tests before the two ID3 rules, and the rules after them (neither depends on
the probe's outcome). -/
def beforeId3 (pdf : Bool) (buf : List UInt8) : List (Bool × Fmt) := (rulesB pdf buf false).take 8
def afterId3 (pdf : Bool) (buf : List UInt8) : List (Bool × Fmt) := (rulesB pdf buf false).drop 10

theorem rulesB_around_id3 (pdf : Bool) (buf : List UInt8) (f : Bool) :
    rulesB pdf buf f = beforeId3 pdf buf
      ++ ((isId3 buf && f, lFlac) :: (isId3 buf, lMp3) :: afterId3 pdf buf) := by
  cases pdf <;> rfl

theorem id3Reached_eq (pdf : Bool) (buf : List UInt8) :
    id3Reached pdf buf = ((firstMatch (beforeId3 pdf buf)).isNone && isId3 buf) := rfl

theorem detectB_not_reached (pdf : Bool) (buf : List UInt8) (f : Bool)
    (h : id3Reached pdf buf = false) : detectB pdf buf f = detectB pdf buf false := by
  unfold detectB
  split
  · rfl
  · rw [rulesB_around_id3 pdf buf f, rulesB_around_id3 pdf buf false, C11.firstMatch_append, C11.firstMatch_append]
    cases hA : firstMatch (beforeId3 pdf buf) with
    | some d => rfl
    | none =>
      have : isId3 buf = false := by
        rw [id3Reached_eq, hA] at h; simpa using h
      simp [this, firstMatch]

theorem detectB_reached (pdf : Bool) (buf : List UInt8) (f : Bool)
    (h : id3Reached pdf buf = true) :
    detectB pdf buf f = some (if f then lFlac else lMp3) := by
  rw [id3Reached_eq] at h
  simp only [Bool.and_eq_true, Option.isNone_iff_eq_none] at h
  obtain ⟨hA, hid⟩ := h
  have hlen : ¬ buf.length < 2 := by
    unfold isId3 at hid; simp at hid; omega
  unfold detectB
  rw [if_neg hlen, rulesB_around_id3 pdf buf f, C11.firstMatch_append, hA, hid]
  cases f <;> rfl

/-- The ID3 probe: the true answer ("the four bytes after the tag are fLaC", `false` when fewer
than four bytes are there), or a hard I/O error of its seek / its reads. -/
theorem probe_cases (s : St) (buf : List UInt8) :
    probe s buf = .ok (sliceEq s.data (10 + id3Size buf) mFLaC)
      ∨ (probe s buf = .error () ∧ (¬ NoFault s.sched ∨ ¬ NoSeekFault s.seeks)) := by
  unfold probe
  rcases seekTo_cases s (10 + id3Size buf) with ⟨s3, h3, d3, p3, c3, _⟩ | ⟨_, h3, hbad⟩
  · rw [h3]; dsimp only
    have hD : s.data.drop (10 + id3Size buf) = s3.rest := by rw [St.rest, d3, p3]
    rw [C2pa.C11.sliceEq_mFLaC, hD]
    rcases readExact_reads s3 4 with ⟨_, hre, hbad⟩ | ⟨_, hre, hlt⟩ | ⟨m, _, hre, r, hl⟩ <;>
      rw [hre]
    · right; exact ⟨rfl, Or.inl (c3 ▸ hbad)⟩
    · -- fewer than four bytes are not `fLaC`
      left
      have hne : s3.rest.take 4 ≠ mFLaC := fun heq => by
        have := congrArg List.length heq
        rw [List.length_take] at this
        exact absurd this (by show min 4 _ ≠ 4; omega)
      rw [beq_eq_false_iff_ne.2 hne]
    · left; rw [r.rest, List.take_left' hl]
  · rw [h3]; right; exact ⟨rfl, Or.inr hbad⟩

/-- The sniff under every read schedule and every seek schedule: the full-read
detection; or nothing, because an I/O operation failed; or — the one hidden error — `mp3` for a
FLAC stream behind an ID3 tag, because the probe's seek or read failed (`unwrap_or(false)`). -/
theorem sniff_cases (pdf : Bool) (data : List UInt8) (sched : List Ev) (seeks : List Bool) :
    sniff pdf data sched seeks = detect pdf data
    ∨ (sniff pdf data sched seeks = none ∧ (¬ NoFault sched ∨ ¬ NoSeekFault seeks))
    ∨ (id3Reached pdf (data.take 16) = true ∧ sniff pdf data sched seeks = some lMp3 ∧
        detect pdf data = some lFlac ∧ (¬ NoFault sched ∨ ¬ NoSeekFault seeks)) := by
  unfold sniff
  rcases seekTo_cases { data := data, pos := 0, sched := sched, seeks := seeks } 0 with
    ⟨s0, h0, d0, p0, c0, k0⟩ | ⟨_, h0, hbad⟩
  · rw [h0]; dsimp only
    simp only at d0 c0 k0   -- reduces the projections of the initial state `{ data := data, … }`
    rcases fill_cases s0 16 with ⟨_, hf, hbad⟩ | ⟨s1, hf, r⟩
    · rw [hf]; right; left; exact ⟨rfl, Or.inl (by rw [← c0]; exact hbad)⟩
    · rw [St.rest, d0, p0, List.drop_zero] at hf
      rw [hf]; dsimp only
      rcases seekTo_cases s1 0 with ⟨s2, h2, d2, _, c2, k2⟩ | ⟨_, h2, hbad⟩
      · rw [h2]; dsimp only
        have hsched : NoFault sched → NoFault s2.sched := by
          intro hn; rw [c2]; exact r.noFault (c0 ▸ hn)
        have hseeks : NoSeekFault seeks → NoSeekFault s2.seeks := by
          intro hn; exact k2 (by rw [r.seeks]; exact k0 hn)
        have hdata : s2.data = data := by rw [d2, r.data, d0]
        by_cases hr : id3Reached pdf (data.take 16) = true
        · rw [if_pos hr]
          rcases probe_cases s2 (data.take 16) with hp | ⟨hp, hbad⟩
          · rw [hp, hdata]; left; rfl
          · rw [hp]; dsimp only
            by_cases hflac : sliceEq data (10 + id3Size (data.take 16)) mFLaC = true
            · right; right
              refine ⟨hr, ?_, ?_, ?_⟩
              · rw [detectB_reached pdf _ false hr]; rfl
              · unfold detect; rw [hflac, detectB_reached pdf _ true hr]; rfl
              · rcases hbad with hb | hb
                · exact Or.inl fun hn => hb (hsched hn)
                · exact Or.inr fun hn => hb (hseeks hn)
            · left
              unfold detect
              rw [Bool.not_eq_true] at hflac
              rw [hflac]
        · rw [if_neg hr]; left
          unfold detect
          rw [Bool.not_eq_true] at hr
          exact (detectB_not_reached pdf _ _ hr).symm
      · rw [h2]; right; left
        exact ⟨rfl, Or.inr fun hn => hbad (by rw [r.seeks]; exact k0 hn)⟩
  · rw [h0]; right; left; exact ⟨rfl, Or.inr hbad⟩

/-- **Sniffing does not depend on chunking**: without a hard read fault and without a failing
seek (any short reads, `Interrupted` anywhere) the detected container is the one detected from
the whole byte string (C11's `detect`). -/
theorem sniff_chunk_independent (pdf : Bool) (data : List UInt8) (sched : List Ev)
    (seeks : List Bool) (hn : NoFault sched) (hs : NoSeekFault seeks) :
    sniff pdf data sched seeks = detect pdf data := by
  rcases sniff_cases pdf data sched seeks with h | ⟨_, h | h⟩ | ⟨_, _, _, h | h⟩
  · exact h
  · exact absurd hn h
  · exact absurd hs h
  · exact absurd hn h
  · exact absurd hs h

/-- **A fault never yields a foreign container**: under every read and seek schedule the sniff
returns nothing, or the full-read detection, or — ID3 header, probe failed — `mp3`. A partially
filled or zero-padded buffer is never matched against the magics. -/
theorem sniff_fault_outcomes (pdf : Bool) (data : List UInt8) (sched : List Ev) (seeks : List Bool) :
    sniff pdf data sched seeks = none ∨ sniff pdf data sched seeks = detect pdf data
      ∨ (isId3 (data.take 16) = true ∧ detect pdf data = some lFlac
          ∧ sniff pdf data sched seeks = some lMp3) := by
  rcases sniff_cases pdf data sched seeks with h | ⟨h, _⟩ | ⟨hr, h, hd, _⟩
  · exact Or.inr (Or.inl h)
  · exact Or.inl h
  · refine Or.inr (Or.inr ⟨?_, hd, h⟩)
    unfold id3Reached at hr
    simp only [Bool.and_eq_true] at hr
    exact hr.2

/-- **A hard read fault while filling the sniff buffer is "nothing detected"**, never a format:
the reads before the failing one cannot fill the 16 bytes nor reach the end of the data. -/
theorem sniff_read_fault_is_none (pdf : Bool) (data : List UInt8) (pre post : List Ev)
    (seeks : List Bool) (hn : NoFault pre) (hb : budget pre < 16) (hd : budget pre < data.length) :
    sniff pdf data (pre ++ Ev.rd 0 :: post) seeks = none := by
  unfold sniff
  rcases seekTo_cases { data := data, pos := 0, sched := pre ++ Ev.rd 0 :: post, seeks := seeks } 0
    with ⟨s0, h0, d0, p0, c0, _⟩ | ⟨_, h0, _⟩
  · rw [h0]; dsimp only
    have := fill_fault_reached pre post s0 16 c0 hn hb (by rw [d0, p0]; simpa using hd)
    cases hf : fill s0 16 with
    | mk r s1 =>
      rw [hf] at this
      simp only at this   -- `(r, s1).1` to `r`
      subst this
      rfl
  · rw [h0]

/-- The full statement for the sniff: an I/O error is never turned into a detection. -/
def SniffFaultNeverHidden : Prop :=
  ∀ (pdf : Bool) (data : List UInt8) (sched : List Ev) (seeks : List Bool),
    sniff pdf data sched seeks = none ∨ sniff pdf data sched seeks = detect pdf data

/-- **Witness — the code falsifies the full statement**: a FLAC stream behind an ID3v2 tag whose
probe read fails (or whose probe seek fails) is reported as `mp3`. Replayed on
`container_from_stream` by the harness (class `sniff-id3-probe-error-hidden`). -/
theorem sniff_id3_fault_hidden :
    ∃ (data : List UInt8) (sched : List Ev) (seeks : List Bool),
      detect false data = some lFlac ∧ sniff false data sched seeks = some lMp3 :=
  ⟨[0x49, 0x44, 0x33, 4, 0, 0, 0, 0, 0, 2, 0x78, 0x78, 0x66, 0x4c, 0x61, 0x43],
    [Ev.rd 16, Ev.rd 0], [], by decide +kernel⟩

theorem sniff_id3_seek_fault_hidden :
    detect false [0x49, 0x44, 0x33, 4, 0, 0, 0, 0, 0, 2, 0x78, 0x78, 0x66, 0x4c, 0x61, 0x43] = some lFlac
    ∧ sniff false [0x49, 0x44, 0x33, 4, 0, 0, 0, 0, 0, 2, 0x78, 0x78, 0x66, 0x4c, 0x61, 0x43] []
        [false, false, true] = some lMp3 := by decide +kernel

theorem sniff_fault_never_hidden_false : ¬ SniffFaultNeverHidden := by
  intro h
  have := h false [0x49, 0x44, 0x33, 4, 0, 0, 0, 0, 0, 2, 0x78, 0x78, 0x66, 0x4c, 0x61, 0x43]
    [Ev.rd 16, Ev.rd 0] []
  revert this
  decide +kernel

/-! ### `format_from_stream` -/

/-- Chunking does not change the resolved format. -/
theorem format_chunk_independent (pdf : Bool) (hinted : Option Fmt) (hint : Fmt)
    (data : List UInt8) (sched : List Ev) (seeks : List Bool)
    (hn : NoFault sched) (hs : NoSeekFault seeks) :
    formatFromStream pdf hinted hint data sched seeks = reconcile hinted hint (detect pdf data) := by
  unfold formatFromStream; rw [sniff_chunk_independent pdf data sched seeks hn hs]

/-- Every read/seek schedule: the fault-free answer, or the caller's hint (the sniff's I/O error
became "nothing detected"), or the answer for `mp3` on a FLAC-behind-ID3 stream. -/
theorem format_outcomes_partial (pdf : Bool) (hinted : Option Fmt) (hint : Fmt)
    (data : List UInt8) (sched : List Ev) (seeks : List Bool) :
    formatFromStream pdf hinted hint data sched seeks = reconcile hinted hint (detect pdf data)
    ∨ (formatFromStream pdf hinted hint data sched seeks = hint
        ∧ (¬ NoFault sched ∨ ¬ NoSeekFault seeks))
    ∨ (formatFromStream pdf hinted hint data sched seeks = reconcile hinted hint (some lMp3)
        ∧ detect pdf data = some lFlac ∧ (¬ NoFault sched ∨ ¬ NoSeekFault seeks)) := by
  unfold formatFromStream
  rcases sniff_cases pdf data sched seeks with h | ⟨h, hb⟩ | ⟨_, h, hd, hb⟩
  · exact Or.inl (by rw [h])
  · refine Or.inr (Or.inl ⟨?_, hb⟩)
    rw [h]; unfold reconcile; cases hinted <;> rfl
  · exact Or.inr (Or.inr ⟨by rw [h], hd, hb⟩)

/-- The full statement for `format_from_stream` (which returns a `String` and so cannot report an
error): an I/O fault does not change the resolved format. -/
def FormatFaultTransparent : Prop :=
  ∀ (pdf : Bool) (hinted : Option Fmt) (hint : Fmt) (data : List UInt8) (sched : List Ev)
    (seeks : List Bool),
    formatFromStream pdf hinted hint data sched seeks = reconcile hinted hint (detect pdf data)

/-- **Witness — `format_from_stream` hides a sniff I/O error**: JPEG bytes, hint `png`, the first
read fails: the answer is the hint `png` (fault-free: `jpg`). Replayed by the harness; end to end
this is the open finding `transient-io-absorbed:jumbf_io::format_from_stream…`. -/
theorem format_hides_sniff_fault :
    ¬ NoFault [Ev.rd 0]
    ∧ formatFromStream false (some C2pa.C11.lPng) C2pa.C11.lPng [0xff, 0xd8, 0xff, 0xe0] [Ev.rd 0] []
        = C2pa.C11.lPng
    ∧ reconcile (some C2pa.C11.lPng) C2pa.C11.lPng (detect false [0xff, 0xd8, 0xff, 0xe0])
        = C2pa.C11.lJpg := by
  refine ⟨fun h => h (Ev.rd 0) List.mem_cons_self rfl, by decide +kernel, by decide +kernel⟩

theorem format_fault_transparent_false : ¬ FormatFaultTransparent := by
  intro h
  have := h false (some C2pa.C11.lPng) C2pa.C11.lPng [0xff, 0xd8, 0xff, 0xe0] [Ev.rd 0] []
  revert this
  decide +kernel

/-! ### Non-vacuity -/
example : NoFault [Ev.rd 1, Ev.intr, Ev.rd 3, Ev.rd 2] := by
  intro e he; simp at he; rcases he with rfl | rfl | rfl | rfl <;> simp
example : NoSeekFault [false, false] := by intro x hx; simpa using hx
example : sniff true [0xff, 0xd8, 0xff, 0xe0, 0, 16] [.rd 1, .intr, .rd 1, .rd 1, .rd 1, .rd 1, .rd 1] []
    = some C2pa.C11.lJpg := by decide +kernel
example : sniff true [0xff, 0xd8, 0xff, 0xe0, 0, 16] [.rd 1, .rd 0] [] = none := by decide +kernel
example : sniff true [0xff, 0xd8, 0xff, 0xe0, 0, 16] [] [false, true] = none := by decide +kernel
-- fault-reached hypotheses are satisfiable: two 1-byte reads, then the failing one
example : budget [Ev.rd 1, Ev.intr, Ev.rd 1] < 16 ∧ NoFault [Ev.rd 1, Ev.intr, Ev.rd 1] := by
  refine ⟨by decide, ?_⟩
  intro e he; simp at he; rcases he with rfl | rfl | rfl <;> simp
example : readToVec [1, 2, 3, 4, 5] 1 3 [.rd 1, .intr, .rd 5] [false] = some [2, 3, 4] := by decide +kernel
example : readToVec [1, 2, 3, 4, 5] 1 3 [.rd 1, .rd 0] [] = none := by decide +kernel
example : readToVec [1, 2, 3, 4, 5] 1 3 [.rd 3, .rd 0] [] = some [2, 3, 4] := by decide +kernel
example : readToVec [1, 2, 3, 4, 5] 1 3 [] [false, false, true] = none := by decide +kernel
example : readHeader [0, 0, 0, 12, 0x6a, 0x75, 0x6d, 0x62, 9] 0 [.rd 3, .intr, .rd 2] = some (.ok 0x6A756D62 12) := by
  decide +kernel
example : readHeader [7, 0, 0, 0, 12, 0x6a, 0x75, 0x6d, 0x62] 1 [.rd 3, .rd 0] = none := by decide +kernel
example : id3Reached false [0x49, 0x44, 0x33, 4, 0, 0, 0, 0, 0, 2, 0x78, 0x78, 0x66, 0x4c, 0x61, 0x43] = true := by
  decide +kernel

end C2pa.C35
