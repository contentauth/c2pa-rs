import C2paModel.Model.C06
import C2paModel.Props.C04
/-
C06 — property theorems. The statement (properties.jsonl):

  If the signing certificate violates the C2PA certificate profile (not X.509 v3, CA certificate,
  self-signed, unsupported signature algorithm or curve, RSA key under 2048 bits, issuer/subject
  unique IDs, missing or disallowed key usage/EKU, unhandled critical extension, or not valid at
  the signing time), the manifest is never reported Valid or Trusted and a signingCredential
  failure code is reported. A conforming certificate is never flagged by these checks.

All theorems quantify over every `CertFacts` value (any extension list, any EKU set, any times)
and every `Env` (time stamp or not, any clock, any EKU configuration).

In order: the extension loop in closed form and the wrapper that reports every rejection of the
inner check; `Conforming` (the profile as the code enforces it) ⇔ accepted, and for each violation
one `…_rejected` theorem; `signingCredential.expired` for the window only; the statement's list of
violations as one predicate
(`StatementViolation`, with `StructuralDefect` for what the code rejects beyond it) ⇔ flagged; the
digitalSignature rule the code does not enforce; validity window and time stamp; composition with C04 (rejected ⇒
Invalid, the state of the signature step, where the two trust verdict codes occur — for Props/C05);
which failure is reported (frame lemmas, one `…_only_code` theorem per log statement); the ignore
mode.
-/
namespace C2pa.C06

def isAki (e : Ext) : Bool := match e.kind with | .aki => true | _ => false
def isSki (e : Ext) : Bool := match e.kind with | .ski => true | _ => false
def kuCertSign (e : Ext) : Bool := match e.kind with | .keyUsage _ kcs _ => kcs | _ => false
/-- a keyUsage extension asserting one of the bits the code counts as usable -/
def kuUsable (e : Ext) : Bool := match e.kind with | .keyUsage ds kcs nr => ds || kcs || nr | _ => false
def kuDigitalSignature (e : Ext) : Bool := match e.kind with | .keyUsage ds _ _ => ds | _ => false
def isKeyUsage (e : Ext) : Bool := match e.kind with | .keyUsage .. => true | _ => false
def unhandledCritical (e : Ext) : Bool := match e.kind with | .other => e.critical | _ => false

theorem extStep_spec (isCa : Bool) (fl : Flags) (e : Ext) :
    extStep isCa fl e =
      if kuCertSign e && !isCa then none
      else some { aki := fl.aki || isAki e, ski := fl.ski || isSki e,
                  keyUsage := fl.keyUsage || kuUsable e,
                  handledAllCritical := fl.handledAllCritical && !unhandledCritical e } := by
  obtain ⟨kind, crit⟩ := e
  obtain ⟨a, s, k, h⟩ := fl
  cases kind with
  | keyUsage ds kcs nr =>
    cases ds <;> cases kcs <;> cases nr <;>
      simp [extStep, kuCertSign, isAki, isSki, kuUsable, unhandledCritical]
  | other => cases crit <;> simp [extStep, kuCertSign, isAki, isSki, kuUsable, unhandledCritical]
  | _ => simp [extStep, kuCertSign, isAki, isSki, kuUsable, unhandledCritical]

/-- The loop, for every extension list: it aborts exactly when some keyUsage extension
asserts keyCertSign on a non-CA certificate; otherwise the flags are the obvious `any`s. -/
theorem extLoop_spec (isCa : Bool) : ∀ (es : List Ext) (fl : Flags),
    extLoop isCa es fl =
      if es.any (fun e => kuCertSign e && !isCa) then none
      else some { aki := fl.aki || es.any isAki, ski := fl.ski || es.any isSki,
                  keyUsage := fl.keyUsage || es.any kuUsable,
                  handledAllCritical := fl.handledAllCritical && !es.any unhandledCritical } := by
  intro es
  induction es with
  | nil => intro fl; simp [extLoop]
  | cons e es ih =>
    intro fl
    rw [extLoop, extStep_spec]
    cases h : kuCertSign e && !isCa
    · simp [h, ih, Bool.or_assoc, Bool.and_assoc, Bool.not_or]
    · simp [h]

/-- The certificate profile as the code enforces it, stated over the decoded facts. (No rule about
the subject key identifier: the code demands one of CA certificates only, see `ca_only_code`.) -/
structure Conforming (env : Env) (f : CertFacts) : Prop where
  parses : f.parses = true
  v3 : f.version = 2
  notBefore : f.notBefore ≤ signingTime env
  notAfter : signingTime env ≤ f.notAfter
  sigAlg : f.sigAlg ≠ .other
  pss : f.sigAlg = .pss → ∃ h, f.pss = .params h true ∧ h ≠ .other
  curve : f.spkiAlg = .ec → f.ecParams = .p256 ∨ f.ecParams = .p384 ∨ f.ecParams = .p521
  rsa : f.spkiAlg = .rsa ∨ f.spkiAlg = .rsapss → f.rsaKeyOk = true ∧ 2048 ≤ f.rsaBits
  noDuplicateExt : f.dupExt = false
  notSelfSigned : f.issuerEqSubject = false
  noIssuerUid : f.issuerUid = false
  noSubjectUid : f.subjectUid = false
  notCa : f.isCa = false
  eku : ∃ e, f.eku = .some e ∧ e.any = false ∧ hasAllowedEku env.allowedEkus e = true ∧ badEkuSet e = false
  noCertSign : ∀ x ∈ f.exts, kuCertSign x = false
  aki : ∃ x ∈ f.exts, isAki x = true
  keyUsage : ∃ x ∈ f.exts, kuUsable x = true
  noUnhandledCritical : ∀ x ∈ f.exts, unhandledCritical x = false

/-- What `check_certificate_profile` makes of an `Err` of the inner function: the logged failure,
or — for a rejection that returned without logging — the wrapper's `signingCredential.invalid`. -/
def Rej.report (r : Rej) : Res :=
  match r.logged with
  | some (c, rl) => .err r.kind c rl
  | none => .err r.kind .invalid .unlogged

theorem checkEndEntity_of_inner (env : Env) (f : CertFacts) (r : Rej) (h : checkInner env f = some r) :
    checkEndEntity env f = r.report := by
  unfold checkEndEntity checkProfile
  rw [h]
  obtain ⟨k, _ | ⟨c, rl⟩⟩ := r <;> rfl

/-! `checkEndEntity_of_inner` with `report` computed, for the two forms of rejection: from a wanted
`.err k c rl` alone `r` cannot be found by unification. -/

theorem checkEndEntity_of_rej {env : Env} {f : CertFacts} {k : ErrKind} {c : Code} {rl : Rule}
    (h : checkInner env f = some (rej k c rl)) : checkEndEntity env f = .err k c rl :=
  checkEndEntity_of_inner env f _ h

theorem checkEndEntity_of_silent {env : Env} {f : CertFacts} {k : ErrKind}
    (h : checkInner env f = some (silent k)) : checkEndEntity env f = .err k .invalid .unlogged :=
  checkEndEntity_of_inner env f _ h

/-- **No silent rejection**: whatever the inner check rejects — with or without a log statement
of its own — the public function reports the same error kind together with a
`signingCredential.*` failure; the wrapper's catch-all supplies `signingCredential.invalid` exactly
for the rejections that logged nothing. -/
theorem silent_rejection_still_logged (env : Env) (f : CertFacts) (r : Rej)
    (h : checkInner env f = some r) :
    ∃ c rl, checkEndEntity env f = .err r.kind c rl ∧
      (r.logged = some (c, rl) ∨ (r.logged = none ∧ c = .invalid ∧ rl = .unlogged)) := by
  rw [checkEndEntity_of_inner env f r h]
  obtain ⟨k, _ | ⟨c, rl⟩⟩ := r
  · exact ⟨.invalid, .unlogged, rfl, Or.inr ⟨rfl, rfl, rfl⟩⟩
  · exact ⟨c, rl, rfl, Or.inl rfl⟩

/-- One step of a cascade of tests: it passes exactly when the first test does not fire and the
rest passes. The blocks are such cascades (`x` a rejection, `y` the passing value), so each passes
exactly when none of its tests fires; no truth table is needed. -/
theorem ite_eq_iff_of_ne {α} {c : Prop} [Decidable c] {x b y : α} (h : x ≠ y) :
    (if c then x else b) = y ↔ ¬c ∧ b = y := by
  by_cases hc : c <;> simp [hc, h]

theorem checkEndEntity_of_inner_none (env : Env) (f : CertFacts) (h : checkInner env f = none) :
    checkEndEntity env f =
      if !f.parses then .err .invalidCertificate .invalid .parse
      else if f.isCa then .err .invalidCertificate .invalid .endEntityIsCa
      else .ok := by
  unfold checkEndEntity checkProfile
  rw [h]

/-- The second `from_der` of the public function cannot fail once the inner function has passed
(`headCheck_none_iff`); the model keeps the test as the code does, hence `f.parses = true` here. -/
theorem checkEndEntity_ok_iff_inner (env : Env) (f : CertFacts) :
    checkEndEntity env f = .ok ↔ checkInner env f = none ∧ f.parses = true ∧ f.isCa = false := by
  cases h : checkInner env f with
  | none => rw [checkEndEntity_of_inner_none env f h]; simp [ite_eq_iff_of_ne]
  | some r =>
    rw [checkEndEntity_of_inner env f r h]
    obtain ⟨k, _ | ⟨c, rl⟩⟩ := r <;> simp [Rej.report]

theorem checkInner_eq_some_iff {env : Env} {g : CertFacts} {r : Rej} :
    checkInner env g = some r ↔
      headCheck env g = some r ∨ headCheck env g = none ∧ (pssCheck g = some r ∨ pssCheck g = none ∧
        (curveCheck g = some r ∨ curveCheck g = none ∧ (rsaCheck g = some r ∨ rsaCheck g = none ∧
          (idCheck g = some r ∨ idCheck g = none ∧ tailCheck env g = some r)))) := by
  simp only [checkInner, Option.or_eq_some_iff]

theorem validAt_iff (f : CertFacts) (t : Int) : validAt f t = true ↔ f.notBefore ≤ t ∧ t ≤ f.notAfter := by
  simp [validAt]

theorem headCheck_none_iff (env : Env) (f : CertFacts) :
    headCheck env f = none ↔
      f.parses = true ∧ f.version = 2 ∧ validAt f (signingTime env) = true ∧ f.sigAlg ≠ .other := by
  have hs : sigAlgAccepted f.sigAlg = true ↔ f.sigAlg ≠ .other := by
    cases f.sigAlg <;> simp [sigAlgAccepted]
  simp only [headCheck, ite_eq_iff_of_ne, ne_eq, reduceCtorEq, not_false_eq_true, Bool.not_eq_eq_eq_not,
    Bool.not_true, Bool.not_eq_false, Decidable.not_not, and_true, hs]

theorem pssCheck_none_iff (f : CertFacts) :
    pssCheck f = none ↔ (f.sigAlg = .pss → ∃ h, f.pss = .params h true ∧ h ≠ .other) := by
  have hm : ∀ h, hashMandatory h = true ↔ h ≠ .other := fun h => by cases h <;> simp [hashMandatory]
  unfold pssCheck
  cases f.pss <;> simp [ite_eq_iff_of_ne, hm, and_assoc]

theorem curveCheck_none_iff (f : CertFacts) :
    curveCheck f = none ↔
      (f.spkiAlg = .ec → f.ecParams = .p256 ∨ f.ecParams = .p384 ∨ f.ecParams = .p521) := by
  unfold curveCheck
  cases f.ecParams <;> simp [curveAccepted]

theorem rsaCheck_none_iff (f : CertFacts) :
    rsaCheck f = none ↔
      (f.spkiAlg = .rsa ∨ f.spkiAlg = .rsapss → f.rsaKeyOk = true ∧ 2048 ≤ f.rsaBits) := by
  simp [rsaCheck, ite_eq_iff_of_ne]

theorem idCheck_none_iff (f : CertFacts) :
    idCheck f = none ↔
      f.dupExt = false ∧ f.issuerEqSubject = false ∧ f.issuerUid = false ∧ f.subjectUid = false := by
  simp only [idCheck, ite_eq_iff_of_ne, ne_eq, reduceCtorEq, not_false_eq_true, Bool.not_eq_true,
    Bool.or_eq_true, not_or, and_true]

theorem not_any_iff {α} (l : List α) (p : α → Bool) : l.any p = false ↔ ∀ x ∈ l, p x = false := by
  simp only [List.any_eq_false, Bool.not_eq_true]

theorem forall_false_iff_not_exists {α} {l : List α} {p : α → Bool} :
    (∀ x ∈ l, p x = false) ↔ ¬ ∃ x ∈ l, p x = true := by
  rw [← not_any_iff, ← List.any_eq_true, Bool.not_eq_true]

theorem exists_iff_not_forall_false {α} {l : List α} {p : α → Bool} :
    (∃ x ∈ l, p x = true) ↔ ¬ ∀ x ∈ l, p x = false := by
  rw [← not_any_iff, ← List.any_eq_true, Bool.not_eq_false]

theorem extPart_nonCa (g : CertFacts) (hca : g.isCa = false) (b : Bool) :
    extPart g b =
      if g.exts.any kuCertSign then some (rej .invalidCertificate .invalid .kuCertSign)
      else if g.exts.any isAki && g.exts.any kuUsable && b && !g.exts.any unhandledCritical then none
      else some (rej .invalidCertificate .invalid .params) := by
  unfold extPart
  rw [extLoop_spec, hca]
  simp only [Bool.not_false, Bool.and_true]
  cases g.exts.any kuCertSign
  · simp only [Bool.false_eq_true, if_false, finalFlags, hca, Bool.false_or, Bool.true_and, Bool.and_true]
  · rfl

theorem ekuGood_ok_true_iff (env : Env) (f : CertFacts) (hca : f.isCa = false) :
    ekuGood env f = .ok true ↔
      ∃ e, f.eku = .some e ∧ e.any = false ∧ hasAllowedEku env.allowedEkus e = true ∧ badEkuSet e = false := by
  unfold ekuGood
  cases f.eku <;> simp [hca, ite_eq_iff_of_ne]

theorem tailCheck_none_iff (env : Env) (f : CertFacts) (hca : f.isCa = false) :
    tailCheck env f = none ↔
    (∃ e, f.eku = .some e ∧ e.any = false ∧ hasAllowedEku env.allowedEkus e = true ∧ badEkuSet e = false) ∧
    (∀ x ∈ f.exts, kuCertSign x = false) ∧ (∃ x ∈ f.exts, isAki x = true) ∧
    (∃ x ∈ f.exts, kuUsable x = true) ∧ (∀ x ∈ f.exts, unhandledCritical x = false) := by
  rw [← ekuGood_ok_true_iff env f hca, ← not_any_iff, ← List.any_eq_true, ← List.any_eq_true, ← not_any_iff]
  unfold tailCheck
  cases ekuGood env f with
  | error r => simp
  | ok b =>
    simp only [Except.ok.injEq, extPart_nonCa f hca b]
    -- a truth table in the five Booleans
    generalize f.exts.any kuCertSign = cs, f.exts.any isAki = a, f.exts.any kuUsable = k,
      f.exts.any unhandledCritical = u
    revert b cs a k u
    decide

/-- **Accepted ⇔ conforming**: `check_end_entity_certificate_profile` returns `Ok` exactly for
the certificates that satisfy every rule, for every environment. -/
theorem accepted_iff_conforming (env : Env) (f : CertFacts) :
    checkEndEntity env f = .ok ↔ Conforming env f := by
  rw [checkEndEntity_ok_iff_inner]
  by_cases hca : f.isCa = false
  · -- block by block, `none` says what `Conforming` says
    simp only [checkInner, Option.or_eq_none_iff, headCheck_none_iff, validAt_iff, pssCheck_none_iff,
      curveCheck_none_iff, rsaCheck_none_iff, idCheck_none_iff, tailCheck_none_iff env f hca]
    exact
      ⟨fun ⟨⟨⟨_, hv, ⟨hnb, hna⟩, hs⟩, hpss, hcu, hr, ⟨hd, hss, hiu, hsu⟩, he, hcs, ha, hk, hu⟩, hp, _⟩ =>
        ⟨hp, hv, hnb, hna, hs, hpss, hcu, hr, hd, hss, hiu, hsu, hca, he, hcs, ha, hk, hu⟩,
      fun c => ⟨⟨⟨c.parses, c.v3, ⟨c.notBefore, c.notAfter⟩, c.sigAlg⟩, c.pss, c.curve, c.rsa,
        ⟨c.noDuplicateExt, c.notSelfSigned, c.noIssuerUid, c.noSubjectUid⟩, c.eku, c.noCertSign, c.aki,
        c.keyUsage, c.noUnhandledCritical⟩, c.parses, c.notCa⟩⟩
  · exact ⟨fun h => absurd h.2.2 hca, fun c => absurd c.notCa hca⟩

/-- **A conforming certificate is never flagged.** -/
theorem conforming_accepted (env : Env) (f : CertFacts) (h : Conforming env f) :
    checkEndEntity env f = .ok := (accepted_iff_conforming env f).2 h

theorem rejected_of_not_conforming (env : Env) (f : CertFacts) (h : ¬ Conforming env f) :
    (checkEndEntity env f).rejected = true := by
  cases hr : checkEndEntity env f with
  | ok => exact absurd ((accepted_iff_conforming env f).1 hr) h
  | err k c r => rfl

theorem unparseable_rejected (env f) (h : f.parses = false) : (checkEndEntity env f).rejected = true :=
  rejected_of_not_conforming env f (fun c => by rw [c.parses] at h; cases h)

theorem not_v3_rejected (env f) (h : f.version ≠ 2) : (checkEndEntity env f).rejected = true :=
  rejected_of_not_conforming env f (fun c => h c.v3)

theorem ca_certificate_rejected (env f) (h : f.isCa = true) : (checkEndEntity env f).rejected = true :=
  rejected_of_not_conforming env f (fun c => by rw [c.notCa] at h; cases h)

theorem self_signed_rejected (env f) (h : f.issuerEqSubject = true) : (checkEndEntity env f).rejected = true :=
  rejected_of_not_conforming env f (fun c => by rw [c.notSelfSigned] at h; cases h)

theorem unsupported_signature_algorithm_rejected (env f) (h : f.sigAlg = .other) :
    (checkEndEntity env f).rejected = true :=
  rejected_of_not_conforming env f (fun c => c.sigAlg h)

/-- RSASSA-PSS with absent / undecodable parameters, a non-mandatory hash, or an MGF hash that
differs from the message hash. -/
theorem unsupported_pss_parameters_rejected (env f) (hs : f.sigAlg = .pss)
    (h : ∀ hh, f.pss = .params hh true → hh = .other) : (checkEndEntity env f).rejected = true :=
  rejected_of_not_conforming env f (fun c => by
    obtain ⟨hh, hp, hne⟩ := c.pss hs
    exact hne (h hh hp))

theorem unsupported_curve_rejected (env f) (hs : f.spkiAlg = .ec)
    (h : f.ecParams ≠ .p256 ∧ f.ecParams ≠ .p384 ∧ f.ecParams ≠ .p521) :
    (checkEndEntity env f).rejected = true :=
  rejected_of_not_conforming env f (fun c => by
    rcases c.curve hs with h1 | h1 | h1
    · exact h.1 h1
    · exact h.2.1 h1
    · exact h.2.2 h1)

theorem short_rsa_key_rejected (env f) (hs : f.spkiAlg = .rsa ∨ f.spkiAlg = .rsapss) (h : f.rsaBits < 2048) :
    (checkEndEntity env f).rejected = true :=
  rejected_of_not_conforming env f (fun c => by have := (c.rsa hs).2; omega)

theorem unique_id_rejected (env f) (h : f.issuerUid = true ∨ f.subjectUid = true) :
    (checkEndEntity env f).rejected = true :=
  rejected_of_not_conforming env f (fun c => by
    rcases h with h | h
    · rw [c.noIssuerUid] at h; cases h
    · rw [c.noSubjectUid] at h; cases h)

theorem duplicate_extension_rejected (env f) (h : f.dupExt = true) : (checkEndEntity env f).rejected = true :=
  rejected_of_not_conforming env f (fun c => by rw [c.noDuplicateExt] at h; cases h)

theorem key_usage_without_usable_bit_rejected (env f) (h : ∀ x ∈ f.exts, kuUsable x = false) :
    (checkEndEntity env f).rejected = true :=
  rejected_of_not_conforming env f fun c => exists_iff_not_forall_false.1 c.keyUsage h

theorem key_usage_missing_rejected (env f) (h : ∀ x ∈ f.exts, isKeyUsage x = false) :
    (checkEndEntity env f).rejected = true :=
  key_usage_without_usable_bit_rejected env f fun x hx => by
    have := h x hx
    unfold isKeyUsage at this
    unfold kuUsable
    cases hk : x.kind <;> simp [hk] at this ⊢

theorem key_cert_sign_rejected (env f) (h : ∃ x ∈ f.exts, kuCertSign x = true) :
    (checkEndEntity env f).rejected = true :=
  rejected_of_not_conforming env f fun c => forall_false_iff_not_exists.1 c.noCertSign h

theorem Conforming.ekuOf {env : Env} {f : CertFacts} (c : Conforming env f) {e : Eku} (h : f.eku = .some e) :
    e.any = false ∧ hasAllowedEku env.allowedEkus e = true ∧ badEkuSet e = false := by
  obtain ⟨e', he, h'⟩ := c.eku
  rw [h] at he; cases he; exact h'

theorem eku_missing_rejected (env f) (h : f.eku = .none) : (checkEndEntity env f).rejected = true :=
  rejected_of_not_conforming env f (fun c => by
    obtain ⟨e, he, _⟩ := c.eku
    rw [h] at he; cases he)

theorem eku_undecodable_rejected (env f) (h : f.eku = .err) : (checkEndEntity env f).rejected = true :=
  rejected_of_not_conforming env f (fun c => by
    obtain ⟨e, he, _⟩ := c.eku
    rw [h] at he; cases he)

theorem eku_any_rejected (env f e) (h : f.eku = .some e) (ha : e.any = true) :
    (checkEndEntity env f).rejected = true :=
  rejected_of_not_conforming env f fun c => Bool.eq_false_iff.1 (c.ekuOf h).1 ha

/-- No accepted purpose: none of emailProtection / timeStamping / OCSPSigning and no OID of the
configured list. -/
theorem eku_not_accepted_rejected (env f e) (h : f.eku = .some e)
    (h1 : e.emailProtection = false) (h2 : e.timeStamping = false) (h3 : e.ocspSigning = false)
    (h4 : ∀ o ∈ e.other, o ∉ env.allowedEkus) : (checkEndEntity env f).rejected = true := by
  refine rejected_of_not_conforming env f fun c => Bool.eq_false_iff.1 ?_ (c.ekuOf h).2.1
  unfold hasAllowedEku
  rw [h1, h2, h3]
  simpa [not_any_iff] using h4

/-- timeStamping / OCSPSigning mixed with each other or with any other purpose. -/
theorem eku_exclusive_purpose_mixed_rejected (env f e) (h : f.eku = .some e) (hb : badEkuSet e = true) :
    (checkEndEntity env f).rejected = true :=
  rejected_of_not_conforming env f fun c => Bool.eq_false_iff.1 (c.ekuOf h).2.2 hb

theorem unhandled_critical_extension_rejected (env f) (h : ∃ x ∈ f.exts, unhandledCritical x = true) :
    (checkEndEntity env f).rejected = true :=
  rejected_of_not_conforming env f fun c => forall_false_iff_not_exists.1 c.noUnhandledCritical h

theorem authority_key_identifier_missing_rejected (env f) (h : ∀ x ∈ f.exts, isAki x = false) :
    (checkEndEntity env f).rejected = true :=
  rejected_of_not_conforming env f fun c => exists_iff_not_forall_false.1 c.aki h

theorem not_valid_at_signing_time_rejected (env f)
    (h : signingTime env < f.notBefore ∨ f.notAfter < signingTime env) :
    (checkEndEntity env f).rejected = true :=
  rejected_of_not_conforming env f (fun c => by
    have := c.notBefore; have := c.notAfter; omega)

/-! ### `signingCredential.expired`: the validity window and nothing else -/

/-- No log statement other than the validity-window one uses `signingCredential.expired`: every
block after the head one is a cascade whose leaves are `rej _ .invalid _`, `silent _` or `none`, so
(`ite_eq_iff_of_ne`) none of them yields a rejection that logged `.expired`. -/
theorem later_blocks_notExpired (env : Env) (f : CertFacts) (k : ErrKind) (rl : Rule) :
    pssCheck f ≠ some ⟨k, some (.expired, rl)⟩ ∧ curveCheck f ≠ some ⟨k, some (.expired, rl)⟩ ∧
    rsaCheck f ≠ some ⟨k, some (.expired, rl)⟩ ∧ idCheck f ≠ some ⟨k, some (.expired, rl)⟩ ∧
    tailCheck env f ≠ some ⟨k, some (.expired, rl)⟩ := by
  refine ⟨?_, ?_, ?_, ?_, ?_⟩
  · cases hp : f.pss <;> simp [pssCheck, hp, rej, silent, ite_eq_iff_of_ne]
  · cases hp : f.ecParams <;> simp [curveCheck, hp, rej, silent, ite_eq_iff_of_ne]
  · simp [rsaCheck, rej, silent, ite_eq_iff_of_ne]
  · simp [idCheck, rej, ite_eq_iff_of_ne]
  · unfold tailCheck
    cases he : ekuGood env f with
    | error e =>
      rintro h
      cases h
      cases hp : f.eku <;> simp [ekuGood, hp, rej, silent, ite_eq_iff_of_ne] at he
    | ok b =>
      cases hp : extLoop f.isCa f.exts {} <;> simp [extPart, hp, finalFlags, rej, ite_eq_iff_of_ne]

/-- When the inner check logs `.expired`: exactly for a parseable v3 certificate outside its
validity window, by the window's log statement. -/
theorem checkInner_expired_iff (env : Env) (f : CertFacts) (k : ErrKind) (rl : Rule) :
    checkInner env f = some ⟨k, some (.expired, rl)⟩ ↔
      f.parses = true ∧ f.version = 2 ∧ validAt f (signingTime env) = false ∧
        k = .certificateNotValidAtTime ∧ rl = .expired := by
  obtain ⟨h2, h3, h4, h5, h6⟩ := later_blocks_notExpired env f k rl
  simp only [checkInner, Option.or_eq_some_iff, h2, h3, h4, h5, h6, and_false, or_false]
  -- the head block: the parse and version leaves are not it, then the window test decides
  unfold headCheck
  rw [ite_eq_iff_of_ne (by simp [rej]), ite_eq_iff_of_ne (by simp [rej])]
  cases validAt f (signingTime env) <;>
    simp [rej, ite_eq_iff_of_ne, eq_comm (a := k), eq_comm (a := rl)]

/-- For a parseable v3 certificate outside its validity window the window's log statement is the
one that fires: `signingCredential.expired`. The converse is `expired_code_only_for_window`. -/
theorem not_valid_at_signing_time_code (env f) (hp : f.parses = true) (hv : f.version = 2)
    (h : signingTime env < f.notBefore ∨ f.notAfter < signingTime env) :
    checkEndEntity env f = .err .certificateNotValidAtTime .expired .expired :=
  have hva : validAt f (signingTime env) = false :=
    Bool.eq_false_iff.2 fun hva => by have := (validAt_iff _ _).1 hva; omega
  checkEndEntity_of_rej ((checkInner_expired_iff env f _ _).2 ⟨hp, hv, hva, rfl, rfl⟩)

/-- **`signingCredential.expired` is reported for the validity window only**: no other rule —
and no parse failure — ever yields that code. -/
theorem expired_code_only_for_window (env : Env) (f : CertFacts) (k : ErrKind) (r : Rule)
    (h : checkEndEntity env f = .err k .expired r) :
    f.parses = true ∧ f.version = 2 ∧ validAt f (signingTime env) = false ∧
      k = .certificateNotValidAtTime ∧ r = .expired := by
  cases hin : checkInner env f with
  | none =>
    rw [checkEndEntity_of_inner_none env f hin] at h
    simp [ite_eq_iff_of_ne] at h
  | some rj =>
    rw [checkEndEntity_of_inner env f rj hin] at h
    -- `rj.report` carries `.expired` only when `rj` logged it
    obtain ⟨k', _ | ⟨c, rl⟩⟩ := rj <;> cases h
    exact (checkInner_expired_iff env f _ _).1 hin

/-! ### Flagged ⇔ violating: the violations of the statement as one predicate -/

/-- The violations the property statement lists, over the decoded facts (the hypothesis of
`each_violation_rejected`). -/
def StatementViolation (env : Env) (f : CertFacts) : Prop :=
  f.version ≠ 2 ∨ f.isCa = true ∨ f.issuerEqSubject = true ∨ f.sigAlg = .other ∨
  (f.sigAlg = .pss ∧ ∀ hh, f.pss = .params hh true → hh = .other) ∨
  (f.spkiAlg = .ec ∧ f.ecParams ≠ .p256 ∧ f.ecParams ≠ .p384 ∧ f.ecParams ≠ .p521) ∨
  ((f.spkiAlg = .rsa ∨ f.spkiAlg = .rsapss) ∧ f.rsaBits < 2048) ∨
  f.issuerUid = true ∨ f.subjectUid = true ∨
  (∀ x ∈ f.exts, kuUsable x = false) ∨ (∃ x ∈ f.exts, kuCertSign x = true) ∨
  f.eku = .none ∨ f.eku = .err ∨
  (∃ e, f.eku = .some e ∧ (e.any = true ∨ hasAllowedEku env.allowedEkus e = false ∨ badEkuSet e = true)) ∨
  (∃ x ∈ f.exts, unhandledCritical x = true) ∨
  signingTime env < f.notBefore ∨ f.notAfter < signingTime env

/-- What the code rejects *beyond* the statement's list: bytes that are not a certificate, a
repeated extension, an RSA key that does not decode, no authority key identifier. -/
def StructuralDefect (f : CertFacts) : Prop :=
  f.parses = false ∨ f.dupExt = true ∨
  ((f.spkiAlg = .rsa ∨ f.spkiAlg = .rsapss) ∧ f.rsaKeyOk = false) ∨
  (∀ x ∈ f.exts, isAki x = false)

/-- **`Conforming` is the absence of every violation and defect.** With negation pushed inwards
each disjunct is a field of `Conforming` as it is written; only the curve, the RSA key and the EKU
need a step. -/
theorem conforming_iff_no_violation (env : Env) (f : CertFacts) :
    Conforming env f ↔ ¬ StatementViolation env f ∧ ¬ StructuralDefect f := by
  simp only [StatementViolation, StructuralDefect, not_or, ne_eq, Decidable.not_not, Bool.not_eq_true,
    Bool.not_eq_false, Int.not_lt, Nat.not_lt, not_and, Classical.not_forall, not_exists, exists_prop]
  constructor
  · intro c
    obtain ⟨e, he, hany, hal, hb⟩ := c.eku
    exact ⟨⟨c.v3, c.notCa, c.notSelfSigned, c.sigAlg, c.pss,
        fun hs h1 h2 => ((c.curve hs).resolve_left h1).resolve_left h2, fun hk => (c.rsa hk).2,
        c.noIssuerUid, c.noSubjectUid, c.keyUsage, c.noCertSign,
        (fun h => nomatch he.symm.trans h), (fun h => nomatch he.symm.trans h), fun _ => c.ekuOf,
        c.noUnhandledCritical, c.notBefore, c.notAfter⟩,
      c.parses, c.noDuplicateExt, fun hk => (c.rsa hk).1, c.aki⟩
  · rintro ⟨⟨v3, notCa, notSelfSigned, sigAlg, pss, hcurve, hbits, noIssuerUid, noSubjectUid, keyUsage,
      noCertSign, hnone, herr, hsome, noUnhandledCritical, notBefore, notAfter⟩,
      parses, noDuplicateExt, hkey, aki⟩
    exact
      { parses, v3, notBefore, notAfter, sigAlg, pss, noDuplicateExt, notSelfSigned, noIssuerUid,
        noSubjectUid, notCa, noCertSign, aki, keyUsage, noUnhandledCritical
        curve := fun hs => Decidable.or_iff_not_imp_left.2 fun h1 =>
          Decidable.or_iff_not_imp_left.2 (hcurve hs h1)
        rsa := fun hk => ⟨hkey hk, hbits hk⟩
        eku := by
          cases he : f.eku with
          | none => exact absurd he hnone
          | err => exact absurd he herr
          | some e => exact ⟨e, rfl, hsome e he⟩ }

/-- Every `StatementViolation` (its body, written out) is rejected. -/
theorem each_violation_rejected (env : Env) (f : CertFacts)
    (h : f.version ≠ 2 ∨ f.isCa = true ∨ f.issuerEqSubject = true ∨ f.sigAlg = .other ∨
      (f.sigAlg = .pss ∧ ∀ hh, f.pss = .params hh true → hh = .other) ∨
      (f.spkiAlg = .ec ∧ f.ecParams ≠ .p256 ∧ f.ecParams ≠ .p384 ∧ f.ecParams ≠ .p521) ∨
      ((f.spkiAlg = .rsa ∨ f.spkiAlg = .rsapss) ∧ f.rsaBits < 2048) ∨
      f.issuerUid = true ∨ f.subjectUid = true ∨
      (∀ x ∈ f.exts, kuUsable x = false) ∨ (∃ x ∈ f.exts, kuCertSign x = true) ∨
      f.eku = .none ∨ f.eku = .err ∨
      (∃ e, f.eku = .some e ∧ (e.any = true ∨ hasAllowedEku env.allowedEkus e = false ∨ badEkuSet e = true)) ∨
      (∃ x ∈ f.exts, unhandledCritical x = true) ∨
      signingTime env < f.notBefore ∨ f.notAfter < signingTime env) :
    (checkEndEntity env f).rejected = true := by
  exact rejected_of_not_conforming env f fun c => ((conforming_iff_no_violation env f).1 c).1 h

/-- **Flagged ⇔ violating**: the check rejects a certificate exactly when it violates a rule of
the statement or has one of the four structural defects — so a certificate free of both is never
flagged, and `Conforming` (the code's notion) is nothing more than that. -/
theorem accepted_iff_no_violation (env : Env) (f : CertFacts) :
    checkEndEntity env f = .ok ↔ ¬ StatementViolation env f ∧ ¬ StructuralDefect f := by
  rw [accepted_iff_conforming, conforming_iff_no_violation]

/-- **A certificate without a statement violation and without structural defect is never
flagged**: the check returns `Ok` and, in every verifier mode, contributes no failure code. -/
theorem unflagged_of_no_violation (env : Env) (f : CertFacts) (hv : ¬ StatementViolation env f)
    (hs : ¬ StructuralDefect f) (mode : Mode) :
    checkEndEntity env f = .ok ∧ profileFailure mode (checkEndEntity env f) = [] := by
  have h := (accepted_iff_no_violation env f).2 ⟨hv, hs⟩
  exact ⟨h, by rw [h]; rfl⟩

/-! ### The rule of the statement the code does *not* enforce: digitalSignature -/

/-- The statement's key-usage rule read with the C2PA profile: a signing certificate none of
whose keyUsage extensions asserts digitalSignature is rejected. -/
def DigitalSignatureRequired : Prop :=
  ∀ env f, (∀ x ∈ f.exts, kuDigitalSignature x = false) → (checkEndEntity env f).rejected = true

/-- A conforming certificate: the base of the closed examples here and at the end of the file. -/
def exConforming : CertFacts :=
  { notBefore := 0, notAfter := 100, eku := .some { emailProtection := true },
    exts := [⟨.handled, true⟩, ⟨.keyUsage true false false, true⟩, ⟨.handled, false⟩, ⟨.ski, false⟩, ⟨.aki, false⟩] }

/-- `exConforming` with nonRepudiation as its only key-usage bit; still `Conforming`. -/
def exNonRepudiationOnly : CertFacts :=
  { exConforming with
    exts := [⟨.handled, true⟩, ⟨.keyUsage false false true, true⟩, ⟨.handled, false⟩, ⟨.ski, false⟩, ⟨.aki, false⟩] }

/-- **The code falsifies that rule** (known finding `ku-without-digital-signature-accepted`,
replayed by the harness): nonRepudiation alone is accepted. -/
theorem digital_signature_required_false : ¬ DigitalSignatureRequired := by
  intro h
  have := h { now := 50 } exNonRepudiationOnly (by decide)
  revert this; decide

/-- What does hold (`…_partial`): without any of digitalSignature / keyCertSign /
nonRepudiation the certificate is rejected, and keyCertSign is rejected on every end-entity
certificate. -/
theorem key_usage_rejected_partial (env f)
    (h : (∀ x ∈ f.exts, kuUsable x = false) ∨ (∃ x ∈ f.exts, kuCertSign x = true)) :
    (checkEndEntity env f).rejected = true := by
  rcases h with h | h
  · exact key_usage_without_usable_bit_rejected env f h
  · exact key_cert_sign_rejected env f h

/-- Without a time stamp the clock decides: a parseable v3 certificate whose validity ended before
now is reported `signingCredential.expired`, whatever the later checks would find. -/
theorem expired_without_timestamp (env f) (hp : f.parses = true) (hv : f.version = 2)
    (ht : env.tst = none) (h : f.notAfter < env.now) :
    checkEndEntity env f = .err .certificateNotValidAtTime .expired .expired := by
  apply not_valid_at_signing_time_code env f hp hv
  right; simp only [signingTime, ht]; exact h

/-- With a time stamp the clock is irrelevant: the outcome is the same for every `now`. -/
theorem timestamp_overrides_clock (env : Env) (t : Int) (n : Int) (f : CertFacts) :
    checkEndEntity { env with tst := some t, now := n } f = checkEndEntity { env with tst := some t } f := by
  -- `signingTime` is the only reader of `now`, and only without a time stamp
  unfold checkEndEntity checkProfile checkInner headCheck tailCheck signingTime ekuGood
  rfl

/-- **An expired certificate is accepted only if a time stamp places the signature inside its
validity window.** (The right-hand side repeats `Conforming`, which is acceptance itself: the
content is the left-to-right direction.) -/
theorem expired_needs_timestamp (env : Env) (f : CertFacts) (hexp : f.notAfter < env.now) :
    checkEndEntity env f = .ok ↔
      ∃ t, env.tst = some t ∧ f.notBefore ≤ t ∧ t ≤ f.notAfter ∧ Conforming env f := by
  rw [accepted_iff_conforming]
  constructor
  · intro c
    cases ht : env.tst with
    | none =>
      have := c.notAfter
      simp only [signingTime, ht] at this
      omega
    | some t =>
      have hs : signingTime env = t := by simp only [signingTime, ht]
      exact ⟨t, rfl, hs ▸ c.notBefore, hs ▸ c.notAfter, c⟩
  · rintro ⟨_, _, _, _, c⟩; exact c

/-! ### Composition with C04: rejected ⇒ non-tolerated failure ⇒ not Valid, not Trusted -/

theorem mismatch_not_tolerated : C04.tolerated cMismatch = false := by
  delta cMismatch C04.tolerated C04.cUntrusted C04.cawgX509Prefix; decide_run

theorem code_not_tolerated (c : Code) : C04.tolerated c.code = false := by
  cases c <;> simp only [Code.code, Code.str] <;>
    (delta C04.tolerated C04.cUntrusted C04.cawgX509Prefix; decide_run)

theorem untrusted_tolerated : C04.tolerated C04.cUntrusted = true := by
  simp [C04.tolerated]

theorem trusted_not_signature_code : C04.cTrusted ∉ [C04.cInsideValidity, C04.cSigValidated] := by
  delta C04.cTrusted C04.cInsideValidity C04.cSigValidated; decide_run

/-! The three code sets a verified signature with an accepted profile can yield, evaluated. -/

theorem state_trusted_codes :
    C04.state (resultsOf ⟨[C04.cTrusted, C04.cInsideValidity, C04.cSigValidated], [], []⟩) = .trusted := by
  delta C04.state C04.isTrusted C04.isValid C04.cTrusted C04.cInsideValidity C04.cSigValidated
  decide_run

theorem state_untrusted_codes :
    C04.state (resultsOf ⟨[C04.cInsideValidity, C04.cSigValidated], [], [C04.cUntrusted]⟩) = .valid := by
  delta C04.state C04.isTrusted C04.isValid C04.failuresTolerated C04.tolerated C04.cTrusted
    C04.cInsideValidity C04.cSigValidated C04.cUntrusted C04.cawgX509Prefix
  decide_run

theorem state_no_verdict_codes :
    C04.state (resultsOf ⟨[C04.cInsideValidity, C04.cSigValidated], [], []⟩) = .valid := by
  delta C04.state C04.isTrusted C04.isValid C04.cTrusted C04.cInsideValidity C04.cSigValidated
  decide_run

/-- A profile error, whatever produced it: in every verifier mode that checks the profile its code
stays among the active manifest's failures and the state is Invalid, whatever the rest of
validation logs afterwards. -/
theorem rejected_state (k : ErrKind) (c : Code) (rl : Rule) (mode : Mode) (hm : mode ≠ .ignore)
    (trust : Trust) (sigOk : Bool) (later : List C04.Status) :
    let r := later.foldl C04.addStatus (resultsOf (signatureCodes mode (.err k c rl) trust sigOk))
    C04.state r = .invalid ∧ ∃ a, r.active = some a ∧ c.code ∈ a.failure :=
  -- `C04.Placed` of a status without ingredient URI: its code is among the active manifest's failures
  have hp := C04.placed_foldl later ⟨c.code, .failure, none⟩
    (resultsOf (signatureCodes mode (.err k c rl) trust sigOk))
    ⟨_, rfl, by simp [signatureCodes, profileFailure, hm]⟩
  ⟨C04.invalid_of_failure _ _ (C04.placed_failure _ _ hp) (code_not_tolerated c), hp⟩

/-- **The state the signature step alone yields.** -/
theorem state_signatureCodes (mode : Mode) (prof : Res) (trust : Trust) (sigOk : Bool) :
    C04.state (resultsOf (signatureCodes mode prof trust sigOk)) =
      if !sigOk then .invalid
      else if mode ≠ .ignore ∧ prof.rejected then .invalid
      else if mode = .trustPolicy ∧ trust = .trusted then .trusted
      else .valid := by
  cases sigOk
  · exact C04.invalid_of_failure _ cMismatch (by simp [C04.failures, resultsOf, signatureCodes])
      mismatch_not_tolerated
  · cases prof with
    | ok =>
      cases mode
      · cases trust
        · exact state_trusted_codes
        · exact state_untrusted_codes
      · exact state_no_verdict_codes
      · exact state_no_verdict_codes
    | err k c r =>
      by_cases hi : mode = .ignore
      · subst hi; exact state_no_verdict_codes
      · rw [if_neg (by decide), if_pos ⟨hi, rfl⟩]
        exact (rejected_state k c r mode hi trust true []).1

/-- **Rejected ⇒ never Valid or Trusted**, for every verifier mode that checks the profile,
every trust verdict, every signature outcome and *every* sequence of further statuses the rest
of validation may log (assertion results, ingredient deltas, …): the state is Invalid and the
`signingCredential.*` failure code is among the reported failures. -/
theorem rejected_never_valid (env : Env) (f : CertFacts) (mode : Mode) (hm : mode ≠ .ignore)
    (trust : Trust) (sigOk : Bool) (later : List C04.Status)
    (h : (checkEndEntity env f).rejected = true) :
    let r := later.foldl C04.addStatus (resultsOf (signatureCodes mode (checkEndEntity env f) trust sigOk))
    C04.state r = .invalid ∧
      ∃ a c, r.active = some a ∧ (c = Code.invalid ∨ c = Code.expired) ∧ c.code ∈ a.failure :=
  match checkEndEntity env f, h with
  | .err k c rl, _ =>
    have ⟨hs, a, ha, hc⟩ := rejected_state k c rl mode hm trust sigOk later
    ⟨hs, a, c, ha, by cases c <;> simp, hc⟩

/-- A conforming, trusted, correctly signed credential yields Trusted; untrusted yields Valid
(no later failures): the profile check contributes nothing. -/
theorem conforming_state (env : Env) (f : CertFacts) (h : Conforming env f) (trust : Trust) :
    C04.state (resultsOf (signatureCodes .trustPolicy (checkEndEntity env f) trust true)) =
      (match trust with | .trusted => .trusted | .untrusted => .valid) := by
  rw [conforming_accepted env f h, state_signatureCodes]
  cases trust <;> rfl

/-! ### Where the two verdict codes occur (used by Props/C05)

Among the codes of the signature step exactly for the verdicts: no other code of the step is
either string. -/

theorem trusted_mem_trustCodes (mode : Mode) (t : Trust) :
    C04.cTrusted ∈ (trustCodes mode t).1 ↔ mode = .trustPolicy ∧ t = .trusted := by
  cases mode <;> cases t <;> simp [trustCodes]

theorem untrusted_mem_trustCodes (mode : Mode) (t : Trust) :
    C04.cUntrusted ∈ (trustCodes mode t).2 ↔ mode = .trustPolicy ∧ t = .untrusted := by
  cases mode <;> cases t <;> simp [trustCodes]

/-- `signingCredential.untrusted` is tolerated, a profile failure never is. -/
theorem untrusted_not_mem_profileFailure (mode : Mode) (prof : Res) :
    C04.cUntrusted ∉ profileFailure mode prof := by
  intro h
  have : C04.tolerated C04.cUntrusted = false := by
    unfold profileFailure at h
    split at h
    · cases h
    · split at h
      · cases h
      · rw [List.mem_singleton.1 h]; exact code_not_tolerated _
  rw [untrusted_tolerated] at this; cases this

theorem trusted_mem_success (mode : Mode) (prof : Res) (t : Trust) (sigOk : Bool) :
    C04.cTrusted ∈ (signatureCodes mode prof t sigOk).success ↔ mode = .trustPolicy ∧ t = .trusted := by
  simp only [signatureCodes, List.mem_append, trusted_mem_trustCodes]
  cases sigOk
  · simp
  · simp only [reduceIte, or_iff_left trusted_not_signature_code]

theorem untrusted_mem_failure (mode : Mode) (prof : Res) (t : Trust) (sigOk : Bool) :
    C04.cUntrusted ∈ (signatureCodes mode prof t sigOk).failure ↔ mode = .trustPolicy ∧ t = .untrusted := by
  have hm : C04.cUntrusted ≠ cMismatch := fun h => by
    have := mismatch_not_tolerated; rw [← h, untrusted_tolerated] at this; cases this
  simp only [signatureCodes, List.mem_append, untrusted_mem_trustCodes, untrusted_not_mem_profileFailure,
    false_or]
  cases sigOk <;> simp [hm]

/-! ### Which failure is reported: one theorem per log statement

Each takes a conforming certificate (`unparseable_only_code`: any certificate), changes exactly the
fact(s) one rule looks at, and gives the exact outcome — error kind, status code and the log
statement that fires. A reordering of the checks that lets another rule mask this one, a wrong
status code or a wrong error kind falsifies the corresponding theorem (and the differential run,
which compares the same triple). -/

theorem conforming_blocks (env : Env) (f : CertFacts) (c : Conforming env f) :
    headCheck env f = none ∧ pssCheck f = none ∧ curveCheck f = none ∧ rsaCheck f = none ∧
      idCheck f = none ∧ tailCheck env f = none := by
  have h := ((checkEndEntity_ok_iff_inner env f).1 (conforming_accepted env f c)).1
  unfold checkInner at h
  simpa only [Option.or_eq_none_iff] using h

/-! **Frame.** A certificate `g` that agrees with a conforming `f` on what the earlier blocks
compute passes those blocks: the check of `g` is the check from the first block the change can
reach. For `{ f with … }` the agreements hold by `rfl` exactly when no replaced fact is read by
the block; they are stated here and discharged by default. -/

theorem Conforming.past_pss {env : Env} {f : CertFacts} (c : Conforming env f) (g : CertFacts)
    (h1 : headCheck env g = headCheck env f := by rfl) (h2 : pssCheck g = pssCheck f := by rfl) :
    checkInner env g = (curveCheck g).or ((rsaCheck g).or ((idCheck g).or (tailCheck env g))) := by
  obtain ⟨b1, b2, _⟩ := conforming_blocks env f c
  unfold checkInner; rw [h1, h2, b1, b2]; rfl

theorem Conforming.past_rsa {env : Env} {f : CertFacts} (c : Conforming env f) (g : CertFacts)
    (h1 : headCheck env g = headCheck env f := by rfl) (h2 : pssCheck g = pssCheck f := by rfl)
    (h3 : curveCheck g = curveCheck f := by rfl) (h4 : rsaCheck g = rsaCheck f := by rfl) :
    checkInner env g = (idCheck g).or (tailCheck env g) := by
  obtain ⟨_, _, b3, b4, _⟩ := conforming_blocks env f c
  rw [c.past_pss g h1 h2, h3, h4, b3, b4]; rfl

theorem Conforming.past_id {env : Env} {f : CertFacts} (c : Conforming env f) (g : CertFacts)
    (h1 : headCheck env g = headCheck env f := by rfl) (h2 : pssCheck g = pssCheck f := by rfl)
    (h3 : curveCheck g = curveCheck f := by rfl) (h4 : rsaCheck g = rsaCheck f := by rfl)
    (h5 : idCheck g = idCheck f := by rfl) : checkInner env g = tailCheck env g := by
  obtain ⟨_, _, _, _, b5, _⟩ := conforming_blocks env f c
  rw [c.past_rsa g h1 h2 h3 h4, h5, b5]; rfl

theorem unparseable_only_code (env : Env) (f : CertFacts) :
    checkEndEntity env { f with parses := false } = .err .invalidCertificate .invalid .parse :=
  checkEndEntity_of_rej (checkInner_eq_some_iff.2 (.inl (by simp [headCheck])))

theorem not_v3_only_code (env : Env) (f : CertFacts) (c : Conforming env f) (v : Nat) (hv : v ≠ 2) :
    checkEndEntity env { f with version := v } =
      .err .invalidCertificateVersion .invalid .version :=
  checkEndEntity_of_rej (checkInner_eq_some_iff.2 (.inl (by simp [headCheck, c.parses, hv])))

theorem signature_algorithm_only_code (env : Env) (f : CertFacts) (c : Conforming env f) :
    checkEndEntity env { f with sigAlg := .other } =
      .err .unsupportedAlgorithm .invalid .algorithm :=
  checkEndEntity_of_rej (checkInner_eq_some_iff.2 (.inl (by
      simp [headCheck, c.parses, c.v3, validAt, c.notBefore, c.notAfter, sigAlgAccepted])))

/-- `sigAlg := .pss` is read by the head block too, so that block's passing is shown again from `c`
and not taken over by the frame. -/
theorem checkInner_with_pss (env : Env) (f : CertFacts) (c : Conforming env f) (p : Pss) (r : Rej)
    (h : pssCheck { f with sigAlg := .pss, pss := p } = some r) :
    checkInner env { f with sigAlg := .pss, pss := p } = some r :=
  checkInner_eq_some_iff.2 (.inr ⟨(headCheck_none_iff env _).2
    ⟨c.parses, c.v3, (validAt_iff _ _).2 ⟨c.notBefore, c.notAfter⟩, SigAlg.noConfusion⟩, .inl h⟩)

theorem pss_mismatch_only_code (env : Env) (f : CertFacts) (c : Conforming env f) (h : Hash) :
    checkEndEntity env { f with sigAlg := .pss, pss := .params h false } =
      .err .invalidCertificate .invalid .pssMismatch :=
  checkEndEntity_of_rej (checkInner_with_pss env f c _ _ (by simp [pssCheck]))

theorem pss_hash_only_code (env : Env) (f : CertFacts) (c : Conforming env f) :
    checkEndEntity env { f with sigAlg := .pss, pss := .params .other true } =
      .err .invalidCertificate .invalid .pssHash :=
  checkEndEntity_of_rej (checkInner_with_pss env f c _ _ (by simp [pssCheck, hashMandatory]))

theorem pss_params_missing_only_code (env : Env) (f : CertFacts) (c : Conforming env f) :
    checkEndEntity env { f with sigAlg := .pss, pss := .absent } =
      .err .invalidCertificate .invalid .pssParamsMissing :=
  checkEndEntity_of_rej (checkInner_with_pss env f c _ _ (by simp [pssCheck]))

/-- RSASSA-PSS parameters the code cannot decode: rejected by a bare `?`, reported by the wrapper. -/
theorem pss_malformed_only_code (env : Env) (f : CertFacts) (c : Conforming env f) :
    checkEndEntity env { f with sigAlg := .pss, pss := .malformed } =
      .err .invalidCertificate .invalid .unlogged :=
  checkEndEntity_of_silent (checkInner_with_pss env f c _ _ (by simp [pssCheck]))

theorem curve_only_code (env : Env) (f : CertFacts) (c : Conforming env f) :
    checkEndEntity env { f with spkiAlg := .ec, ecParams := .other } =
      .err .invalidCertificate .invalid .curve :=
  checkEndEntity_of_rej ((c.past_pss _).trans (by simp [curveCheck, curveAccepted]))

/-- EC key without (or with non-OID) curve parameters: bare `return Err`, reported by the wrapper. -/
theorem curve_params_undecodable_only_code (env : Env) (f : CertFacts) (c : Conforming env f)
    (e : EcParams) (he : e = .absent ∨ e = .notOid) :
    checkEndEntity env { f with spkiAlg := .ec, ecParams := e } =
      .err .invalidCertificate .invalid .unlogged :=
  checkEndEntity_of_silent ((c.past_pss _).trans (by rcases he with rfl | rfl <;> simp [curveCheck]))

theorem short_rsa_key_only_code (env : Env) (f : CertFacts) (c : Conforming env f) (a : SpkiAlg)
    (ha : a = .rsa ∨ a = .rsapss) (n : Nat) (hn : n < 2048) :
    checkEndEntity env { f with spkiAlg := a, rsaKeyOk := true, rsaBits := n } =
      .err .invalidCertificate .invalid .rsaBits :=
  -- the new `spkiAlg` is read by the curve block as well: both blocks are evaluated
  checkEndEntity_of_rej ((c.past_pss _).trans
    (by rcases ha with rfl | rfl <;> simp [curveCheck, rsaCheck, hn]))

/-- RSA key whose `subjectPublicKey` does not decode: `map_err(..)?`, reported by the wrapper. -/
theorem rsa_key_undecodable_only_code (env : Env) (f : CertFacts) (c : Conforming env f) (a : SpkiAlg)
    (ha : a = .rsa ∨ a = .rsapss) :
    checkEndEntity env { f with spkiAlg := a, rsaKeyOk := false } =
      .err .invalidCertificate .invalid .unlogged :=
  checkEndEntity_of_silent ((c.past_pss _).trans
    (by rcases ha with rfl | rfl <;> simp [curveCheck, rsaCheck]))

theorem duplicate_extension_only_code (env : Env) (f : CertFacts) (c : Conforming env f) :
    checkEndEntity env { f with dupExt := true } =
      .err .invalidCertificate .invalid .duplicateExt :=
  checkEndEntity_of_rej ((c.past_rsa _).trans (by simp [idCheck]))

theorem self_signed_only_code (env : Env) (f : CertFacts) (c : Conforming env f) :
    checkEndEntity env { f with issuerEqSubject := true } =
      .err .selfSignedCertificate .invalid .selfSigned :=
  checkEndEntity_of_rej ((c.past_rsa _).trans (by simp [idCheck, c.noDuplicateExt]))

theorem unique_id_only_code (env : Env) (f : CertFacts) (c : Conforming env f) (i s : Bool)
    (h : i = true ∨ s = true) :
    checkEndEntity env { f with issuerUid := i, subjectUid := s } =
      .err .invalidCertificate .invalid .uniqueId :=
  checkEndEntity_of_rej ((c.past_rsa _).trans
    (by rcases h with rfl | rfl <;> simp [idCheck, c.noDuplicateExt, c.notSelfSigned]))

/-- The `←` of `ekuGood_ok_true_iff` without `isCa = false` (an EKU extension that is present is
judged alike on a CA certificate): `ca_only_code` needs it. -/
theorem ekuGood_ok_of (env : Env) (g : CertFacts) (e : Eku) (he : g.eku = .some e) (h1 : e.any = false)
    (h2 : hasAllowedEku env.allowedEkus e = true) (h3 : badEkuSet e = false) :
    ekuGood env g = .ok true := by
  unfold ekuGood; rw [he]; simp [h1, h2, h3]

theorem extPart_params (g : CertFacts) (hca : g.isCa = false) (b : Bool)
    (hcs : ∀ x ∈ g.exts, kuCertSign x = false)
    (h : b = false ∨ (∀ x ∈ g.exts, isAki x = false) ∨ (∀ x ∈ g.exts, kuUsable x = false) ∨
      (∃ x ∈ g.exts, unhandledCritical x = true)) :
    extPart g b = some (rej .invalidCertificate .invalid .params) := by
  rw [extPart_nonCa g hca b, (not_any_iff _ _).2 hcs]
  rcases h with h | h | h | h
  · simp [h]
  · simp [(not_any_iff _ _).2 h]
  · simp [(not_any_iff _ _).2 h]
  · simp [List.any_eq_true.2 h]

theorem tailCheck_of_ekuGood (env : Env) (g : CertFacts) (b : Bool) (h : ekuGood env g = .ok b) :
    tailCheck env g = extPart g b := by
  unfold tailCheck; rw [h]

theorem checkInner_with_eku (env : Env) (f : CertFacts) (c : Conforming env f) (e : EkuExt) (r : Rej)
    (h : ekuGood env { f with eku := e } = .error r) : checkInner env { f with eku := e } = some r := by
  rw [c.past_id { f with eku := e }]
  unfold tailCheck
  rw [h]

theorem checkInner_with_exts (env : Env) (f : CertFacts) (c : Conforming env f) (es : List Ext) :
    checkInner env { f with exts := es } = extPart { f with exts := es } true :=
  have ⟨e, he, h1, h2, h3⟩ := c.eku
  (c.past_id _).trans
    (tailCheck_of_ekuGood _ _ _ (ekuGood_ok_of env { f with exts := es } e he h1 h2 h3))

theorem eku_any_only_code (env : Env) (f : CertFacts) (c : Conforming env f) (e : Eku) (h : e.any = true) :
    checkEndEntity env { f with eku := .some e } = .err .invalidCertificate .invalid .ekuAny :=
  checkEndEntity_of_rej (checkInner_with_eku env f c _ _ (by simp [ekuGood, h]))

theorem eku_not_accepted_only_code (env : Env) (f : CertFacts) (c : Conforming env f) (e : Eku)
    (h : e.any = false) (hn : hasAllowedEku env.allowedEkus e = false) :
    checkEndEntity env { f with eku := .some e } = .err .invalidCertificate .invalid .ekuMissing :=
  checkEndEntity_of_rej (checkInner_with_eku env f c _ _ (by simp [ekuGood, h, hn]))

theorem eku_set_only_code (env : Env) (f : CertFacts) (c : Conforming env f) (e : Eku)
    (h : e.any = false) (ha : hasAllowedEku env.allowedEkus e = true) (hb : badEkuSet e = true) :
    checkEndEntity env { f with eku := .some e } = .err .invalidCertificate .invalid .ekuSet :=
  checkEndEntity_of_rej (checkInner_with_eku env f c _ _ (by simp [ekuGood, h, ha, hb]))

/-- Duplicate / undecodable EKU extension: `map_err(..)?`, reported by the wrapper. -/
theorem eku_undecodable_only_code (env : Env) (f : CertFacts) (c : Conforming env f) :
    checkEndEntity env { f with eku := .err } = .err .invalidCertificate .invalid .unlogged :=
  checkEndEntity_of_silent (checkInner_with_eku env f c _ _ (by simp [ekuGood]))

/-- EKU extension absent on a non-CA certificate. The code has no test of its own for this:
`extended_key_usage_good` is false and the final flag test reports `.params`. (`Rule.ekuMissing` is
the log statement for an EKU extension without accepted purpose, `eku_not_accepted_only_code`.) -/
theorem eku_missing_only_code (env : Env) (f : CertFacts) (c : Conforming env f) :
    checkEndEntity env { f with eku := .none } = .err .invalidCertificate .invalid .params :=
  checkEndEntity_of_rej <| by
    rw [c.past_id { f with eku := .none },
      tailCheck_of_ekuGood _ _ false (by simp [ekuGood, c.notCa])]
    exact extPart_params { f with eku := .none } c.notCa false c.noCertSign (Or.inl rfl)

/-- keyCertSign asserted by some keyUsage extension of a non-CA certificate — whatever else the
extension list holds. -/
theorem key_cert_sign_only_code (env : Env) (f : CertFacts) (c : Conforming env f) (es : List Ext)
    (h : ∃ x ∈ es, kuCertSign x = true) :
    checkEndEntity env { f with exts := es } = .err .invalidCertificate .invalid .kuCertSign :=
  checkEndEntity_of_rej ((checkInner_with_exts env f c es).trans <| by
      rw [extPart_nonCa { f with exts := es } c.notCa true, List.any_eq_true.2 h]; rfl)

/-- The extension list of a non-CA certificate lacks an authority key identifier, or a keyUsage
with a usable bit, or carries an unhandled critical extension (and asserts no keyCertSign):
"certificate params incorrect". -/
theorem extension_flags_only_code (env : Env) (f : CertFacts) (c : Conforming env f) (es : List Ext)
    (hcs : ∀ x ∈ es, kuCertSign x = false)
    (h : (∀ x ∈ es, isAki x = false) ∨ (∀ x ∈ es, kuUsable x = false) ∨ (∃ x ∈ es, unhandledCritical x = true)) :
    checkEndEntity env { f with exts := es } = .err .invalidCertificate .invalid .params :=
  checkEndEntity_of_rej ((checkInner_with_exts env f c es).trans
      (extPart_params { f with exts := es } c.notCa true hcs (Or.inr h)))

/-- A CA certificate that is otherwise fine (it has a subject key identifier, which the profile
demands of CAs) is turned away by the end-entity test of the public function. -/
theorem ca_only_code (env : Env) (f : CertFacts) (c : Conforming env f) (hski : ∃ x ∈ f.exts, isSki x = true) :
    checkEndEntity env { f with isCa := true } = .err .invalidCertificate .invalid .endEntityIsCa := by
  obtain ⟨e, he, hany, hal, hb⟩ := c.eku
  have hin : checkInner env { f with isCa := true } = none := by
    rw [c.past_id { f with isCa := true },
      tailCheck_of_ekuGood _ _ _ (ekuGood_ok_of env { f with isCa := true } e he hany hal hb)]
    unfold extPart
    rw [extLoop_spec]
    simp [finalFlags, List.any_eq_true.2 c.aki, List.any_eq_true.2 c.keyUsage, List.any_eq_true.2 hski,
      (not_any_iff _ _).2 c.noUnhandledCritical]
  rw [checkEndEntity_of_inner_none _ _ hin]
  simp [c.parses]

/-- **The ignore-mode hole, stated**: with `Verifier::IgnoreProfileAndTrustPolicy` the profile
outcome leaves no trace — a certificate the profile rejects still yields state Valid when the
signature verifies. (`verify_cose` selects this mode only for `cert_check = false`, which
`Store::ingredient_checks` passes for *ingredient* manifests when `verify.verify_trust` is off
(its local `check_ingredient_trust`); `Store::verify_store` checks the active manifest with
`cert_check = true`, so for it `mode ≠ .ignore` — the hypothesis of `rejected_never_valid` —
always holds. The CAWG X.509 identity validators use this mode too.) -/
theorem ignore_mode_accepts_rejected (k : ErrKind) (c : Code) (r : Rule) (trust : Trust) :
    C04.state (resultsOf (signatureCodes .ignore (.err k c r) trust true)) = .valid ∧
    (signatureCodes .ignore (.err k c r) trust true).failure = [] := by
  exact ⟨by rw [state_signatureCodes]; rfl, rfl⟩

example : checkEndEntity { now := 50 } exConforming = .ok := by decide
example : Conforming { now := 50 } exConforming := (accepted_iff_conforming _ _).1 (by decide)
example : checkEndEntity { now := 500 } exConforming = .err .certificateNotValidAtTime .expired .expired := by decide
example : checkEndEntity { now := 500, tst := some 100 } exConforming = .ok := by decide
example : checkEndEntity { now := 50 } { exConforming with issuerEqSubject := true }
    = .err .selfSignedCertificate .invalid .selfSigned := by decide
example : checkEndEntity { now := 50 } { exConforming with sigAlg := .pss, pss := .malformed }
    = .err .invalidCertificate .invalid .unlogged := by decide
example : checkEndEntity { now := 50 } { exConforming with isCa := true }
    = .err .invalidCertificate .invalid .endEntityIsCa := by decide
example : checkEndEntity { now := 50 }
    { exConforming with exts := [⟨.keyUsage false true false, true⟩, ⟨.aki, false⟩] }
    = .err .invalidCertificate .invalid .kuCertSign := by decide
example : C04.state (resultsOf (signatureCodes .trustPolicy
    (checkEndEntity { now := 50 } { exConforming with subjectUid := true }) .trusted true)) = .invalid := by
  rw [state_signatureCodes]; decide

example : checkEndEntity { now := 50 } { exConforming with isCa := true }
    = .err .invalidCertificate .invalid .endEntityIsCa :=
  ca_only_code _ _ ((accepted_iff_conforming _ _).1 (by decide)) ⟨⟨.ski, false⟩, by decide, rfl⟩
example : checkEndEntity { now := 50 } { exConforming with exts := [⟨.keyUsage true false false, true⟩] }
    = .err .invalidCertificate .invalid .params :=
  extension_flags_only_code _ _ ((accepted_iff_conforming _ _).1 (by decide)) _ (by decide) (Or.inl (by decide))
example : checkEndEntity { now := 50 } { exConforming with spkiAlg := .rsa, rsaKeyOk := true, rsaBits := 2047 }
    = .err .invalidCertificate .invalid .rsaBits :=
  short_rsa_key_only_code _ _ ((accepted_iff_conforming _ _).1 (by decide)) .rsa (Or.inl rfl) 2047 (by decide)
example : ¬ StatementViolation { now := 50 } exConforming ∧ ¬ StructuralDefect exConforming :=
  (accepted_iff_no_violation _ _).1 (by decide)
example : StatementViolation { now := 50 } exNonRepudiationOnly → False :=
  ((accepted_iff_no_violation _ _).1 (by decide)).1
example : checkInner { now := 50 } { exConforming with sigAlg := .pss, pss := .malformed } = some (silent .invalidCertificate) := by decide
example : C04.state (resultsOf (signatureCodes .ignore
    (checkEndEntity { now := 50 } { exConforming with subjectUid := true }) .untrusted true)) = .valid := by
  rw [state_signatureCodes]; decide

end C2pa.C06
