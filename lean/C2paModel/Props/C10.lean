import C2paModel.Model.C10
import C2paModel.Gen.C10AllocSites
import C2paModel.Props.C18
import C2paModel.Props.C13
import C2paModel.Props.C14
import C2paModel.Props.C19
import C2paModel.Props.C34
/-
C10 — untrusted input never crashes, hangs or exhausts memory  *(partial by nature)*

Statement: reading, validating or ingesting any byte string as any supported format returns a
result or an error; it never panics, never overflows the stack, never runs unboundedly long and
never allocates far beyond the input size or the configured decompression limit.

What is *proved* is the conjunction over the parsers and limits that are modelled in this
project (`modelled_parsers_total`): each is total on every input, its recursion depth is bounded
by its constant, and every allocation it requests is bounded by the remaining input or by the
configured limit. Everything else the statement covers (third-party parsers, CBOR/COSE/X.509
decoders, real stack and heap, wall-clock) is *searched*, not proved: the harness drives
structure-aware mutants of every format through the public entry points in forked workers with a
time and an address-space budget.
-/
namespace C2pa.C10

/-! ### allocation guards -/

theorem safeVec_eq (n avail : Nat) :
    safeVec n avail = if n ≤ isizeMax ∧ n ≤ avail then .ok n else .error .insufficientMemory := by
  unfold safeVec
  by_cases h1 : n > isizeMax
  · rw [if_pos h1, if_neg (by omega)]
  · by_cases h2 : n > avail
    · rw [if_neg h1, if_pos h2, if_neg (by omega)]
    · rw [if_neg h1, if_neg h2, if_pos (by omega)]

theorem readToVec_eq (pos len dataLen avail : Nat) :
    readToVec pos len dataLen avail =
      if pos + dataLen > u64Max ∨ pos + dataLen > len then .error .badParam
      else if dataLen ≤ isizeMax ∧ dataLen ≤ avail then .ok (dataLen, dataLen)
      else .error .insufficientMemory := by
  unfold readToVec
  rw [safeVec_eq]
  by_cases h1 : pos + dataLen > u64Max <;> by_cases h2 : pos + dataLen > len <;>
    by_cases h3 : dataLen ≤ isizeMax ∧ dataLen ≤ avail <;> simp only [h1, h2, h3, and_self, or_self, or_true, true_or, if_true, if_false]

/-- **`read_to_vec` succeeds exactly when the declared length fits in what is left of the
stream (and the allocator provides it).** -/
theorem readToVec_ok_iff (pos len dataLen avail a r : Nat) :
    readToVec pos len dataLen avail = .ok (a, r) ↔
      a = dataLen ∧ r = dataLen ∧ pos + dataLen ≤ len ∧ pos + dataLen ≤ u64Max ∧
      dataLen ≤ isizeMax ∧ dataLen ≤ avail := by
  rw [readToVec_eq]
  by_cases h : pos + dataLen > u64Max ∨ pos + dataLen > len
  · rw [if_pos h]; exact ⟨(nomatch ·), fun e => by omega⟩
  · rw [if_neg h]
    by_cases h' : dataLen ≤ isizeMax ∧ dataLen ≤ avail
    · rw [if_pos h', Except.ok.injEq, Prod.mk.injEq]; constructor <;> intro e <;> omega
    · rw [if_neg h']; exact ⟨(nomatch ·), fun e => by omega⟩

/-- The refusal *before* any allocation is exactly "the declared length does not fit". -/
theorem readToVec_badParam_iff (pos len dataLen avail : Nat) :
    readToVec pos len dataLen avail = .error .badParam ↔
      (pos + dataLen > u64Max ∨ pos + dataLen > len) := by
  rw [readToVec_eq]
  split
  · next h => simpa using h
  · next h => split <;> simpa using h

/-- **`read_to_vec` never asks the allocator for more than what is left in the stream.** -/
theorem readToVec_alloc_le_remaining (pos len dataLen avail a r : Nat)
    (h : readToVec pos len dataLen avail = .ok (a, r)) :
    a = dataLen ∧ r = dataLen ∧ pos + dataLen ≤ len ∧ a ≤ len - pos := by
  have := (readToVec_ok_iff pos len dataLen avail a r).1 h
  omega

/-- `read_to_vec` is total: a result or one of two error kinds; a declared length beyond the
end of the stream (including `u64` overflow of `pos + dataLen`) is `BadParam` *before* any allocation. -/
theorem readToVec_total (pos len dataLen avail : Nat) :
    (∃ a r, readToVec pos len dataLen avail = .ok (a, r)) ∨
    readToVec pos len dataLen avail = .error .badParam ∨
    readToVec pos len dataLen avail = .error .insufficientMemory := by
  rw [readToVec_eq]
  split
  · exact Or.inr (Or.inl rfl)
  · split
    · exact Or.inl ⟨_, _, rfl⟩
    · exact Or.inr (Or.inr rfl)

theorem readToVec_past_end_rejected (pos len dataLen avail : Nat) (h : len < pos + dataLen) :
    readToVec pos len dataLen avail = .error .badParam :=
  (readToVec_badParam_iff pos len dataLen avail).2 (Or.inr h)

/-- **`safe_vec::<T>` reserves `n · size_of::<T>()` bytes or refuses** — for every element size:
it succeeds exactly when that byte count is at most `isize::MAX` and what the allocator gives. -/
theorem safeVecT_ok_iff (elemSize n avail : Nat) (fill : Bool) (b l : Nat) :
    safeVecT elemSize n avail fill = .ok (b, l) ↔
      b = n * elemSize ∧ l = (if fill then n else 0) ∧ n * elemSize ≤ isizeMax ∧
      n * elemSize ≤ avail := by
  unfold safeVecT
  split
  · simp; omega
  · split
    · simp; omega
    · simp only [Except.ok.injEq, Prod.mk.injEq]
      constructor
      · rintro ⟨rfl, rfl⟩; exact ⟨rfl, rfl, by omega, by omega⟩
      · rintro ⟨rfl, rfl, _, _⟩; exact ⟨rfl, rfl⟩

/-- In the model a count whose byte size exceeds `isize::MAX` is the refusal (`try_reserve_exact`'s
capacity overflow); the model has no panic outcome for `safe_vec`. -/
theorem safeVecT_overflow_refused (elemSize n avail : Nat) (fill : Bool)
    (h : n * elemSize > isizeMax) : safeVecT elemSize n avail fill = .error .insufficientMemory := by
  unfold safeVecT; rw [if_pos h]

/-- the `u8` model used by `read_to_vec` / `BoundedVecWriter` is the `elemSize = 1` case -/
theorem safeVec_eq_safeVecT (n avail : Nat) :
    safeVec n avail = (safeVecT 1 n avail false).map (·.1) := by
  unfold safeVec safeVecT
  rw [Nat.mul_one]
  split
  · rfl
  · split <;> rfl

/-! ### bounded decompression -/

/-- For a slice written to a writer within its bound `saturating_add` does not saturate: the test
is the plain sum. -/
theorem write_eq (w : BVW) (n : Nat) (hw : w.len ≤ w.maxLen) (hm : w.maxLen ≤ isizeMax)
    (hn : n ≤ isizeMax) :
    w.write n = if w.len + n ≤ w.maxLen then .ok ⟨w.len + n, w.maxLen⟩ else .error .io := by
  have h2 : isizeMax + isizeMax < u64Max := by decide
  have hs : satAdd w.len n = w.len + n := by unfold satAdd; rw [if_neg (by omega)]
  unfold BVW.write
  rw [hs]
  by_cases h : w.len + n ≤ w.maxLen
  · rw [if_neg (by omega), if_pos h]
  · rw [if_pos (by omega), if_neg h]

theorem run_fits_or_refused (chunks : List Nat) (hch : ∀ n, n ∈ chunks → n ≤ isizeMax) :
    ∀ (w : BVW), w.len ≤ w.maxLen → w.maxLen ≤ isizeMax →
      (w.len + chunks.sum ≤ w.maxLen ∧ w.run chunks = .ok ⟨w.len + chunks.sum, w.maxLen⟩) ∨
      (w.maxLen < w.len + chunks.sum ∧ ∃ w', w.run chunks = .error (.io, w') ∧ w'.len ≤ w.maxLen) := by
  induction chunks with
  | nil => intro w hw _; exact Or.inl ⟨hw, rfl⟩
  | cons n rest ih =>
    intro w hw hm
    have ih := ih (fun m hm' => hch m (List.mem_cons_of_mem _ hm'))
    unfold BVW.run
    rw [write_eq w n hw hm (hch n (List.mem_cons_self ..)), List.sum_cons, ← Nat.add_assoc]
    by_cases h : w.len + n ≤ w.maxLen
    · rw [if_pos h]
      exact ih ⟨w.len + n, w.maxLen⟩ h hm
    · rw [if_neg h]
      exact Or.inr ⟨by omega, w, rfl, hw⟩

/-- **The decompression sink never holds more than the configured limit** — for every sequence of
output chunks (every decompressor, every compressed input; a Rust slice is at most `isize::MAX`
long, and `new` only succeeds for `max_len ≤ isize::MAX`), at every point, whether the run ends
normally or with the refusal. -/
theorem bvw_run_bounded (chunks : List Nat) (hch : ∀ n, n ∈ chunks → n ≤ isizeMax) :
    ∀ (w : BVW), w.len ≤ w.maxLen → w.maxLen ≤ isizeMax →
      match w.run chunks with
      | .ok w' => w'.len ≤ w.maxLen ∧ w'.len = w.len + chunks.sum
      | .error (_, w') => w'.len ≤ w.maxLen ∧ w.maxLen < w.len + chunks.sum := by
  intro w hw hm
  rcases run_fits_or_refused chunks hch w hw hm with ⟨h1, h2⟩ | ⟨h1, w', h2, h3⟩ <;> rw [h2]
  · exact ⟨h1, rfl⟩
  · exact ⟨h3, h1⟩

theorem BVW_new_eq (maxLen avail : Nat) :
    BVW.new maxLen avail =
      if maxLen ≤ isizeMax ∧ maxLen ≤ avail then .ok (⟨0, maxLen⟩, maxLen)
      else .error .insufficientMemory := by
  unfold BVW.new
  rw [safeVec_eq]
  by_cases h : maxLen ≤ isizeMax ∧ maxLen ≤ avail <;> simp only [h, and_self, if_true, if_false]

/-- **A decompression bomb is refused**: output longer than the limit always ends in the error,
with at most `max_len` bytes held; the only allocation is the `max_len` reserved by `new`. -/
theorem bomb_refused (maxLen avail : Nat) (chunks : List Nat) (hch : ∀ n, n ∈ chunks → n ≤ isizeMax)
    (hbig : maxLen < chunks.sum) (w : BVW) (cap : Nat) (hnew : BVW.new maxLen avail = .ok (w, cap)) :
    cap = maxLen ∧ ∃ e w', w.run chunks = .error (e, w') ∧ w'.len ≤ maxLen := by
  rw [BVW_new_eq] at hnew
  split at hnew
  · next hm =>
    obtain ⟨rfl, rfl⟩ : _ = w ∧ _ = cap := by simpa using hnew
    rcases run_fits_or_refused chunks hch ⟨0, maxLen⟩ (Nat.zero_le _) hm.1 with ⟨h1, _⟩ | ⟨_, w', h2, h3⟩
    · simp at h1; omega
    · exact ⟨rfl, _, w', h2, h3⟩
  · cases hnew

/-- **The sink accepts a decompressor's output exactly when its total is within the limit** —
for a fresh writer. -/
theorem bvw_run_ok_iff (maxLen : Nat) (chunks : List Nat) (hm : maxLen ≤ isizeMax)
    (hch : ∀ n, n ∈ chunks → n ≤ isizeMax) (w' : BVW) :
    (BVW.mk 0 maxLen).run chunks = .ok w' ↔ chunks.sum ≤ maxLen ∧ w' = ⟨chunks.sum, maxLen⟩ := by
  rcases run_fits_or_refused chunks hch ⟨0, maxLen⟩ (Nat.zero_le _) hm with ⟨h1, h2⟩ | ⟨h1, v, h2, _⟩ <;>
    rw [h2] <;> simp at h1 ⊢
  · exact ⟨fun h => ⟨h1, h.symm⟩, fun h => h.2.symm⟩
  · omega

/-! ### the manifest-store loop: one reservation per compressed manifest -/

def StoreIn.isBrob : StoreIn → Bool
  | .brob _ => true
  | .plain _ => false

/-- decompressed (or plain) size of a manifest box -/
def StoreIn.size : StoreIn → Nat
  | .plain s => s
  | .brob ch => ch.sum

/-- all decompressor chunks are slices (`≤ isize::MAX`) -/
def StoreIn.wf : StoreIn → Prop
  | .plain _ => True
  | .brob ch => ∀ n, n ∈ ch → n ≤ isizeMax

def brobCount (ss : List StoreIn) : Nat := (ss.filter StoreIn.isBrob).length

@[simp] theorem brobCount_nil : brobCount [] = 0 := rfl
@[simp] theorem brobCount_plain (s : Nat) (rest : List StoreIn) :
    brobCount (.plain s :: rest) = brobCount rest := by simp [brobCount, StoreIn.isBrob]
@[simp] theorem brobCount_brob (ch : List Nat) (rest : List StoreIn) :
    brobCount (.brob ch :: rest) = brobCount rest + 1 := by
  unfold brobCount
  rw [List.filter_cons_of_pos (by rfl)]
  rfl

/-- **Never more reservations than compressed manifests, whatever the outcome** — the number of
`max_manifest_size` reservations made by the store loop is at most the number of `brob` manifest
boxes of the input (so the bytes reserved in total are at most `brobCount · max_manifest_size`,
one at a time). -/
theorem loadStores_reservations_le (maxLen avail : Nat) (ss : List StoreIn) :
    ∀ r l, (loadStores maxLen avail ss r l).1 ≤ r + brobCount ss := by
  induction ss with
  | nil => intro r l; simp [loadStores]
  | cons s rest ih =>
    intro r l
    cases s with
    | plain sz =>
      have := ih r (l ++ [sz])
      simpa [loadStores] using this
    | brob ch =>
      unfold loadStores
      rw [brobCount_brob]
      cases hn : BVW.new maxLen avail with
      | error e => simp only; omega
      | ok p =>
        obtain ⟨w, c⟩ := p
        simp only
        cases hr : w.run ch with
        | error q => obtain ⟨e, v⟩ := q; simp only; omega
        | ok w' =>
          have := ih (r + 1) (l ++ [w'.len])
          simp only
          omega

/-- **The store loads exactly when every compressed manifest decompresses to at most the limit**;
then it made one reservation per compressed manifest and holds each manifest at its
(decompressed) size. -/
theorem loadStores_ok_iff (maxLen avail : Nat) (hm : maxLen ≤ isizeMax) (ha : maxLen ≤ avail)
    (ss : List StoreIn) (hwf : ∀ s, s ∈ ss → s.wf) :
    ∀ r l r' l', loadStores maxLen avail ss r l = (r', .ok l') ↔
      ((∀ s, s ∈ ss → s.isBrob = true → s.size ≤ maxLen) ∧
        r' = r + brobCount ss ∧ l' = l ++ ss.map StoreIn.size) := by
  induction ss with
  | nil =>
    intro r l r' l'
    simp only [loadStores, Prod.mk.injEq, Except.ok.injEq, brobCount_nil, List.map_nil,
      List.append_nil, List.not_mem_nil, false_imp_iff, implies_true, true_and, Nat.add_zero]
    constructor <;> rintro ⟨rfl, rfl⟩ <;> exact ⟨rfl, rfl⟩
  | cons s rest ih =>
    intro r l r' l'
    have ih := ih (fun t ht => hwf t (List.mem_cons_of_mem _ ht))
    cases s with
    | plain sz =>
      simp only [loadStores]
      rw [ih, brobCount_plain]
      simp [StoreIn.isBrob, StoreIn.size]
    | brob ch =>
      unfold loadStores
      rw [BVW_new_eq, if_pos ⟨hm, ha⟩, brobCount_brob]
      rcases run_fits_or_refused ch (hwf (.brob ch) (List.mem_cons_self ..)) ⟨0, maxLen⟩ (Nat.zero_le _) hm
        with ⟨h1, h2⟩ | ⟨h1, v, h2, _⟩ <;> simp only [h2, Nat.zero_add] at h1 ⊢
      · rw [ih]
        simp [StoreIn.isBrob, StoreIn.size, h1, Nat.add_assoc, Nat.add_comm 1]
      · simp [StoreIn.isBrob, StoreIn.size, Nat.not_le.mpr h1]

/-- bytes of the uncompressed manifest boxes of the input -/
def plainBytes : List StoreIn → Nat
  | [] => 0
  | .plain s :: rest => s + plainBytes rest
  | .brob _ :: rest => plainBytes rest

/-- **What a loaded store holds is bounded by the uncompressed input plus
`max_manifest_size` per compressed manifest** (not by one `max_manifest_size`). -/
theorem loadStores_held_le (maxLen avail : Nat) (hm : maxLen ≤ isizeMax) (ha : maxLen ≤ avail)
    (ss : List StoreIn) (hwf : ∀ s, s ∈ ss → s.wf) (r' : Nat) (l' : List Nat)
    (h : loadStores maxLen avail ss 0 [] = (r', .ok l')) :
    l'.sum ≤ plainBytes ss + brobCount ss * maxLen := by
  obtain ⟨hall, -, rfl⟩ := (loadStores_ok_iff maxLen avail hm ha ss hwf 0 [] r' l').1 h
  simp only [List.nil_append]
  clear h hwf
  induction ss with
  | nil => simp [plainBytes]
  | cons s rest ih =>
    have ih := ih (fun t ht hb => hall t (List.mem_cons_of_mem _ ht) hb)
    cases s with
    | plain sz =>
      rw [brobCount_plain]
      simp only [List.map_cons, List.sum_cons, StoreIn.size, plainBytes]
      omega
    | brob ch =>
      have := hall (.brob ch) (List.mem_cons_self ..) rfl
      rw [brobCount_brob, Nat.add_mul]
      simp only [List.map_cons, List.sum_cons, StoreIn.size, plainBytes, Nat.one_mul] at ih this ⊢
      omega

theorem wf_replicate_brob {maxLen : Nat} (hm : maxLen ≤ isizeMax) (n : Nat) :
    ∀ s, s ∈ List.replicate n (StoreIn.brob [maxLen]) → s.wf := by
  intro s hs
  rw [List.eq_of_mem_replicate hs]
  intro k hk
  rw [List.mem_singleton.mp hk]
  exact hm

/-- The aggregate is **not** bounded by the configured limit itself: `n` compressed manifests that
each decompress to exactly the limit are all accepted, and the store then holds `n · limit`.
(The statement's "configured decompression limit" is a per-manifest limit in the code.) -/
theorem aggregate_exceeds_single_limit (maxLen : Nat) (hm : maxLen ≤ isizeMax) (n : Nat) :
    loadStores maxLen isizeMax (List.replicate n (.brob [maxLen])) 0 [] =
      (n, .ok (List.replicate n maxLen)) := by
  rw [loadStores_ok_iff maxLen isizeMax hm hm _ (wf_replicate_brob hm n)]
  refine ⟨?_, ?_, ?_⟩
  · intro s hs _
    rw [List.eq_of_mem_replicate hs]; simp [StoreIn.size]
  · have : ∀ n, brobCount (List.replicate n (StoreIn.brob [maxLen])) = n := by
      intro n; induction n with
      | zero => rfl
      | succ n ih => rw [List.replicate_succ, brobCount_brob, ih]
    rw [this]; omega
  · simp [StoreIn.size]

/-- The full reading of "never allocates far beyond … the configured decompression limit" for
a store: what is held is bounded by the uncompressed input plus **one** limit. False of the
code (`store_held_within_one_limit_false`); `loadStores_held_le` is the part that holds
(`brobCount · limit`). Replayed on the implementation by the harness probe
`brob-limit-sized xN` (known finding `*:multi-brob`). -/
def StoreHeldWithinOneLimit : Prop :=
  ∀ (maxLen : Nat) (ss : List StoreIn) (r' : Nat) (l' : List Nat), maxLen ≤ isizeMax →
    (∀ s, s ∈ ss → s.wf) → loadStores maxLen isizeMax ss 0 [] = (r', .ok l') →
    l'.sum ≤ plainBytes ss + maxLen

theorem store_held_within_one_limit_false : ¬ StoreHeldWithinOneLimit := by
  intro h
  have := h 10 (List.replicate 3 (.brob [10])) 3 (List.replicate 3 10) (by decide)
    (wf_replicate_brob (by decide) 3) (aggregate_exceeds_single_limit 10 (by decide) 3)
  simp [plainBytes, List.replicate] at this

/-! ### assertion-count limits -/

theorem assertion_loop_total (n : Nat) :
    readAssertionLoop n = .ok n ∨ readAssertionLoop n = .error .tooManyAssertions := by
  unfold readAssertionLoop; split <;> simp

theorem assertion_loop_iff (n k : Nat) :
    readAssertionLoop n = .ok k ↔ k = n ∧ n ≤ MAX_ASSERTIONS := by
  unfold readAssertionLoop
  split
  · next h => exact ⟨(nomatch ·), fun e => by omega⟩
  · next h => rw [Except.ok.injEq]; constructor <;> intro e <;> omega

/-- The reader's assertion loop runs at most `MAX_ASSERTIONS` times, whatever count the manifest
declares. -/
theorem assertion_loop_bounded (n k : Nat) (h : readAssertionLoop n = .ok k) :
    k = n ∧ k ≤ MAX_ASSERTIONS := by
  have := (assertion_loop_iff n k).1 h
  omega

theorem builderAdds_eq (k : Nat) : ∀ count,
    builderAdds count k = if count ≥ MAX_ASSERTIONS then count else min (count + k) MAX_ASSERTIONS := by
  induction k with
  | zero => intro c; unfold builderAdds; split <;> omega
  | succ k ih =>
    intro c
    unfold builderAdds builderAdd
    by_cases h : c ≥ MAX_ASSERTIONS
    · rw [if_pos h, if_pos h]; exact (ih c).trans (if_pos h)
    · rw [if_neg h, if_neg h]
      simp only
      rw [ih (c + 1)]
      split <;> omega

/-- Starting **within** the limit, `add_assertion` never takes the builder beyond
`MAX_ASSERTIONS`, whatever number of adds is attempted. The hypothesis is necessary
(`builder_definition_unbounded`): a definition is loaded without the check. -/
theorem builder_assertions_bounded (k : Nat) :
    ∀ count, count ≤ MAX_ASSERTIONS → builderAdds count k ≤ MAX_ASSERTIONS := by
  intro c h
  rw [builderAdds_eq]
  split <;> omega

/-- The full statement "the builder never holds more than `MAX_ASSERTIONS`": false of the code,
because `with_definition` / `from_json` / `with_archive` fill `definition.assertions` without
`check_assertion_limit`. -/
def BuilderBoundedFull : Prop := ∀ n k, builderAdds (builderLoad n) k ≤ MAX_ASSERTIONS

/-- witness: a definition with more than the limit stays as it is -/
theorem builder_definition_unbounded :
    ∃ c k, c > MAX_ASSERTIONS ∧ builderAdds (builderLoad c) k = c :=
  ⟨MAX_ASSERTIONS + 1, 3, by decide, by rw [builderAdds_eq]; simp [builderLoad]⟩

theorem builder_bounded_full_false : ¬ BuilderBoundedFull := by
  intro h
  have := h (MAX_ASSERTIONS + 1) 0
  simp only [builderAdds, builderLoad] at this
  omega

theorem claimAdds_eq (k : Nat) : ∀ count, claimAdds count k =
    if k = 0 ∨ count + k ≤ MAX_ASSERTIONS then .ok (count + k) else .error .tooManyAssertions := by
  induction k with
  | zero => intro c; rfl
  | succ k ih =>
    intro c
    unfold claimAdds claimAdd
    by_cases h : c ≥ MAX_ASSERTIONS
    · rw [if_pos h, if_neg (by omega)]
    · rw [if_neg h]
      simp only
      rw [ih (c + 1)]
      by_cases h' : c + (k + 1) ≤ MAX_ASSERTIONS
      · rw [if_pos (by omega), if_pos (Or.inr h'), Nat.add_right_comm, Nat.add_assoc]
      · rw [if_neg (by omega), if_neg (by omega)]

/-- **`k` adds to a claim succeed exactly while the total stays within the limit**, from every
starting count. -/
theorem claimAdds_ok_iff (k : Nat) : ∀ count c',
    claimAdds count k = .ok c' ↔ c' = count + k ∧ (k = 0 ∨ count + k ≤ MAX_ASSERTIONS) := by
  intro c c'
  rw [claimAdds_eq]
  split
  · next h => rw [Except.ok.injEq]; exact ⟨fun e => ⟨e.symm, h⟩, fun e => e.1.symm⟩
  · next h => exact ⟨(nomatch ·), fun e => absurd e.2 h⟩

/-- **What `Builder::sign` puts into a claim is bounded whatever the definition held**: a fresh
claim (`Claim::new`: empty assertion store) after any number of `add_assertion` calls — the
definition's assertions plus everything `to_claim` adds itself — holds at most `MAX_ASSERTIONS`;
more is the `TooManyAssertions` error. No hypothesis about the definition. -/
theorem claim_assertions_bounded (k c' : Nat) (h : claimAdds 0 k = .ok c') :
    c' = k ∧ c' ≤ MAX_ASSERTIONS := by
  have := (claimAdds_ok_iff k 0 c').1 h
  omega

theorem claim_refuses_oversize (k : Nat) (h : k > MAX_ASSERTIONS) :
    claimAdds 0 k = .error .tooManyAssertions := by
  rw [claimAdds_eq, if_neg (by omega)]

/-! ### the C10-level statement over everything that is modelled -/

/-- **Every modelled parser / limit is total, depth-bounded and allocation-bounded.**
  1. JUMBF box reader (C18): result or error on every byte string, nesting ≤ `MAX_JUMB_DEPTH`,
     no arithmetic panic, no runaway loop;
  2. range hashing arithmetic (C13): no `u64` overflow/underflow, the chunk loop terminates — for
     all ranges including `u64::MAX` (that no read goes past the end is the third clause of
     `C13.no_panic`, not repeated here). **Not** "no panic at all": the
     `u32` progress counters of that code do overflow (a panic in overflow-checked builds) once
     a run needs more than `u32::MAX` chunks (`C13.counter_overflow_witness`,
     `C13.no_counter_overflow_full_false`); what is stated here is the conditional form — no
     counter panic whenever the chunk count fits `u32` (at the production chunk size: every
     stream shorter than 2^60 bytes);
  3. COSE / DataHash padding (C14): no `usize` underflow, loops terminate;
  4. ingredient validation walk (C19): recursion depth ≤ the configured limit + 1 and the whole
     store walk terminates on every ingredient graph, cyclic ones included;
  5. JUMBF URI / label helpers (C34): no out-of-range index or slice on any string;
  6. `read_to_vec` (here): the allocation is bounded by the remaining stream;
  7. bounded decompression (here): per compressed manifest the sink holds at most the limit, and
     the store loop makes at most one limit-sized reservation per compressed manifest of the
     input (the aggregate is `brobCount · limit`, see `aggregate_exceeds_single_limit`);
  8. assertion counts (here): the reader's loop and a claim built by `sign` are bounded by
     `MAX_ASSERTIONS` without any hypothesis; the builder's own list, bounded only from a start
     within the limit, has no conjunct here (`builder_assertions_bounded`,
     `builder_bounded_full_false`).
The `≠ fuelOut / outOfFuel / .panic .fuel` conjuncts say that the *model's* loops finish within a
fuel that is computed from the input — a termination statement about the model, carried to the
code only by the differential runs of C13/C14/C19 (same results on the same inputs), not a bound
on wall-clock time. -/
theorem modelled_parsers_total :
    (∀ x : C18.Bytes, (∃ er, C18.parse x = .err er) ∨
        (∃ b e, C18.parse x = .ok (b, e) ∧ b.height ≤ C18.MAX_JUMB_DEPTH)) ∧
    (∀ (alg : String) (data : List UInt8) (hr : Option (List C13.HashRange)) (isExcl : Bool)
        (buf : Nat) (c : Option Nat), data.length ≤ C13.u64Max → 0 < buf →
        C13.hashModel alg data hr isExcl buf c ≠ .panic .arith ∧
        C13.hashModel alg data hr isExcl buf c ≠ .panic .fuel ∧
        ((∀ ps, C13.buildPieces data.length hr isExcl = .ok ps → C13.chunkCount buf ps ≤ C13.u32Max) →
          C13.hashModel alg data hr isExcl buf c ≠ .panic .counter)) ∧
    (∀ (s : C14.Sign1) (e : Option Nat), C14.padCoseSig s e ≠ .panic ∧ C14.padCoseSig s e ≠ .fuelOut) ∧
    (∀ (d : C14.DH) (want : Nat), C14.padToSize d want ≠ .fuelOut) ∧
    (∀ (lim : Nat) (s : C19.Store) (root : Nat) (st : C19.ISt),
        (C19.ic lim s (lim + 1) 0 root st).1 ≠ .outOfFuel) ∧
    (∀ (lim : Nat) (s : C19.Store) (root : Nat), (C19.validate lim s root).out ≠ .outOfFuel) ∧
    (∀ (s m : C34.Str) (n : Nat), (C34.toNormalizedUri s).isSome ∧ (C34.toAbsoluteUri m s).isSome ∧
        (C34.manifestLabelFromUri s).isSome ∧ (C34.assertionLabelFromUri s).isSome ∧
        (C34.labelWithInstance s n).isSome) ∧
    (∀ pos len dataLen avail a r, readToVec pos len dataLen avail = .ok (a, r) → a ≤ len - pos) ∧
    (∀ (maxLen : Nat) (chunks : List Nat), maxLen ≤ isizeMax → (∀ n, n ∈ chunks → n ≤ isizeMax) →
        match (BVW.mk 0 maxLen).run chunks with
        | .ok w' => w'.len ≤ maxLen
        | .error (_, w') => w'.len ≤ maxLen) ∧
    (∀ (maxLen avail : Nat) (ss : List StoreIn),
        (loadStores maxLen avail ss 0 []).1 ≤ brobCount ss) ∧
    (∀ n k, readAssertionLoop n = .ok k → k ≤ MAX_ASSERTIONS) ∧
    (∀ k c, claimAdds 0 k = .ok c → c ≤ MAX_ASSERTIONS) := by
  refine ⟨C18.parse_total_depth_bounded, ?_, C14.cose_no_panic, C14.datahash_terminates, ?_,
    C19.validate_terminates, ?_, ?_, ?_, ?_, ?_, ?_⟩
  · intro alg data hr isExcl buf c hl hb
    have := C13.no_panic alg data hr isExcl buf c hl hb
    exact ⟨this.1, this.2.1, fun hcnt => C13.no_counter_overflow_partial alg data hr isExcl buf c hl hb hcnt⟩
  · intro lim s root st; exact (C19.ic_depth_bounded lim s root st).1
  · intro s m n
    obtain ⟨hnorm, habs, _, hmlabel, halabel, _, _, hlwi, _⟩ := C34.no_panic s m n
    exact ⟨hnorm, habs, hmlabel, halabel, hlwi⟩
  · intro pos len dataLen avail a r h
    exact (readToVec_alloc_le_remaining pos len dataLen avail a r h).2.2.2
  · intro maxLen chunks hm hch
    rcases run_fits_or_refused chunks hch ⟨0, maxLen⟩ (Nat.zero_le _) hm with ⟨h1, h2⟩ | ⟨_, w', h2, h3⟩ <;> rw [h2]
    · exact h1
    · exact h3
  · intro maxLen avail ss
    have := loadStores_reservations_le maxLen avail ss 0 []
    omega
  · intro n k h; exact (assertion_loop_bounded n k h).2
  · intro k c h; exact (claim_assertions_bounded k c h).2

/-! ### the source tables (regenerated from sdk/src on every run by translators/c10_alloc_sites.py)

Everything above is about the modelled guards and limits. For the *other* allocations of the SDK the
claim is structural and re-decided on the current source: every allocation whose size is an
expression, every `read_to_end` / `read_to_string` and every decompressor call of the non-test
code is listed with what bounds it; a site with no recognised bound (`Bound.none`) makes this
theorem — and the check — fail. The classes and the reviewed entries (each with a guard pattern
that must still be present in the function) are in the translator; translator and review file
are part of the trusted base. -/

/-- **No row of the translator-written `Gen.allocSites` carries the class `Bound.none`** (rows of
class `uncappedRemote` are the downloads listed in `uncapped_sites_listed`). That the table lists
every sized allocation of the SDK, and that a class is a bound, is the translator's. -/
theorem alloc_sites_guarded :
    (Gen.allocSites.all fun s => s.guarded || s.bound == Gen.Bound.uncappedRemote) = true := by
  decide +kernel

/-- the sites that are known **not** to be bounded (kept visible, not hidden in a class) -/
theorem uncapped_sites_listed :
    (Gen.allocSites.filter fun s => s.bound == Gen.Bound.uncappedRemote).map (·.fn) =
      ["fetch_remote_manifest"] := by
  decide +kernel

/-- every entry of the translator's review file still matches a site of the source -/
theorem no_stale_reviews : Gen.staleReviews = 0 := by decide

/-- **In every row of `Gen.limitSites` the translator's dominance flag is set.** The rows are the
limit check itself and the places the translator found that grow an assertion list: the builder's `push` (check:
`check_assertion_limit`), the claim's `push` (check in `add_assertion_impl`), the loader's unchecked
push and its one call, in `Store::from_jumbf_impl` (count check in front of the loop). That the
check dominates each, and that the source has no other way (`extend`, `insert`, …), is the
translator's test, not proved here; on it rests that `claimAdd` / `readAssertionLoop` stand for
*all* growth of a claim. -/
theorem limit_sites_guarded : (Gen.limitSites.all fun r => r.2.2.2) = true := by decide +kernel

/-- the rows of `Gen.limitSites` by what they are: these five, each once (another place that grows
an assertion list, or one that has gone, changes the list) -/
theorem limit_sites_complete :
    (Gen.limitSites.map fun r => r.2.2.1) =
      ["builder-list-push", "limit-definition", "claim-list-push", "loader-push", "loader-push-call"] :=
  rfl

/-! ### Non-vacuity -/
example : readToVec 10 100 50 isizeMax = .ok (50, 50) := by rfl
example : readToVec 10 100 91 isizeMax = .error .badParam := by rfl
example : readToVec 10 100 (u64Max) isizeMax = .error .badParam := by rfl
example : (BVW.mk 0 10).run [4, 4, 4] = .error (.io, ⟨8, 10⟩) := by rfl
example : (BVW.mk 0 10).run [4, 6] = .ok ⟨10, 10⟩ := by rfl
example : readAssertionLoop 100001 = .error .tooManyAssertions := by rfl
example : builderAdds 99999 5 = 100000 := by rfl
example : builderAdds (builderLoad 100007) 5 = 100007 := by rw [builderAdds_eq]; rfl
example : claimAdds 0 3 = .ok 3 := by rfl
example : safeVecT 8 5 isizeMax true = .ok (40, 5) := by rfl
example : safeVecT 8 (2 ^ 60) isizeMax false = .error .insufficientMemory := by rfl
example : safeVecT 4 (2 ^ 61 - 1) isizeMax false = .ok (2 ^ 63 - 4, 0) := by rfl
-- one manifest within the limit, an uncompressed one, one over it: two reservations, then the refusal
example : loadStores 10 isizeMax [.brob [4, 6], .plain 99, .brob [4, 4, 4], .brob [1]] 0 [] =
    (2, .error .io) := by rfl
example : loadStores 10 isizeMax [.brob [4, 6], .plain 99, .brob [1]] 0 [] = (2, .ok [10, 99, 1]) := by rfl
example : StoreIn.wf (.brob [4, 6]) := by intro n hn; simp at hn; rcases hn with rfl | rfl <;> decide

end C2pa.C10
