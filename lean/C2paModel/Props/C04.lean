import C2paModel.Model.C04
import C2paModel.Lemmas.DecideRun
/-
C04 — property theorems. The statement (properties.jsonl):

  Valid only if the active manifest's claim signature validated and was inside its
  validity period and every failure code (of the active manifest and of every
  ingredient delta) is one of the explicitly tolerated credential codes; Trusted only
  if additionally the signing credential was found trusted and there are no failures
  at all; otherwise Invalid. Adding any non-tolerated failure never turns Invalid
  into Valid or Trusted.

All theorems quantify over every `Results` value (any number of deltas, any codes,
known or unknown) and every `Status`.

What other properties build on: `state` reads only the decisive success codes of the active
manifest and the recorded failure codes (`validCond_iff`, `trustedCond_iff`, `invalid_of_failure`,
`not_trusted_of_failure`, `state_congr`), and `add_status` changes those in one way
(`mem_failures_addStatus`, `actSuccess_addStatus`; for a sequence of calls `mem_failures_foldl`,
`actSuccess_foldl`); from these `nontolerated_failure_in_sequence_invalid`,
`harmless_never_invalid`, `foldl_add_inert`, the `placed_*` lemmas, and `foldl_entries` /
`invalid_of_entry` for a manifest's own log.
-/
namespace C2pa.C04

/-- The tolerated set is exactly `signingCredential.untrusted` or the `cawg.x509.` prefix. -/
theorem tolerated_exact (c : Code) :
    tolerated c = true ↔ c = cUntrusted ∨ ∃ t, c = cawgX509Prefix ++ t := by
  simp only [tolerated, Bool.or_eq_true, beq_iff_eq, List.isPrefixOf_iff_prefix]
  exact or_congr Iff.rfl (exists_congr fun _ => eq_comm)

theorem dataHashMismatch_not_tolerated :
    tolerated "assertion.dataHash.mismatch".toList = false := by
  delta tolerated cUntrusted cawgX509Prefix; decide_run

/-- The statement's condition for "at least Valid". -/
def ValidCond (r : Results) : Prop :=
  ∃ a, r.active = some a ∧ cSigValidated ∈ a.success ∧ cInsideValidity ∈ a.success ∧
    (∀ f ∈ a.failure, tolerated f = true) ∧
    ∀ d ∈ deltasOf r, ∀ f ∈ d.codes.failure, tolerated f = true

/-- The statement's condition for Trusted. -/
def TrustedCond (r : Results) : Prop :=
  ∃ a, r.active = some a ∧ cSigValidated ∈ a.success ∧ cInsideValidity ∈ a.success ∧
    cTrusted ∈ a.success ∧ a.failure = [] ∧ ∀ d ∈ deltasOf r, d.codes.failure = []

theorem failuresTolerated_iff (c : Codes) :
    failuresTolerated c = true ↔ ∀ f ∈ c.failure, tolerated f = true := by
  unfold failuresTolerated
  cases c.failure <;> simp [List.all_eq_true]

theorem isValid_iff (a : Codes) (r : Results) :
    isValid a r = true ↔
      cSigValidated ∈ a.success ∧ cInsideValidity ∈ a.success ∧
      (∀ f ∈ a.failure, tolerated f = true) ∧
      ∀ d ∈ deltasOf r, ∀ f ∈ d.codes.failure, tolerated f = true := by
  simp only [isValid, Bool.and_eq_true, List.any_beq', List.contains_iff_mem,
    failuresTolerated_iff, List.all_eq_true, and_assoc]

theorem isTrusted_iff (a : Codes) (r : Results) :
    isTrusted a r = true ↔
      cSigValidated ∈ a.success ∧ cInsideValidity ∈ a.success ∧ cTrusted ∈ a.success ∧
      a.failure = [] ∧ ∀ d ∈ deltasOf r, d.codes.failure = [] := by
  simp only [isTrusted, Bool.and_eq_true, List.any_beq', List.contains_iff_mem, isValid_iff,
    List.all_eq_true, List.isEmpty_iff]
  constructor
  · rintro ⟨⟨⟨h1, h2⟩, h3⟩, h4, h5, _, _⟩; exact ⟨h4, h5, h1, h2, h3⟩
  · rintro ⟨h1, h2, h3, h4, h5⟩
    refine ⟨⟨⟨h3, h4⟩, h5⟩, h1, h2, by simp [h4], fun d hd => by simp [h5 d hd]⟩

theorem trusted_implies_valid_cond (r : Results) (h : TrustedCond r) : ValidCond r := by
  obtain ⟨a, ha, h1, h2, _, h4, h5⟩ := h
  exact ⟨a, ha, h1, h2, by simp [h4], fun d hd => by simp [h5 d hd]⟩

/-- **Trusted ⇔ the statement's Trusted condition.** -/
theorem state_trusted_iff (r : Results) : state r = .trusted ↔ TrustedCond r := by
  unfold state TrustedCond
  cases r.active with
  | none => simp
  | some a =>
    simp only [Option.some.injEq, exists_eq_left', ← isTrusted_iff]
    cases isTrusted a r <;> cases isValid a r <;> simp

/-- **Not Invalid (Valid or Trusted) ⇔ the statement's Valid condition.** -/
theorem state_not_invalid_iff (r : Results) : state r ≠ .invalid ↔ ValidCond r := by
  unfold state ValidCond
  cases r.active with
  | none => simp
  | some a =>
    simp only [Option.some.injEq, exists_eq_left', ← isValid_iff]
    have : isTrusted a r = true → isValid a r = true := fun h => by
      rw [isTrusted, Bool.and_eq_true] at h; exact h.2
    cases hT : isTrusted a r <;> cases hV : isValid a r <;> simp_all

/-- **Valid ⇔ Valid condition and not the Trusted condition.** -/
theorem state_valid_iff (r : Results) : state r = .valid ↔ ValidCond r ∧ ¬ TrustedCond r := by
  rw [← state_not_invalid_iff, ← state_trusted_iff]
  cases state r <;> simp

/-- **Otherwise Invalid.** -/
theorem state_invalid_iff (r : Results) : state r = .invalid ↔ ¬ ValidCond r := by
  rw [← state_not_invalid_iff]; simp

/-! ### The state as a function of the active success codes and of all recorded failures -/

/-- success codes of the active manifest (none while it is absent) -/
def actSuccess (r : Results) : List Code := (r.active.getD {}).success

/-- all recorded failure codes: the active manifest's, then those of each ingredient delta -/
def failures (r : Results) : List Code :=
  (r.active.getD {}).failure ++ (deltasOf r).flatMap (·.codes.failure)

theorem validCond_iff (r : Results) :
    ValidCond r ↔ cSigValidated ∈ actSuccess r ∧ cInsideValidity ∈ actSuccess r ∧
      ∀ f ∈ failures r, tolerated f = true := by
  unfold ValidCond actSuccess failures
  cases r.active with
  | none => simp
  | some a =>
    simp only [Option.some.injEq, exists_eq_left', Option.getD_some, List.mem_append,
      List.mem_flatMap, or_imp, forall_and, forall_exists_index, and_imp]
    exact and_congr_right fun _ => and_congr_right fun _ => and_congr_right fun _ =>
      ⟨fun h f d hd hf => h d hd f hf, fun h d hd f hf => h f d hd hf⟩

theorem trustedCond_iff (r : Results) :
    TrustedCond r ↔ cSigValidated ∈ actSuccess r ∧ cInsideValidity ∈ actSuccess r ∧
      cTrusted ∈ actSuccess r ∧ failures r = [] := by
  unfold TrustedCond actSuccess failures
  cases r.active <;> simp

/-- the success codes that `validation_state` looks for -/
def decisive : List Code := [cSigValidated, cInsideValidity, cTrusted]

theorem state_congr (r r' : Results)
    (hs : ∀ c ∈ decisive, c ∈ actSuccess r' ↔ c ∈ actSuccess r)
    (hf : ∀ f, f ∈ failures r' ↔ f ∈ failures r) : state r' = state r := by
  have h1 := hs cSigValidated (by simp [decisive])
  have h2 := hs cInsideValidity (by simp [decisive])
  have h3 := hs cTrusted (by simp [decisive])
  have hv : ValidCond r' ↔ ValidCond r := by simp only [validCond_iff, hf, h1, h2]
  have ht : TrustedCond r' ↔ TrustedCond r := by
    simp only [trustedCond_iff, List.eq_nil_iff_forall_not_mem, hf, h1, h2, h3]
  rw [← state_not_invalid_iff, ← state_not_invalid_iff] at hv
  rw [← state_trusted_iff, ← state_trusted_iff] at ht
  cases h' : state r' <;> cases h : state r <;> simp [h', h] at hv ht ⊢

/-- **A recorded failure with a non-tolerated code means Invalid**, wherever it is recorded. -/
theorem invalid_of_failure (r : Results) (f : Code) (hf : f ∈ failures r)
    (ht : tolerated f = false) : state r = .invalid := by
  rw [state_invalid_iff, validCond_iff]
  rintro ⟨_, _, h⟩
  rw [h f hf] at ht; cases ht

theorem failure_add (c : Codes) (s : Status) :
    (c.add s).failure = c.failure ++ if s.kind = .failure then [s.code] else [] := by
  cases h : s.kind <;> simp [Codes.add, h]

theorem success_add (c : Codes) (s : Status) :
    (c.add s).success = c.success ++ if s.kind = .success then [s.code] else [] := by
  cases h : s.kind <;> simp [Codes.add, h]

theorem active_addStatus (r : Results) (t : Status) :
    (addStatus r t).active =
      if t.uri = none then some ((r.active.getD {}).add t) else r.active := by
  unfold addStatus
  cases t.uri with
  | none => rfl
  | some u => dsimp only; split <;> rfl

theorem actSuccess_addStatus (r : Results) (s : Status) :
    actSuccess (addStatus r s) =
      actSuccess r ++ if s.kind = .success ∧ s.uri = none then [s.code] else [] := by
  unfold actSuccess
  rw [active_addStatus]
  by_cases hu : s.uri = none <;> simp [hu, success_add]

/-! ### `add_status` appends the code under the key of the status

The results object is a table from keys — `none`: the active manifest, `some u`: the ingredient
deltas with URI `u` — to codes; `add_status` appends the code under the key of the status (for a
delta: to the first one with that URI, else to a new last one), and the state reads the union. -/

/-- failure codes recorded under a key -/
def failuresAt (r : Results) : Option (List Char) → List Code
  | none => (r.active.getD {}).failure
  | some u => ((deltasOf r).filter (·.uri = u)).flatMap (·.codes.failure)

theorem mem_failures_iff (r : Results) (f : Code) : f ∈ failures r ↔ ∃ k, f ∈ failuresAt r k := by
  rw [Option.exists]
  simp only [failures, failuresAt, List.mem_append, List.mem_flatMap, List.mem_filter,
    decide_eq_true_eq]
  exact or_congr_right
    ⟨fun ⟨d, hd, hf⟩ => ⟨d.uri, d, ⟨hd, rfl⟩, hf⟩, fun ⟨_, d, hd, hf⟩ => ⟨d, hd.1, hf⟩⟩

/-- failure codes a list of deltas records under a URI (`failuresAt r (some v)` is this of
`deltasOf r`) -/
def deltaFailures (ds : List Delta) (v : List Char) : List Code :=
  (ds.filter (·.uri = v)).flatMap (·.codes.failure)

theorem mem_deltaFailures_cons (d : Delta) (ds : List Delta) (v : List Char) (f : Code) :
    f ∈ deltaFailures (d :: ds) v ↔ (d.uri = v ∧ f ∈ d.codes.failure) ∨ f ∈ deltaFailures ds v := by
  unfold deltaFailures
  by_cases hv : d.uri = v <;> simp [hv]

theorem mem_added_failure (t : Status) (f : Code) :
    f ∈ (if t.kind = .failure then [t.code] else []) ↔ t.kind = .failure ∧ f = t.code := by
  split <;> simp [*]

/-- What `add_status` does to the deltas (to the first one with the URI, else a new last one), read
under every key: the code is appended under the URI of the call. One walk of `addToFirst`; which
delta was changed is not said, since the table reads every delta with the URI. -/
theorem mem_deltaFailures_add (u : List Char) (t : Status) (v : List Char) (f : Code) :
    ∀ ds : List Delta,
      f ∈ deltaFailures
          ((addToFirst u t ds).getD (ds ++ [{ uri := u, codes := ({} : Codes).add t }])) v ↔
        f ∈ deltaFailures ds v ∨ (u = v ∧ t.kind = .failure ∧ f = t.code) := by
  intro ds
  induction ds with
  | nil =>
    simp only [addToFirst, Option.getD_none, List.nil_append, mem_deltaFailures_cons, failure_add,
      mem_added_failure]
    simp [deltaFailures]
  | cons d ds ih =>
    unfold addToFirst
    by_cases hu : d.uri = u
    · subst hu
      simp only [beq_self_eq_true, if_true, Option.getD_some, mem_deltaFailures_cons, failure_add,
        List.mem_append, mem_added_failure, and_or_left, or_assoc,
        or_comm (a := f ∈ deltaFailures ds v)]
    · rw [if_neg (by simpa using hu)]
      cases h : addToFirst u t ds <;> rw [h] at ih <;>
        simp only [Option.map_none, Option.map_some, Option.getD_none, Option.getD_some,
          List.cons_append, mem_deltaFailures_cons, or_assoc] at ih ⊢ <;> rw [ih]

theorem mem_failuresAt_addStatus (r : Results) (t : Status) (k : Option (List Char)) (f : Code) :
    f ∈ failuresAt (addStatus r t) k ↔
      f ∈ failuresAt r k ∨ (t.uri = k ∧ t.kind = .failure ∧ f = t.code) := by
  cases k with
  | none =>
    unfold failuresAt
    rw [active_addStatus]
    by_cases hu : t.uri = none <;> simp [hu, failure_add]
  | some v =>
    cases hu : t.uri with
    | none => simp only [failuresAt, addStatus, hu, deltasOf, reduceCtorEq, false_and, or_false]
    | some u =>
      have h : deltasOf (addStatus r t) =
          (addToFirst u t (deltasOf r)).getD
            (deltasOf r ++ [{ uri := u, codes := ({} : Codes).add t }]) := by
        unfold addStatus
        rw [hu]
        dsimp only
        cases addToFirst u t (deltasOf r) <;> rfl
      show f ∈ deltaFailures (deltasOf (addStatus r t)) v ↔ f ∈ deltaFailures (deltasOf r) v ∨ _
      rw [h, mem_deltaFailures_add, Option.some.injEq]

theorem mem_failures_addStatus (r : Results) (s : Status) (f : Code) :
    f ∈ failures (addStatus r s) ↔ f ∈ failures r ∨ (s.kind = .failure ∧ f = s.code) := by
  simp only [mem_failures_iff, mem_failuresAt_addStatus, exists_or, exists_and_right, exists_eq',
    true_and]

/-! ### A sequence of `add_status` calls appends the code of each status under its key -/

theorem mem_failuresAt_foldl (ss : List Status) (k : Option (List Char)) (f : Code) (r : Results) :
    f ∈ failuresAt (ss.foldl addStatus r) k ↔
      f ∈ failuresAt r k ∨ ∃ s ∈ ss, s.uri = k ∧ s.kind = .failure ∧ f = s.code := by
  induction ss generalizing r with
  | nil => simp
  | cons s ss ih =>
    rw [List.foldl_cons, ih, mem_failuresAt_addStatus]
    simp only [List.mem_cons, exists_eq_or_imp, or_assoc]

theorem mem_failures_foldl (ss : List Status) (f : Code) (r : Results) :
    f ∈ failures (ss.foldl addStatus r) ↔
      f ∈ failures r ∨ ∃ s ∈ ss, s.kind = .failure ∧ f = s.code := by
  simp only [mem_failures_iff, mem_failuresAt_foldl, exists_or]
  refine or_congr_right ⟨fun ⟨_, s, hs, _, h⟩ => ⟨s, hs, h⟩, fun ⟨s, hs, h⟩ => ⟨_, s, hs, rfl, h⟩⟩

theorem actSuccess_foldl (ss : List Status) (r : Results) :
    actSuccess (ss.foldl addStatus r) =
      actSuccess r ++ (ss.filter fun s => s.kind = .success ∧ s.uri = none).map (·.code) := by
  induction ss generalizing r with
  | nil => simp
  | cons s ss ih =>
    rw [List.foldl_cons, ih, actSuccess_addStatus, List.append_assoc]
    by_cases h : s.kind = .success ∧ s.uri = none
    · rw [if_pos h, List.filter_cons, if_pos (decide_eq_true h)]; rfl
    · rw [if_neg h, List.filter_cons, if_neg (by rwa [decide_eq_true_eq]), List.nil_append]

theorem mem_actSuccess_foldl (ss : List Status) :
    ∀ (r : Results) (c : Code), c ∈ actSuccess (ss.foldl addStatus r) →
      c ∈ actSuccess r ∨ ∃ s ∈ ss, s.code = c ∧ s.kind = .success ∧ s.uri = none := by
  intro r c h
  rw [actSuccess_foldl, List.mem_append, List.mem_map] at h
  refine h.imp id fun ⟨s, hs, hc⟩ => ?_
  obtain ⟨hm, hk⟩ := List.mem_filter.1 hs
  exact ⟨s, hm, hc, of_decide_eq_true hk⟩

/-- **Adding a non-tolerated failure anywhere (active manifest, an existing delta or a
new delta) always yields Invalid** — in particular it never turns Invalid into Valid or
Trusted. -/
theorem add_nontolerated_failure_invalid (r : Results) (s : Status)
    (hk : s.kind = .failure) (ht : tolerated s.code = false) :
    state (addStatus r s) = .invalid :=
  invalid_of_failure _ _ ((mem_failures_addStatus r s _).2 (Or.inr ⟨hk, rfl⟩)) ht

theorem state_antitone (r r' : Results) (hs : actSuccess r' = actSuccess r)
    (hf : ∀ f ∈ failures r, f ∈ failures r') : (state r').rank ≤ (state r).rank := by
  have hv : ValidCond r' → ValidCond r := by
    simp only [validCond_iff, hs]
    exact fun ⟨h1, h2, h3⟩ => ⟨h1, h2, fun f h => h3 f (hf f h)⟩
  have ht : TrustedCond r' → TrustedCond r := by
    simp only [trustedCond_iff, hs, List.eq_nil_iff_forall_not_mem]
    exact fun ⟨h1, h2, h3, h4⟩ => ⟨h1, h2, h3, fun f h => h4 f (hf f h)⟩
  rw [← state_not_invalid_iff, ← state_not_invalid_iff] at hv
  rw [← state_trusted_iff, ← state_trusted_iff] at ht
  cases h' : state r' <;> cases h : state r <;> simp [State.rank] <;> simp [h', h] at hv ht

/-- **Adding any failure (tolerated or not) never raises the state.** -/
theorem add_failure_antitone (r : Results) (s : Status) (hk : s.kind = .failure) :
    (state (addStatus r s)).rank ≤ (state r).rank :=
  state_antitone r _ (by simp [actSuccess_addStatus, hk])
    fun f h => (mem_failures_addStatus r s f).2 (Or.inl h)

/-- **Adding any sequence of failures never raises the state.** -/
theorem add_failures_antitone (ss : List Status) (hk : ∀ s ∈ ss, s.kind = .failure) :
    ∀ r : Results, (state (ss.foldl addStatus r)).rank ≤ (state r).rank := by
  refine fun r => state_antitone r _ ?_ fun f h => (mem_failures_foldl ss f r).2 (.inl h)
  rw [actSuccess_foldl, List.filter_eq_nil_iff.2 fun s hs => by simp [hk s hs]]
  exact List.append_nil _

/-! ### A recorded failure stays where `add_status` put it -/

/-- the code of `s` sits in the failure list that `s`'s ingredient URI designates -/
def Placed (r : Results) (s : Status) : Prop :=
  match s.uri with
  | none => ∃ a, r.active = some a ∧ s.code ∈ a.failure
  | some u => ∃ d ∈ deltasOf r, d.uri = u ∧ s.code ∈ d.codes.failure

theorem placed_iff (r : Results) (s : Status) : Placed r s ↔ s.code ∈ failuresAt r s.uri := by
  unfold Placed failuresAt
  cases s.uri with
  | none => cases r.active <;> simp
  | some u => simp [List.mem_flatMap, and_assoc]

theorem placed_failure (r : Results) (s : Status) (h : Placed r s) : s.code ∈ failures r :=
  (mem_failures_iff r _).2 ⟨_, (placed_iff r s).1 h⟩

theorem placed_self (r : Results) (s : Status) (hk : s.kind = .failure) :
    Placed (addStatus r s) s :=
  (placed_iff _ s).2 ((mem_failuresAt_addStatus r s _ _).2 (.inr ⟨rfl, hk, rfl⟩))

theorem placed_mono (r : Results) (s t : Status) (h : Placed r s) : Placed (addStatus r t) s :=
  (placed_iff _ s).2 ((mem_failuresAt_addStatus r t _ _).2 (.inl ((placed_iff r s).1 h)))

theorem placed_foldl (ss : List Status) (s : Status) :
    ∀ r, Placed r s → Placed (ss.foldl addStatus r) s :=
  fun r h => (placed_iff _ s).2 ((mem_failuresAt_foldl ss _ _ r).2 (.inl ((placed_iff r s).1 h)))

theorem placed_of_mem (ss : List Status) (s : Status) (hs : s ∈ ss) (hk : s.kind = .failure)
    (r : Results) : Placed (ss.foldl addStatus r) s :=
  (placed_iff _ s).2 ((mem_failuresAt_foldl ss _ _ r).2 (.inr ⟨s, hs, rfl, hk, rfl⟩))

/-- **A non-tolerated failure anywhere in a status sequence gives `Invalid`**, whatever else is
logged before or after. -/
theorem nontolerated_failure_in_sequence_invalid (r : Results) (ss : List Status) (s : Status)
    (hs : s ∈ ss) (hk : s.kind = .failure) (ht : tolerated s.code = false) :
    state (ss.foldl addStatus r) = .invalid :=
  invalid_of_failure _ _ ((mem_failures_foldl ss _ r).2 (.inr ⟨s, hs, hk, rfl⟩)) ht

/-- **Statuses that are no failures, or failures with a tolerated code, keep "not Invalid".** -/
theorem harmless_never_invalid (ss : List Status)
    (hs : ∀ s ∈ ss, s.kind = .failure → tolerated s.code = true) (r : Results)
    (h : state r ≠ .invalid) : state (ss.foldl addStatus r) ≠ .invalid := by
  rw [state_not_invalid_iff, validCond_iff] at h ⊢
  rw [actSuccess_foldl]
  refine ⟨List.mem_append_left _ h.1, List.mem_append_left _ h.2.1, fun f hf => ?_⟩
  rcases (mem_failures_foldl ss f r).1 hf with hf | ⟨s, hm, hk, rfl⟩
  · exact h.2.2 f hf
  · exact hs s hm hk

/-- Any recorded failure, tolerated or not, rules out Trusted. -/
theorem not_trusted_of_failure (r : Results) (f : Code) (h : f ∈ failures r) :
    state r ≠ .trusted := by
  intro ht
  obtain ⟨_, _, _, hnil⟩ := (trustedCond_iff r).1 ((state_trusted_iff r).1 ht)
  exact List.ne_nil_of_mem h hnil

/-! ### A manifest's own log folded into codes (the `toCodes` of C33, C36, C37) -/

/-- folding `(code, kind)` entries into codes is `add_status` of URI-less statuses into results
that hold the active manifest only -/
theorem foldl_entries (l : List (Code × Kind)) (c : Codes) :
    ({ active := some (l.foldl (fun c e => c.add { code := e.1, kind := e.2, uri := none }) c),
       deltas := none } : Results) =
      (l.map fun e => ({ code := e.1, kind := e.2, uri := none } : Status)).foldl addStatus
        { active := some c, deltas := none } := by
  induction l generalizing c with
  | nil => rfl
  | cons e es ih => exact ih _

/-- **One logged failure entry with a non-tolerated code makes the manifest Invalid.** -/
theorem invalid_of_entry (l : List (Code × Kind)) (c : Code) (acc : Codes)
    (h : (c, Kind.failure) ∈ l) (ht : tolerated c = false) :
    state { active := some (l.foldl (fun a e => a.add { code := e.1, kind := e.2, uri := none }) acc),
            deltas := none } = .invalid := by
  rw [foldl_entries]
  exact nontolerated_failure_in_sequence_invalid _ _ ⟨c, .failure, none⟩ (List.mem_map_of_mem h) rfl ht

/-! ### Inert additions: informational codes anywhere, and success codes in ingredient deltas,
never change the state -/

theorem add_inert (r : Results) (s : Status) (hk : s.kind ≠ .failure)
    (hs : s.kind = .success → s.uri = none → s.code ∉ decisive) :
    state (addStatus r s) = state r := by
  apply state_congr
  · intro c hc
    rw [actSuccess_addStatus]
    split
    · rename_i h
      have : c ≠ s.code := fun e => hs h.1 h.2 (e ▸ hc)
      simp [this]
    · simp
  · intro f
    simp [mem_failures_addStatus, hk]

/-- **A success or informational status placed in an ingredient delta (existing or new) is
inert**: e.g. an ingredient's `signingCredential.trusted` or `claimSignature.validated` never
raises (or lowers) the state of the store. -/
theorem add_delta_nonfailure_inert (r : Results) (s : Status) (u : List Char)
    (hk : s.kind ≠ .failure) (hu : s.uri = some u) : state (addStatus r s) = state r :=
  add_inert r s hk fun _ h => by rw [hu] at h; cases h

theorem delta_success_inert (r : Results) (s : Status) (u : List Char)
    (hk : s.kind = .success) (hu : s.uri = some u) : state (addStatus r s) = state r :=
  add_delta_nonfailure_inert r s u (by rw [hk]; decide) hu

/-- **An informational status is inert wherever it is placed** (active manifest, existing or new
delta) and whatever its code — e.g. `cawg.ica.untrusted_issuer`, or a failure-looking code logged
as informational. -/
theorem add_informational_inert (r : Results) (s : Status) (hk : s.kind = .informational) :
    state (addStatus r s) = state r :=
  add_inert r s (by rw [hk]; decide) fun h => by rw [hk] at h; cases h

/-- **A success status of the active manifest other than the three decisive codes is inert.** -/
theorem add_other_success_inert (r : Results) (s : Status) (hk : s.kind = .success)
    (hu : s.uri = none) (h1 : s.code ≠ cSigValidated) (h2 : s.code ≠ cInsideValidity)
    (h3 : s.code ≠ cTrusted) : state (addStatus r s) = state r :=
  add_inert r s (by rw [hk]; decide) fun _ _ h => by
    simp only [decisive, List.mem_cons, List.not_mem_nil, or_false] at h
    rcases h with h | h | h
    · exact h1 h
    · exact h2 h
    · exact h3 h

theorem foldl_add_inert (ss : List Status)
    (h : ∀ s ∈ ss, s.kind ≠ .failure ∧ (s.kind = .success → s.uri = none → s.code ∉ decisive))
    (r : Results) : state (ss.foldl addStatus r) = state r := by
  induction ss generalizing r with
  | nil => rfl
  | cons s t ih =>
    obtain ⟨hk, hs⟩ := h s (List.mem_cons_self ..)
    rw [List.foldl_cons, ih (fun x hx => h x (List.mem_cons_of_mem _ hx)), add_inert r s hk hs]

/-- any sequence of informational statuses and delta successes is inert -/
theorem add_inert_sequence (ss : List Status)
    (h : ∀ s ∈ ss, s.kind = .informational ∨ (s.kind = .success ∧ s.uri ≠ none)) :
    ∀ r : Results, state (ss.foldl addStatus r) = state r := by
  refine foldl_add_inert ss fun s hs => ?_
  rcases h s hs with hk | ⟨hk, hu⟩
  · exact ⟨by rw [hk]; decide, fun hk' => by rw [hk] at hk'; cases hk'⟩
  · exact ⟨by rw [hk]; decide, fun _ hn => absurd hn hu⟩

/-- Legacy fallback: not Invalid exactly when every listed code is the tolerated
`signingCredential.untrusted`. -/
theorem legacy_not_invalid_iff (vt : Bool) (st : Option (List Code)) :
    legacyState vt st ≠ .invalid ↔ ∀ l, st = some l → ∀ c ∈ l, c = cUntrusted := by
  cases st with
  | none => cases vt <;> simp [legacyState]
  | some l =>
    simp only [legacyState, Option.some.injEq, forall_eq']
    by_cases h : l.any (· != cUntrusted) = true
    · simp only [h, if_true, ne_eq, not_true_eq_false, false_iff]
      intro hall
      obtain ⟨c, hc, hne⟩ := List.any_eq_true.1 h
      simp [hall c hc] at hne
    · have hall : ∀ c ∈ l, c = cUntrusted := by
        intro c hc
        apply Decidable.byContradiction
        intro hne
        exact h (List.any_eq_true.2 ⟨c, hc, by simpa using hne⟩)
      simp only [h]
      constructor
      · intro _; exact hall
      · intro _; simp only [Bool.false_eq_true, if_false]; split <;> simp

/-- **Legacy fallback, Trusted clause at full strength**: Trusted exactly when trust was verified
and the old report lists no failure at all (no list, or an empty list). In particular a listed
`signingCredential.untrusted` — tolerated for Valid — never gives Trusted. -/
theorem legacy_trusted_iff (vt : Bool) (st : Option (List Code)) :
    legacyState vt st = .trusted ↔ vt = true ∧ (st = none ∨ st = some []) := by
  cases st with
  | none => cases vt <;> simp [legacyState]
  | some l =>
    cases l with
    | nil => cases vt <;> simp [legacyState]
    | cons x xs =>
      simp only [legacyState, List.isEmpty_cons, Bool.and_false]
      split <;> simp

theorem legacy_trusted_needs_trust (st : Option (List Code)) :
    legacyState false st ≠ .trusted := by
  intro h; have := (legacy_trusted_iff false st).1 h; simp at this

/-- Legacy fallback, Valid clause: Valid exactly when not Invalid and not Trusted. -/
theorem legacy_valid_iff (vt : Bool) (st : Option (List Code)) :
    legacyState vt st = .valid ↔
      (∀ l, st = some l → ∀ c ∈ l, c = cUntrusted) ∧ ¬ (vt = true ∧ (st = none ∨ st = some [])) := by
  rw [← legacy_not_invalid_iff vt st, ← legacy_trusted_iff]
  cases legacyState vt st <;> simp

/-- an untrusted credential in the legacy list gives Valid, not Trusted -/
example : legacyState true (some [cUntrusted]) = .valid := by
  delta legacyState cUntrusted; decide_run
example : legacyState true (some []) = .trusted ∧ legacyState true none = .trusted := by decide +kernel
example : legacyState false (some [cUntrusted, cUntrusted]) = .valid := by
  delta legacyState cUntrusted; decide_run

/-! ### Non-vacuity: concrete results meeting each condition -/

def exTrusted : Results :=
  { active := some { success := [cSigValidated, cInsideValidity, cTrusted] }, deltas := some [] }
def exValid : Results :=
  { active := some { success := [cInsideValidity, cSigValidated], failure := [cUntrusted] },
    deltas := some [{ uri := "u".toList, codes := { failure := ["cawg.x509.x".toList] } }] }

theorem state_exTrusted : state exTrusted = .trusted := by
  delta exTrusted state isTrusted isValid cSigValidated cInsideValidity cTrusted; decide_run
theorem state_exValid : state exValid = .valid := by
  delta exValid state isTrusted isValid failuresTolerated tolerated cSigValidated cInsideValidity
    cTrusted cUntrusted cawgX509Prefix
  decide_run

example : state exTrusted = .trusted := state_exTrusted
example : state exValid = .valid := state_exValid
example : state (addStatus exValid { code := "assertion.dataHash.mismatch".toList, kind := .failure, uri := some "u".toList }) = .invalid := by
  refine add_nontolerated_failure_invalid _ _ rfl ?_
  -- expose the code before the fact is matched: the unifier would evaluate the string otherwise
  dsimp only
  exact dataHashMismatch_not_tolerated
example : tolerated "cawg.x509".toList = false ∧ tolerated "cawg.identity.pad.invalid".toList = false := by
  delta tolerated cUntrusted cawgX509Prefix; decide_run
-- the inert theorems have instances that matter: a would-be-decisive success in a delta, and a
-- failure-looking informational code in the active manifest
example : state (addStatus exValid { code := cTrusted, kind := .success, uri := some "u".toList }) = .valid :=
  (delta_success_inert _ _ _ rfl rfl).trans state_exValid
example : state (addStatus exTrusted { code := "cawg.ica.untrusted_issuer".toList, kind := .informational, uri := none }) = .trusted :=
  (add_informational_inert _ _ rfl).trans state_exTrusted
-- ... while the second code placed as an active failure does change the state
example : state (addStatus exTrusted { code := "cawg.ica.untrusted_issuer".toList, kind := .failure, uri := none }) = .invalid := by
  refine add_nontolerated_failure_invalid _ _ rfl ?_
  dsimp only
  delta tolerated cUntrusted cawgX509Prefix; decide_run

end C2pa.C04
