import C2paModel.Lemmas.C31
/-
C31 — property theorems. The statement (properties.jsonl):

  For any sequence of C API calls, passing NULL, a freed handle, a handle of the wrong
  type, or a pointer not produced by the library returns an error indicator with a
  retrievable error message instead of crashing. Every handle the library returns is
  released exactly once by a single free call, and a second free of the same handle
  reports an error unless the library has since reissued that address for a new handle.

All theorems quantify over every world, every call sequence, every argument vector and
every answer of an adversarial allocator (any address that is not live).  Theorems about
"the exported functions" go through the regenerated `Gen.ffiGuards` table.
-/
namespace C2pa.C31

/-! ## 1. The registry refines the abstract live-handle map -/

inductive RegOp
  | track (a : Nat) (e : Entry) | validate (a : Nat) (t : Ty) | untrack (a : Nat) (t : Ty)
  /-- `t = .none`: `PointerRegistry::free`; otherwise `PointerRegistry::free_typed` -/
  | free (a : Nat) (t : Ty)

inductive RegRes
  | done | found (e : Entry) | freed (e : Option Entry) | err (x : RegErr)
  deriving DecidableEq

def regStep (r : Reg) : RegOp → Reg × RegRes
  | .track a e => (track r a e, .done)
  | .validate a t => match validate r a t with
    | .ok e => (r, .found e) | .error x => (r, .err x)
  | .untrack a t => match untrack r a t with
    | .ok (r', e) => (r', .found e) | .error x => (r, .err x)
  | .free a t => match free r a t with
    | .ok (r', e) => (r', .freed e) | .error x => (r, .err x)

/-- The abstract machine: a total map from addresses to live handles. -/
abbrev AMap := Nat → Option Entry

def AMap.set (m : AMap) (a : Nat) (v : Option Entry) : AMap := fun b => if b = a then v else m b

def absCheck (m : AMap) (a : Nat) (t : Ty) : Except RegErr Entry :=
  if a = 0 then .error .null
  else match m a with
    | some e => if e.ty = t then .ok e else .error .wrongType
    | none => .error .untracked

def absStep (m : AMap) : RegOp → AMap × RegRes
  | .track a e => (if a = 0 then m else m.set a (some e), .done)
  | .validate a t => match absCheck m a t with
    | .ok e => (m, .found e) | .error x => (m, .err x)
  | .untrack a t => match absCheck m a t with
    | .ok e => (m.set a none, .found e) | .error x => (m, .err x)
  | .free a t =>
    if a = 0 then (m, .freed none)
    else match m a with
      | some e => if t = .none ∨ e.ty = t then (m.set a none, .freed (some e)) else (m, .err .wrongType)
      | none => (m, .err .untracked)

def runReg : Reg → List RegOp → Reg × List RegRes
  | r, [] => (r, [])
  | r, o :: os => let (r1, x) := regStep r o; let (r2, xs) := runReg r1 os; (r2, x :: xs)

def runAbs : AMap → List RegOp → AMap × List RegRes
  | m, [] => (m, [])
  | m, o :: os => let (m1, x) := absStep m o; let (m2, xs) := runAbs m1 os; (m2, x :: xs)

theorem regStep_refines (r : Reg) (m : AMap) (h : ∀ a, r.get a = m a) (o : RegOp) :
    (regStep r o).2 = (absStep m o).2 ∧ ∀ a, (regStep r o).1.get a = (absStep m o).1 a := by
  cases o with
  | track a e =>
    simp only [regStep, absStep, track]
    refine ⟨trivial, ?_⟩
    by_cases ha : a = 0
    · simp [ha, h]
    · intro b; simp only [ha, if_false, Reg.get_insert, AMap.set, h]
  | validate a t =>
    simp only [regStep, absStep, validate, absCheck, h a]
    by_cases ha : a = 0
    · simp [ha, h]
    · cases hm : m a with
      | none => simp [ha, h]
      | some e => by_cases ht : e.ty = t <;> simp [ha, ht, h]
  | untrack a t =>
    simp only [regStep, absStep, untrack, absCheck, h a]
    by_cases ha : a = 0
    · simp [ha, h]
    · cases hm : m a with
      | none => simp [ha, h]
      | some e =>
        by_cases ht : e.ty = t
        · simp only [ha, ht, if_false, if_true, true_and]
          intro b; rw [Reg.get_remove]; simp [AMap.set, h]
        · simp [ha, ht, h]
  | free a t =>
    simp only [regStep, absStep, free, h a]
    by_cases ha : a = 0
    · simp [ha, h]
    · cases hm : m a with
      | none => simp [ha, h]
      | some e =>
        by_cases ht : t = .none ∨ e.ty = t
        · simp only [ha, ht, if_false, if_true, true_and]
          intro b; rw [Reg.get_remove]; simp [AMap.set, h]
        · simp [ha, ht, h]

/-- **Any sequence of registry operations behaves like the abstract live-handle map**:
same answers, and the registry content is the map. -/
theorem registry_refines_map (ops : List RegOp) (r : Reg) (m : AMap) (h : ∀ a, r.get a = m a) :
    (runReg r ops).2 = (runAbs m ops).2 ∧ ∀ a, (runReg r ops).1.get a = (runAbs m ops).1 a := by
  induction ops generalizing r m with
  | nil => exact ⟨rfl, h⟩
  | cons o os ih =>
    obtain ⟨h1, h2⟩ := regStep_refines r m h o
    obtain ⟨h3, h4⟩ := ih (regStep r o).1 (absStep m o).1 h2
    simp only [runReg, runAbs]
    exact ⟨by rw [h1, h3], h4⟩

theorem registry_refines_map_init (ops : List RegOp) :
    (runReg [] ops).2 = (runAbs (fun _ => none) ops).2 ∧
    ∀ a, (runReg [] ops).1.get a = (runAbs (fun _ => none) ops).1 a :=
  registry_refines_map ops [] (fun _ => none) (fun _ => rfl)

example :
    (runReg [] [.track 5 ⟨.reader, 0⟩, .validate 5 .builder, .free 5 .builder, .free 5 .reader, .free 5 .none,
                .track 5 ⟨.builder, 1⟩, .free 5 .none]).2
      = [.done, .err .wrongType, .err .wrongType, .freed (some ⟨.reader, 0⟩), .err .untracked, .done,
         .freed (some ⟨.builder, 1⟩)] := by
  decide +kernel


/-! ## 2. Exactly-once release -/

/-- A trace on which the model's idealisations hold: no undefined behaviour was reached and
every address the allocator answered was not live (it may be any freed address). -/
def Clean (os : List Outcome) : Prop := ∀ o ∈ os, o.ub = false ∧ o.allocBad = false

theorem run_inv (cs : List Call) (w : World) (hi : Inv w)
    (hc : ∀ o ∈ (run w cs).2, o.allocBad = false) : Inv (run w cs).1 := by
  induction cs generalizing w with
  | nil => exact hi
  | cons c cs ih =>
    simp only [run] at hc ⊢
    exact ih _ (step_inv w c hi (hc _ (List.mem_cons_self ..)))
      (fun o ho => hc o (List.mem_cons_of_mem _ ho))

/-- **Cleanup of an allocation runs at most once, and exactly once when it has been released**:
after any call sequence (any arguments, any allocator answers that avoid live addresses), the
list of executed cleanups has no duplicate allocation, and an allocation has been cleaned up
iff it was handed out and is no longer tracked (nor a live string array). -/
theorem free_once (cs : List Call) (hc : Clean (run {} cs).2) :
    let w := (run {} cs).1
    (w.cleanups.map (·.1)).Nodup ∧
    ∀ i, i ∈ w.cleanups.map (·.1) ↔
      (i < w.next ∧ i ∉ w.reg.map (·.2.alloc) ∧ i ∉ w.arrays.map (·.alloc)) :=
  (run_inv cs {} Inv.empty fun o ho => (hc o ho).2).cleanups

/-- The cleanup of a tracked handle has not run yet: its allocation id is not among the
cleanups. (`EvEffect.released` puts it at their head.) -/
theorem release_runs_cleanup_now (w : World) (hi : Inv w) (a : Nat) (ent : Entry)
    (hg : w.reg.get a = some ent) : ent.alloc ∉ w.cleanups.map (·.1) :=
  fun hm => ((hi.cleanups.2 _).1 hm).2.1 (List.mem_map_of_mem (Reg.mem_of_get hg))

-- non-vacuity: a clean trace with a release, a consumed handle and an in-call reissue
example :
    let row (ev : List Event) (r : RKind) (t : Ty) : FnRow :=
      { name := "", cfgGated := false, params := [⟨"p", .handle, .reader, false⟩], events := ev, ret := r, retTy := t }
    let cs : List Call :=
      [ ⟨row [] .handle .reader, [], true, [7]⟩,
        ⟨row [⟨0, .untrack, .reader⟩] .handle .reader, [⟨7, false⟩], true, [7]⟩,
        ⟨row [⟨0, .free, .none⟩] .int .none, [⟨7, false⟩], true, []⟩ ]
    (run {} cs).1.cleanups = [(1, 7), (0, 7)] ∧ (run {} cs).2.all (fun o => !o.ub && !o.allocBad) = true := by
  decide +kernel

/-- The allocator hypothesis is needed: if a live address is answered, `track` replaces the
entry and the old allocation's cleanup is lost (`allocBad` flags exactly this). -/
example :
    let row : FnRow := { name := "", cfgGated := false, params := [], events := [], ret := .handle, retTy := .reader }
    ((run {} [⟨row, [], true, [7]⟩, ⟨row, [], true, [7]⟩]).2.map (·.allocBad)) = [false, true] := by
  decide +kernel

/-! ## 3. Double free -/

/-- A release call: one parameter that goes to `cimpl_free`, nothing else (all `*_free`,
`c2pa_release_*`, `c2pa_free`, `cimpl_free`). -/
def isReleaseRow (row : FnRow) : Bool :=
  !row.freesArray && !row.setsLast && (row.ret == .unit || row.ret == .int) &&
  row.events.all (fun e => (e.use == .free && e.p == 0) || e.use == .opaque) &&
  row.events.any (fun e => e.use == .free)

theorem evStep_free_untracked (row : FnRow) (args : List Arg) (w : World) (e : Event)
    (hu : e.use = .free) (ha : (argOf args e.p).a ≠ 0) (hg : w.reg.get (argOf args e.p).a = none) :
    evStep row args w e = .error (.err .untracked) := by
  rw [evStep_free hu]
  simp only [free, ha, if_false, hg]
  rfl

theorem evStep_free_wrongType (row : FnRow) (args : List Arg) (w : World) (e : Event) (ent : Entry)
    (hu : e.use = .free) (ha : (argOf args e.p).a ≠ 0) (hg : w.reg.get (argOf args e.p).a = some ent)
    (ht : e.ty ≠ .none) (hne : ent.ty ≠ e.ty) :
    evStep row args w e = .error (.err .wrongType) := by
  have hno : ¬ (e.ty = .none ∨ ent.ty = e.ty) := fun h => h.elim ht hne
  rw [evStep_free hu]
  simp only [free, ha, if_false, hg, hno]
  rfl

/-- A release row skips its `opaque` uses; its first `cimpl_free` use then decides. Of the rest `es'`
nothing is said: what is needed of it holds of every sequence. -/
theorem runEvents_release (row : FnRow) (args : List Arg) (es : List Event) (w : World) (fr : List Nat)
    (hall : es.all (fun e => (e.use == .free && e.p == 0) || e.use == .opaque) = true)
    (hany : es.any (fun e => e.use == .free) = true) :
    ∃ e ∈ es, e.use = .free ∧ e.p = 0 ∧ ∃ es',
      runEvents row args w fr es = match evStep row args w e with
        | .error s => (w, fr, some s)
        | .ok (w', f) => runEvents row args w' (fr ++ f) es' := by
  induction es with
  | nil => simp at hany
  | cons e es ih =>
    simp only [List.all_cons, Bool.and_eq_true, Bool.or_eq_true, beq_iff_eq] at hall
    obtain ⟨he, hrest⟩ := hall
    rcases he with ⟨hu, hp⟩ | hu
    · exact ⟨e, List.mem_cons_self, hu, hp, es, by rw [runEvents]; rfl⟩
    · have hany' : es.any (fun e => e.use == .free) = true := by
        simpa [hu] using hany
      obtain ⟨e', he', hu', hp', es', h⟩ := ih hrest hany'
      refine ⟨e', List.mem_cons_of_mem _ he', hu', hp', es', ?_⟩
      rw [runEvents, evStep_opaque hu]
      simp only [List.append_nil]
      exact h

theorem isReleaseRow_events {row : FnRow} (hr : isReleaseRow row = true) :
    row.events.all (fun e => (e.use == .free && e.p == 0) || e.use == .opaque) = true ∧
    row.events.any (fun e => e.use == .free) = true := by
  unfold isReleaseRow at hr
  simp only [Bool.and_eq_true] at hr
  exact ⟨hr.1.2, hr.2⟩

theorem finish_release {w : World} {c : Call} {fr : List Nat} (hr : isReleaseRow c.row = true) :
    finish w c fr = (w, { freed := fr }) := by
  unfold isReleaseRow at hr
  simp only [Bool.and_eq_true, Bool.not_eq_true', Bool.or_eq_true, beq_iff_eq] at hr
  obtain ⟨⟨⟨⟨hfa, hsl⟩, hret⟩, _⟩, _⟩ := hr
  unfold finish
  rcases hret with h | h <;> simp [hfa, hsl, h]

/-- What a release call on a non-NULL address does is decided by the registry entry of the
address and the type check `e.ty` of the row's first `cimpl_free` use `e` (only `opaque` uses can
precede it): not tracked, or tracked with a type the check refuses — the error value with that
error stored, no cleanup runs, nothing changes; otherwise the address is released, and nothing
later in the call tracks it again. -/
theorem release_call (w : World) (c : Call) (hr : isReleaseRow c.row = true)
    (ha : (argOf c.args 0).a ≠ 0) :
    ∃ e ∈ c.row.events, e.use = .free ∧
      match w.reg.get (argOf c.args 0).a with
      | none => step w c = (w, { fail := true, err := .untracked, freed := [] })
      | some ent =>
        if e.ty = .none ∨ ent.ty = e.ty then (step w c).1.reg.get (argOf c.args 0).a = none
        else step w c = (w, { fail := true, err := .wrongType, freed := [] }) := by
  obtain ⟨hall, hany⟩ := isReleaseRow_events hr
  obtain ⟨e, he, hu, hp, es', h⟩ := runEvents_release c.row c.args c.row.events w [] hall hany
  refine ⟨e, he, hu, ?_⟩
  have ha' : (argOf c.args e.p).a ≠ 0 := by rw [hp]; exact ha
  cases hg : w.reg.get (argOf c.args 0).a with
  | none =>
    unfold step
    rw [h, evStep_free_untracked c.row c.args w e hu ha' (by rw [hp]; exact hg)]
  | some ent =>
    dsimp only
    split
    · rename_i hty
      -- released now, and nothing in the rest of the sequence tracks it again
      have hre : (runEvents c.row c.args w [] c.row.events).1.reg.get (argOf c.args 0).a = none := by
        rw [h, evStep_free hu, hp, free, if_neg ha, hg]
        simp only [if_pos hty]
        exact (runEvents_get_none_or_eq c.row c.args es' _ _ _).elim id (· ▸ by simp [Reg.get_remove])
      -- from the guard sequence to the call: a release row has no raw use, so the call does not end in
      -- `ub`, and its world is that of the guard sequence (`finish_release`)
      generalize hx : step w c = x
      cases step_cases rfl hx with
      | ub hst =>
        obtain ⟨e', he', _, hev⟩ := runEvents_stop c.row.events w [] hst
        have := List.all_eq_true.1 hall e' he'
        simp only [Bool.or_eq_true, Bool.and_eq_true, beq_iff_eq] at this
        cases evStep_spec_of hev with
        | ub hraw _ => rcases this with ⟨hu, _⟩ | hu <;> simp [hu, Use.isRaw, Use.isRawNonnull] at hraw
      | finished => rw [finish_release hr]; exact hre
      | failed | okEarly => exact hre
    · rename_i hty
      unfold step
      rw [h, evStep_free_wrongType c.row c.args w e ent hu ha' (by rw [hp]; exact hg)
        (fun h => hty (.inl h)) (fun h => hty (.inr h))]

/-- Releasing an address that is not tracked: error value, `UntrackedPointer` stored, no
cleanup runs, nothing changes. -/
theorem release_untracked_errors (w : World) (c : Call) (hr : isReleaseRow c.row = true)
    (ha : (argOf c.args 0).a ≠ 0) (hg : w.reg.get (argOf c.args 0).a = none) :
    step w c = (w, { fail := true, err := .untracked, freed := [] }) := by
  obtain ⟨_, _, _, h⟩ := release_call w c hr ha
  rw [hg] at h
  exact h

/-- **A type-specific release function refuses a handle of another type**: the error value is
returned with `WrongPointerType` stored, no cleanup runs and the handle stays tracked (it can
still be used and released through the right function).  `t` is the type check carried by the
row's release event (`cimpl_free!(p, T)`); `table_typed_release_checked` shows which rows
carry which. -/
theorem typed_release_wrong_type_errors (w : World) (c : Call) (t : Ty) (ent : Entry)
    (hr : isReleaseRow c.row = true)
    (ht : ∀ e ∈ c.row.events, e.use = .free → e.ty = t) (htn : t ≠ .none)
    (ha : (argOf c.args 0).a ≠ 0) (hg : w.reg.get (argOf c.args 0).a = some ent) (hne : ent.ty ≠ t) :
    step w c = (w, { fail := true, err := .wrongType, freed := [] }) := by
  obtain ⟨e, he, hu, h⟩ := release_call w c hr ha
  rw [hg] at h
  simp only [ht e he hu, if_neg fun h : t = .none ∨ ent.ty = t => h.elim htn hne] at h
  exact h

theorem release_then_untracked (w : World) (c : Call) (hr : isReleaseRow c.row = true)
    (ha : (argOf c.args 0).a ≠ 0) (hwt : (step w c).2.err ≠ .wrongType) :
    (step w c).1.reg.get (argOf c.args 0).a = none := by
  obtain ⟨e, _, _, h⟩ := release_call w c hr ha
  cases hg : w.reg.get (argOf c.args 0).a with
  | none => rw [hg] at h; rw [h]; exact hg
  | some ent =>
    rw [hg] at h
    dsimp only at h
    split at h
    · exact h
    · rw [h] at hwt; exact absurd rfl hwt

theorem release_ok_no_error (w : World) (c : Call) (hr : isReleaseRow c.row = true)
    (hok : (step w c).2.fail = false) : (step w c).2.err = .none := by
  generalize hx : step w c = x at hok ⊢
  cases step_cases rfl hx with
  | ub | okEarly => rfl
  | finished => rw [finish_release hr]
  | failed => cases hok

/-- **A second free of the same handle reports an error unless the address has been reissued**
— for every handle that lives in the registry (all handle types, strings, byte arrays).
`_partial`: the statement also speaks about the string arrays of
`c2pa_*_supported_mime_types`, for which the code falsifies it (section 11,
`double_free_errors_everywhere_false`).
After a release call on `a` that was not refused for the type of `a` (`hwt`; a refused call
released nothing and is not a "first free", see `typed_release_wrong_type_errors`), and after
any further calls during which the allocator never answers `a` again, another release call on
`a` — through any release function — returns the error value with `UntrackedPointer` stored,
runs no cleanup and changes nothing. -/
theorem double_free_errors_unless_reissued_partial (w : World) (c1 c2 : Call) (mid : List Call) (a : Nat)
    (h1 : isReleaseRow c1.row = true) (h2 : isReleaseRow c2.row = true)
    (ha : a ≠ 0) (ha1 : (argOf c1.args 0).a = a) (ha2 : (argOf c2.args 0).a = a)
    (hwt : (step w c1).2.err ≠ .wrongType)
    (hmid : ∀ c ∈ mid, a ∉ c.allocs) :
    let w2 := (run (step w c1).1 mid).1
    step w2 c2 = (w2, { fail := true, err := .untracked, freed := [] }) := by
  intro w2
  have hg1 : (step w c1).1.reg.get a = none := by
    have := release_then_untracked w c1 h1 (by rw [ha1]; exact ha) hwt
    rwa [ha1] at this
  have hg2 : w2.reg.get a = none := run_get_none mid _ a ha hmid hg1
  exact release_untracked_errors w2 c2 h2 (by rw [ha2]; exact ha) (by rw [ha2]; exact hg2)

/-- The reading "the first free succeeded": same conclusion. -/
theorem double_free_after_successful_free_errors (w : World) (c1 c2 : Call) (mid : List Call) (a : Nat)
    (h1 : isReleaseRow c1.row = true) (h2 : isReleaseRow c2.row = true)
    (ha : a ≠ 0) (ha1 : (argOf c1.args 0).a = a) (ha2 : (argOf c2.args 0).a = a)
    (hok : (step w c1).2.fail = false)
    (hmid : ∀ c ∈ mid, a ∉ c.allocs) :
    let w2 := (run (step w c1).1 mid).1
    step w2 c2 = (w2, { fail := true, err := .untracked, freed := [] }) :=
  double_free_errors_unless_reissued_partial w c1 c2 mid a h1 h2 ha ha1 ha2
    (by rw [release_ok_no_error w c1 h1 hok]; decide) hmid

/-- The "unless": once the allocator has reissued the address, the same call releases the
new handle (and the first release did release the first one). -/
example :
    let mk : FnRow := { name := "", cfgGated := false, params := [], events := [], ret := .handle, retTy := .reader }
    let rel : FnRow := { name := "", cfgGated := false, params := [⟨"p", .opaque, .none, false⟩], events := [⟨0, .free, .none⟩], ret := .int, retTy := .none }
    isReleaseRow rel = true ∧
    ((run {} [⟨mk, [], true, [9]⟩, ⟨rel, [⟨9, false⟩], true, []⟩, ⟨rel, [⟨9, false⟩], true, []⟩,
              ⟨mk, [], true, [9]⟩, ⟨rel, [⟨9, false⟩], true, []⟩]).2.map (fun o => (o.fail, o.freed)))
      = [(false, []), (false, [9]), (true, []), (false, []), (false, [9])] := by
  decide +kernel


/-! ## 4. Type check of the release functions -/

/-- The type a release function's pointer parameter is declared with: handle types as
declared, `char*` = a library string, `unsigned char*` = library bytes; `void*` (`c2pa_free`,
`cimpl_free`) declares none. -/
def declaredReleaseTy (p : Param) : Ty :=
  match p.kind with
  | .handle => p.ty
  | .anyptr => .cstring
  | .bytes => .bytes
  | _ => .none

/-- Decided on the regenerated table: every release function checks, in the registry, exactly
the type its parameter is declared with; only the `void*` functions are universal. -/
theorem table_typed_release_checked :
    (Gen.ffiGuards.all fun row => !isReleaseRow row ||
      row.events.all (fun e => e.use != .free || decide (e.ty = declaredReleaseTy (paramOf row 0)))) = true := by
  decide +kernel

/-- **A handle of the wrong type passed to an exported type-specific release function returns
the error value with `WrongPointerType` stored; nothing is released and the handle stays
live.** -/
theorem exported_typed_release_rejects_wrong_type (w : World) (c : Call) (ent : Entry)
    (hrow : c.row ∈ Gen.ffiGuards) (hr : isReleaseRow c.row = true)
    (htn : declaredReleaseTy (paramOf c.row 0) ≠ .none)
    (ha : (argOf c.args 0).a ≠ 0) (hg : w.reg.get (argOf c.args 0).a = some ent)
    (hne : ent.ty ≠ declaredReleaseTy (paramOf c.row 0)) :
    step w c = (w, { fail := true, err := .wrongType, freed := [] }) := by
  have h := (List.all_eq_true.1 table_typed_release_checked) c.row hrow
  rw [hr] at h
  simp only [Bool.not_true, Bool.false_or, List.all_eq_true, Bool.or_eq_true, bne_iff_ne, ne_eq,
    decide_eq_true_eq] at h
  refine typed_release_wrong_type_errors w c _ ent hr ?_ htn ha hg hne
  intro e he hu
  rcases h e he with h1 | h1
  · exact absurd hu h1
  · exact h1

-- non-vacuity on real rows: `c2pa_reader_free(builder)` is refused and the builder survives;
-- `c2pa_builder_free` then releases it
example :
    let w : World := { reg := [(5, ⟨.builder, 0⟩)], next := 1 }
    let c : Call := ⟨Gen.fn_c2pa_reader_free, [⟨5, false⟩], true, []⟩
    let c' : Call := ⟨Gen.fn_c2pa_builder_free, [⟨5, false⟩], true, []⟩
    isReleaseRow c.row = true ∧ declaredReleaseTy (paramOf c.row 0) = .reader ∧
    (step w c).2.fail = true ∧ (step w c).2.err = .wrongType ∧ (step w c).2.freed = [] ∧
    (step w c).1.reg.get 5 = some ⟨.builder, 0⟩ ∧
    (step (step w c).1 c').2.fail = false ∧ (step (step w c).1 c').2.freed = [5] := by decide +kernel

/-- A witness on `c2pa_free`: it releases a tracked builder. The universal release functions (`void*`
parameter: `c2pa_free`, `cimpl_free`) do not look at the type — by design and by their declaration
("frees any pointer allocated by this library"): there is no declared type a handle could be wrong
for. -/
theorem universal_release_ignores_type :
    ∃ (w : World) (c : Call), c.row = Gen.fn_c2pa_free ∧ isReleaseRow c.row = true ∧
      declaredReleaseTy (paramOf c.row 0) = .none ∧
      w.reg.get (argOf c.args 0).a = some ⟨.builder, 0⟩ ∧
      (step w c).2.fail = false ∧ (step w c).2.freed = [(argOf c.args 0).a] :=
  ⟨{ reg := [(5, ⟨.builder, 0⟩)], next := 1 }, ⟨Gen.fn_c2pa_free, [⟨5, false⟩], true, []⟩,
    rfl, by decide, by decide, by decide, by decide, by decide⟩

/-! ## 5. A guarded row reaches no undefined behaviour; a passed registry guard means live with the right type -/

theorem rawDefined_caller (w : World) (k : Param) (a : Nat) (hk : k.kind.isLibraryOwned = false)
    (ha : a ≠ 0) : rawDefined w k a = true := by
  unfold rawDefined
  cases hkk : k.kind <;> simp [hkk, PKind.isLibraryOwned] at hk ⊢ <;> exact ha

/-- The raw uses still to come are protected: `eventsSafe` holds of them from a list of
parameters whose arguments are not NULL. -/
def Safe (row : FnRow) (args : List Arg) (es : List Event) : Prop :=
  ∃ seen, eventsSafe row seen es = true ∧ ∀ p ∈ seen, (argOf args p).a ≠ 0

/-- A use in front of which the uses still to come are protected does not stop with undefined
behaviour — a `.ub` stop can only come from a raw use, and `eventsSafe` allows one only of caller
memory that has passed a NULL guard (or is NULL-tolerant and not NULL) — and when it passes, the
uses after it are protected: a passing stop-on-NULL guard says its argument is not NULL. -/
theorem Safe.step {row : FnRow} {args : List Arg} {e : Event} {es : List Event}
    (h : Safe row args (e :: es)) (w : World) :
    evStep row args w e ≠ .error .ub ∧
      ∀ {w' f}, evStep row args w e = .ok (w', f) → Safe row args es := by
  obtain ⟨seen, hsafe, hseen⟩ := h
  unfold eventsSafe at hsafe
  simp only [Bool.and_eq_true] at hsafe
  obtain ⟨hhere, hrest⟩ := hsafe
  refine ⟨fun hev => ?_, fun hev => ⟨_, hrest, ?_⟩⟩
  · cases evStep_spec_of hev with
    | ub hraw hd =>
      rcases hraw with hr | ⟨hnr, hr, hnz⟩
      · simp only [hr, if_true, Bool.and_eq_true, Bool.not_eq_true', List.contains_iff_mem] at hhere
        rw [rawDefined_caller w _ _ hhere.1 (hseen _ (by simpa using hhere.2))] at hd
        cases hd
      · simp only [hnr, hr, if_true, Bool.false_eq_true, if_false, Bool.not_eq_true'] at hhere
        rw [rawDefined_caller w _ _ hhere hnz] at hd
        cases hd
  · split
    · intro q hq
      rcases List.mem_cons.1 hq with rfl | hq
      · cases evStep_spec_of hev with
        | pass h0 => exact h0 ‹_›
        | release _ _ ha => exact ha
      · exact hseen q hq
    · exact hseen

theorem runEvents_no_ub (row : FnRow) (args : List Arg) (es : List Event) (w : World) (fr : List Nat)
    (hsafe : Safe row args es) : (runEvents row args w fr es).2.2 ≠ some .ub := by
  obtain ⟨rest, _, hs, hend⟩ := runEvents_rule (I := fun rest _ _ => Safe row args rest)
    (fun _ _ w _ _ _ _ h hev => (h.step w).2 hev) es List.suffix_rfl w fr hsafe
  intro hub
  cases hend with
  | done hn => rw [hn] at hub; cases hub
  | stop hst hev => rw [hst] at hub; cases hub; exact (hs.step _).1 hev

/-- **A call on a guarded row never uses a pointer it has not checked**: whatever the world,
the arguments (NULL, dead, wrong type, foreign, …), the inner result and the allocator do,
no undefined behaviour is reached.  `rowGuarded` is the decidable condition evaluated on the
regenerated table: every raw use is of caller memory after a NULL guard; handles are only
ever used through `validate`/`untrack`/`free`. -/
theorem wrong_type_or_dead_never_deref (w : World) (c : Call) (hg : rowGuarded c.row = true) :
    (step w c).2.ub = false := by
  have hno := runEvents_no_ub c.row c.args c.row.events w [] ⟨[], hg, nofun⟩
  generalize hx : step w c = x
  cases step_cases rfl hx with
  | ub hst => exact absurd hst hno
  | finished => exact (finish_cases rfl).2.1
  | failed | okEarly => rfl

/-- What passing a registry guard means (the dereference that follows it is of a live handle
of the named type). -/
theorem guard_pass_means_live (r : Reg) (a : Nat) (t : Ty) (e : Entry) (h : validate r a t = .ok e) :
    a ≠ 0 ∧ r.get a = some e ∧ e.ty = t := (validate_ok_iff r a t e).1 h

/-! ## 6. The table: every pointer parameter of every exported function is guarded -/

def tableGuarded : Bool :=
  Gen.ffiGuards.all fun row =>
    (List.range row.params.length).all fun i => (paramOf row i).exc || paramGuarded row i

theorem tableGuarded_holds : tableGuarded = true := by decide +kernel

/-- **Every pointer parameter of handle type of every exported function is validated against
the registry (type included) before use, consumed handles are untracked before
`Box::from_raw`, and every other pointer parameter is NULL-checked before a raw use** —
except the parameters in the reviewed exception list (`exc`). A parameter whose first use is
`cimpl_free` counts as checked whatever type that use names; the types of the release functions
are `table_typed_release_checked`. -/
theorem all_handle_params_guarded (row : FnRow) (hrow : row ∈ Gen.ffiGuards) (i : Nat)
    (hi : i < row.params.length) (hexc : (paramOf row i).exc = false) : paramGuarded row i = true := by
  have h1 := List.all_eq_true.1 tableGuarded_holds row hrow
  have h2 := List.all_eq_true.1 h1 i (List.mem_range.2 hi)
  simpa [hexc] using h2

/-- The table marks exactly one parameter as a reviewed exception. The statement counts; which
one it is (`ptr` of `c2pa_free_string_array`, section 11) is read in the table. -/
theorem exception_list_size :
    ((Gen.ffiGuards.flatMap (·.params)).filter (·.exc)).length = 1 := by decide +kernel

/-- Rows none of whose parameters is an exception never reach an unchecked use. -/
theorem table_rows_guarded :
    (Gen.ffiGuards.all fun row => row.params.any (·.exc) || rowGuarded row) = true := by decide +kernel

theorem exported_calls_never_ub (w : World) (c : Call) (hrow : c.row ∈ Gen.ffiGuards)
    (hexc : c.row.params.any (·.exc) = false) : (step w c).2.ub = false := by
  have h1 := List.all_eq_true.1 table_rows_guarded c.row hrow
  rw [hexc] at h1
  exact wrong_type_or_dead_never_deref w c (by simpa using h1)

/-! ## 7. Exactly-once release over the exported functions -/

theorem run_never_ub (cs : List Call) (w : World)
    (ht : ∀ c ∈ cs, c.row ∈ Gen.ffiGuards ∧ c.row.params.any (·.exc) = false) :
    ∀ o ∈ (run w cs).2, o.ub = false := by
  induction cs generalizing w with
  | nil => intro o ho; simp [run] at ho
  | cons c cs ih =>
    intro o ho
    simp only [run] at ho
    rcases List.mem_cons.1 ho with h | h
    · subst h
      exact exported_calls_never_ub w c (ht c (List.mem_cons_self ..)).1 (ht c (List.mem_cons_self ..)).2
    · exact ih _ (fun c' hc' => ht c' (List.mem_cons_of_mem _ hc')) o h

theorem allocTracked_ok_iff (w : World) (a : Nat) (t : Ty) :
    (allocTracked w a t).2 = true ↔ a = 0 ∨ w.live a = false := by
  unfold allocTracked
  by_cases ha : a = 0
  · simp [ha]
  · simp [ha]

/-- **`free_once` for sequences over the exported functions** (every row of the regenerated
table except the one with the reviewed exception, `c2pa_free_string_array`): no hypothesis
about undefined behaviour is left — only the allocator assumption (`allocBad = false`: every
address the allocator answered was not live at that moment, `allocTracked_ok_iff`; and where a handle
or a string array is returned the answer is there and not NULL). -/
theorem free_once_table (cs : List Call)
    (ht : ∀ c ∈ cs, c.row ∈ Gen.ffiGuards ∧ c.row.params.any (·.exc) = false)
    (ha : ∀ o ∈ (run {} cs).2, o.allocBad = false) :
    let w := (run {} cs).1
    (w.cleanups.map (·.1)).Nodup ∧
    ∀ i, i ∈ w.cleanups.map (·.1) ↔
      (i < w.next ∧ i ∉ w.reg.map (·.2.alloc) ∧ i ∉ w.arrays.map (·.alloc)) :=
  free_once cs (fun o ho => ⟨run_never_ub cs {} ht o ho, ha o ho⟩)

-- non-vacuity of `free_once_table`: create, consume, release through real rows
example :
    let cs : List Call :=
      [ ⟨Gen.fn_c2pa_reader_new, [], true, [7]⟩,
        ⟨Gen.fn_c2pa_builder_from_json, [⟨1, false⟩], true, [8]⟩,
        ⟨Gen.fn_c2pa_reader_free, [⟨8, false⟩], true, []⟩,
        ⟨Gen.fn_c2pa_builder_free, [⟨8, false⟩], true, []⟩,
        ⟨Gen.fn_c2pa_free, [⟨7, false⟩], true, []⟩,
        ⟨Gen.fn_c2pa_free, [⟨7, false⟩], true, []⟩ ]
    cs.all (fun c => Gen.ffiGuards.any (fun r => r.name == c.row.name) && !c.row.params.any (·.exc)) = true ∧
    (run {} cs).2.all (fun o => !o.allocBad) = true ∧
    (run {} cs).1.cleanups = [(0, 7), (1, 8)] ∧
    (run {} cs).2.map (·.fail) = [false, false, true, false, false, true] := by decide +kernel

/-! ## 8. Errors are retrievable -/

theorem runEvents_err_ne_none (row : FnRow) (args : List Arg) (es : List Event) (w : World) (fr : List Nat)
    (e : LastErr) (h : (runEvents row args w fr es).2.2 = some (.err e)) : e ≠ .none := by
  obtain ⟨_, _, _, hev⟩ := runEvents_stop es w fr h
  cases evStep_spec_of hev with
  | err _ hx => exact hx

theorem runEvents_silent (row : FnRow) (args : List Arg) (es : List Event) (w : World) (fr : List Nat)
    (hs : es.all (fun e => e.use != .nullretSilent) = true) :
    (runEvents row args w fr es).2.2 ≠ some .silent := by
  intro h
  obtain ⟨e, he, _, hev⟩ := runEvents_stop es w fr h
  cases evStep_spec_of hev with
  | silent hu => simpa [hu] using List.all_eq_true.1 hs e he

/-- **An error return always leaves a retrievable message**: for a row without a silent
NULL return, whenever the error value is returned, `set_last` has stored an error. -/
theorem error_sets_last (w : World) (c : Call) (hs : c.row.silentFree = true)
    (hf : (step w c).2.fail = true) : (step w c).2.err ≠ .none := by
  obtain ⟨e, hstep, hst⟩ := step_fail rfl hf
  rw [hstep]
  rcases hst with hst | ⟨hst, _⟩ | ⟨_, _, rfl⟩
  · exact runEvents_err_ne_none c.row c.args c.row.events w [] e hst
  · exact absurd hst (runEvents_silent c.row c.args c.row.events w [] hs)
  · nofun

theorem table_no_silent_error : Gen.ffiGuards.all FnRow.silentFree = true := by decide +kernel

/-! ## 9. Bad handle ⇒ error indicator + message, no crash -/

theorem validate_fail_antitone (r r' : Reg) (a : Nat) (t : Ty)
    (hm : r'.get a = none ∨ r'.get a = r.get a)
    (hbad : ∀ e, validate r a t ≠ .ok e) : ∀ e, validate r' a t ≠ .ok e := by
  intro e h
  obtain ⟨ha, hg, ht⟩ := (validate_ok_iff _ _ _ _).1 h
  rcases hm with hm | hm
  · rw [hm] at hg; cases hg
  · rw [hm] at hg; exact hbad e ((validate_ok_iff _ _ _ _).2 ⟨ha, hg, ht⟩)

/-- once a use that can leave without an error has been met, no registry guard may follow -/
theorem noBypass_true_not_mem {g : Event} (hgu : g.use.isRegistryGuard = true) :
    ∀ l : List Event, g ∈ l → noBypass true l = true → False := by
  intro l
  induction l with
  | nil => nofun
  | cons x xs ih =>
    intro hm hn
    unfold noBypass at hn
    simp only [Bool.and_eq_true, Bool.true_or] at hn
    rcases List.mem_cons.1 hm with rfl | h
    · simp [hgu] at hn
    · exact ih h hn.2

theorem noBypass_head {g ev : Event} {es : List Event} (hgu : g.use.isRegistryGuard = true)
    (hmem : g ∈ ev :: es) (hnb : noBypass false (ev :: es) = true) :
    ev.use.leavesWithoutError = false ∧ noBypass false es = true := by
  unfold noBypass at hnb
  simp only [Bool.and_eq_true, Bool.false_or] at hnb
  cases hl : ev.use.leavesWithoutError with
  | false => exact ⟨rfl, hl ▸ hnb.2⟩
  | true =>
    have hne : g ≠ ev := by
      rintro rfl
      cases hu : g.use <;> simp [hu, Use.isRegistryGuard, Use.leavesWithoutError] at hgu hl
    exact (noBypass_true_not_mem hgu es ((List.mem_cons.1 hmem).resolve_left hne) (hl ▸ hnb.2)).elim

theorem runEvents_bad_handle (row : FnRow) (args : List Arg) (g : Event)
    (hgu : g.use.isRegistryGuard = true) (es : List Event) (w : World) (fr : List Nat)
    (hmem : g ∈ es) (hsafe : Safe row args es) (hnb : noBypass false es = true)
    (hbad : ∀ e, validate w.reg (argOf args g.p).a g.ty ≠ .ok e) :
    ∃ e, (runEvents row args w fr es).2.2 = some (.err e) := by
  obtain ⟨rest, _, ⟨hmem, hsafe, hnb, hbad⟩, hend⟩ := runEvents_rule
    (I := fun rest w _ => g ∈ rest ∧ Safe row args rest ∧ noBypass false rest = true ∧
      ∀ e, validate w.reg (argOf args g.p).a g.ty ≠ .ok e)
    (fun ev es w _ w' _ _ ⟨hmem, hsafe, hnb, hbad⟩ hev => by
      -- `ev` passed, so it is not the failing guard `g`
      have hne : g ≠ ev := by
        rintro rfl
        cases evStep_spec_of hev with
        | pass _ hv => exact (hv hgu).elim hbad
        | release ent hu ha hg =>
          rcases hu with ⟨_, ht⟩ | hu
          · exact hbad ent ((validate_ok_iff _ _ _ _).2 ⟨ha, hg, ht⟩)
          · simp [hu, Use.isRegistryGuard] at hgu
      exact ⟨(List.mem_cons.1 hmem).resolve_left hne, (hsafe.step w).2 hev, (noBypass_head hgu hmem hnb).2,
        validate_fail_antitone _ _ _ _ ((evStep_effect hev).get_none_or_eq _) hbad⟩)
    es List.suffix_rfl w fr ⟨hmem, hsafe, hnb, hbad⟩
  cases hend with
  | done => cases hmem
  | stop hst hev =>
    -- stopped here: with an error — not `ub` (safe), not silent/early/alt (`noBypass_head`)
    have hl := (noBypass_head hgu hmem hnb).1
    cases evStep_spec_of hev with
    | err x => exact ⟨x, hst⟩
    | ub => exact absurd hev (hsafe.step _).1
    | silent hu | okEarly hu | alt hu => rw [hu] at hl; cases hl

/-- **Passing NULL, a freed handle, a handle of the wrong type or a foreign pointer for a
registry-guarded parameter returns the error value with a retrievable message and reaches
no undefined behaviour.**  `g` is the `deref_or_return!`/`untrack_or_return!` use of the
parameter in the row; "bad" is stated on the world at the time of the call: the argument is
NULL, or not tracked (freed and not reissued, or never produced by the library), or tracked
with another type. -/
theorem bad_handle_arg_returns_error (w : World) (c : Call) (g : Event)
    (hmem : g ∈ c.row.events) (hgu : g.use.isRegistryGuard = true)
    (hguard : rowGuarded c.row = true) (hnb : noBypass false c.row.events = true)
    (hbad : (argOf c.args g.p).a = 0 ∨ w.reg.get (argOf c.args g.p).a = none ∨
            ∃ e, w.reg.get (argOf c.args g.p).a = some e ∧ e.ty ≠ g.ty) :
    (step w c).2.fail = true ∧ (step w c).2.err ≠ .none ∧ (step w c).2.ub = false ∧
    (step w c).2.newH = [] := by
  have hbad' : ∀ e, validate w.reg (argOf c.args g.p).a g.ty ≠ .ok e := by
    intro e h
    obtain ⟨ha, hg, ht⟩ := (validate_ok_iff _ _ _ _).1 h
    rcases hbad with h0 | hn | ⟨e', he', hty⟩
    · exact ha h0
    · rw [hn] at hg; cases hg
    · rw [he'] at hg; cases hg; exact hty ht
  obtain ⟨e, he⟩ := runEvents_bad_handle c.row c.args g hgu c.row.events w [] hmem
    ⟨[], hguard, nofun⟩ hnb hbad'
  have hne := runEvents_err_ne_none c.row c.args c.row.events w [] e he
  -- the stop is known to be `.err e`: `step` computes on it (through `step_cases` the three other arms
  -- would have to be refuted first)
  unfold step
  rcases hrun : runEvents c.row c.args w [] c.row.events with ⟨w1, fr, st⟩
  rw [hrun] at he
  simp only at he
  subst he
  exact ⟨rfl, hne, rfl, rfl⟩

/-- Table side of section 9: no exported function can leave its guard sequence without an
error before a registry guard, and every registry guard names the declared type of its
parameter (the latter is part of `paramGuarded`). -/
theorem table_no_bypass : Gen.ffiGuards.all (fun row => noBypass false row.events) = true := by
  decide +kernel

/-- Every handle parameter of the table is accounted for: checked by `validate`/`untrack`
(covered by `bad_handle_arg_returns_error`), released by `free`, validated only when it is not
NULL (`validateNonnull`: the optional `asset` stream of `c2pa_builder_sign_data_hashed_embeddable`),
or an exception. -/
theorem table_handle_params_accounted :
    (Gen.ffiGuards.all fun row => (List.range row.params.length).all fun i =>
      (paramOf row i).kind != .handle || (paramOf row i).exc || handleParamChecked row i) = true := by
  decide +kernel

-- non-vacuity of `bad_handle_arg_returns_error` on a real row
example :
    let c : Call := ⟨Gen.fn_c2pa_reader_json, [⟨0, false⟩], true, []⟩
    (step {} c).2.fail = true ∧ (step {} c).2.err = .null := by decide +kernel

example :
    let w : World := { reg := [(5, ⟨.builder, 0⟩)], next := 1 }
    let c : Call := ⟨Gen.fn_c2pa_reader_json, [⟨5, false⟩], true, []⟩
    (step w c).2.fail = true ∧ (step w c).2.err = .wrongType := by decide +kernel

/-! ## 10. What a failed call leaves behind -/

theorem runEvents_noconsume (row : FnRow) (args : List Arg) (es : List Event) (w : World) (fr : List Nat)
    (hn : es.all (fun e => e.use != .untrack && e.use != .free) = true) :
    (runEvents row args w fr es).1 = w := by
  refine runEvents_preserves (I := (· = w)) es (fun e he w0 w' f hw hev => ?_) w fr rfl
  have hu := List.all_eq_true.1 hn e he
  simp only [Bool.and_eq_true, bne_iff_ne, ne_eq] at hu
  cases evStep_spec_of hev with
  | pass => exact hw
  | release _ h => exact (h.elim (hu.1 ·.1) hu.2).elim

/-- **A call that returns the error value and consumes nothing by design has no effect at
all**: for a row without `untrack_or_return!` / `cimpl_free` uses, a failed call leaves the
registry, the string arrays and the cleanup history exactly as they were. -/
theorem failed_call_no_effect (w : World) (c : Call)
    (hn : c.row.events.all (fun e => e.use != .untrack && e.use != .free) = true)
    (hf : (step w c).2.fail = true) : (step w c).1 = w := by
  obtain ⟨_, hstep, _⟩ := step_fail rfl hf
  rw [hstep]
  exact runEvents_noconsume c.row c.args c.row.events w [] hn

theorem runEvents_consumed (row : FnRow) (args : List Arg) (es : List Event) (w : World) (fr : List Nat)
    (b : Nat) :
    (runEvents row args w fr es).1.reg.get b = w.reg.get b ∨
    ((runEvents row args w fr es).1.reg.get b = none ∧ b ∈ (runEvents row args w fr es).2.1 ∧
      ∃ e ∈ es, (e.use = .untrack ∨ e.use = .free) ∧ (argOf args e.p).a = b) := by
  obtain ⟨_, _, h, _⟩ := runEvents_rule (row := row) (args := args) (es0 := es)
    (I := fun _ w' fr' => w'.reg.get b = w.reg.get b ∨ (w'.reg.get b = none ∧ b ∈ fr' ∧
      ∃ e ∈ es, (e.use = .untrack ∨ e.use = .free) ∧ (argOf args e.p).a = b))
    (fun e _ w' fr' _ _ hs h hev => by
      cases evStep_spec_of hev with
      | pass => simpa using h
      | release ent hu ha hg =>
        by_cases hb : b = (argOf args e.p).a
        · exact .inr ⟨by simp [Reg.get_remove, hb], by simp [hb], e, hs.mem List.mem_cons_self,
            hu.imp (·.1) id, hb.symm⟩
        · simp only [Reg.get_remove, if_neg hb]
          exact h.imp id fun ⟨h1, h2, h3⟩ => ⟨h1, List.mem_append_left _ h2, h3⟩)
    es List.suffix_rfl w fr (.inl rfl)
  exact h

/-- **What a call that returns the error value may have done**: the string arrays and the
allocation counter are untouched, and a registry entry differs only if its address was the
argument of an `untrack_or_return!` (ownership taken before a later guard or the SDK operation
failed — the documented consuming functions) or `cimpl_free` use that passed; that address is
then reported as released, exactly once (`free_once`).  Every other handle — in particular the
bad one that made the call fail — is as it was. -/
theorem failed_call_only_consumes_args (w : World) (c : Call) (hf : (step w c).2.fail = true) :
    (step w c).1.arrays = w.arrays ∧ (step w c).1.next = w.next ∧
    ∀ b, (step w c).1.reg.get b = w.reg.get b ∨
      ((step w c).1.reg.get b = none ∧ b ∈ (step w c).2.freed ∧
        ∃ e ∈ c.row.events, (e.use = .untrack ∨ e.use = .free) ∧ (argOf c.args e.p).a = b) := by
  obtain ⟨_, hstep, _⟩ := step_fail rfl hf
  rw [hstep]
  exact ⟨(runEvents_arrays c.row c.args c.row.events w []).1,
    (runEvents_arrays c.row c.args c.row.events w []).2, runEvents_consumed c.row c.args c.row.events w []⟩

/-- Table side: every exported function is of one of three kinds — it consumes nothing
(`failed_call_no_effect`), it is a release function (a refused release changes nothing:
`release_untracked_errors`, `typed_release_wrong_type_errors`), or it takes ownership of a
handle with `untrack_or_return!` (`failed_call_only_consumes_args`) — and there are exactly
nine of the last kind. -/
theorem table_failure_effect_classes :
    (Gen.ffiGuards.all fun row =>
      row.events.all (fun e => e.use != .untrack && e.use != .free) ||
      isReleaseRow row || row.events.any (fun e => e.use == .untrack)) = true ∧
    (Gen.ffiGuards.filter fun row => row.events.any (fun e => e.use == .untrack)).length = 9 := by
  constructor <;> decide +kernel

-- non-vacuity: `c2pa_reader_with_stream(reader, format, bad stream)` fails and has consumed the reader
example :
    let w : World := { reg := [(5, ⟨.reader, 0⟩)], next := 1 }
    let c : Call := ⟨Gen.fn_c2pa_reader_with_stream, [⟨5, false⟩, ⟨1, false⟩, ⟨9, false⟩], true, []⟩
    (step w c).2.fail = true ∧ (step w c).2.err = .untracked ∧ (step w c).2.freed = [5] ∧
    (step w c).1.reg.get 5 = none := by decide +kernel

/-! ## 11. What the code does *not* guarantee: the untracked string array -/

/-- The full double-free statement, also for string arrays: a release of something that is
not live reports an error. -/
def ReleaseOfDeadReportsError (row : FnRow) : Prop :=
  ∀ (w : World) (c : Call), c.row = row → (argOf c.args 0).a ≠ 0 → w.live (argOf c.args 0).a = false →
    (step w c).2.ub = false ∧ (step w c).2.err ≠ .none

/-- `ReleaseOfDeadReportsError` holds of every registry release function. -/
theorem release_of_dead_reports_error (row : FnRow) (hr : isReleaseRow row = true) :
    ReleaseOfDeadReportsError row := by
  intro w c hc ha hl
  subst hc
  obtain ⟨hg, _⟩ := World.live_false w _ hl
  rw [release_untracked_errors w c hr ha hg]
  exact ⟨rfl, by simp⟩

/-- `ReleaseOfDeadReportsError` is **false for `c2pa_free_string_array`** (DESIGN §5 F14, known
finding): the second release of the same array is undefined behaviour — in practice a double free.
The harness replays exactly this witness in a forked child. -/
theorem string_array_double_free_counterexample :
    ¬ ReleaseOfDeadReportsError Gen.fn_c2pa_free_string_array := by
  intro h
  have := h (run {} [⟨Gen.fn_c2pa_reader_supported_mime_types, [⟨1, false⟩], true, [2, 3, 4]⟩,
                     ⟨Gen.fn_c2pa_free_string_array, [⟨4, false⟩, ⟨1, false⟩], true, []⟩]).1
    ⟨Gen.fn_c2pa_free_string_array, [⟨4, false⟩, ⟨1, false⟩], true, []⟩ rfl (by decide) (by decide)
  exact absurd this.1 (by decide)

/-- `ReleaseOfDeadReportsError` of every release function of the API, `c2pa_free_string_array`
included. -/
def DoubleFreeErrorsEverywhere : Prop :=
  ∀ row ∈ Gen.ffiGuards, (isReleaseRow row = true ∨ row.freesArray = true) → ReleaseOfDeadReportsError row

/-- The model falsifies `DoubleFreeErrorsEverywhere`, at the string array (the witness above, which the
harness replays on the code). -/
theorem double_free_errors_everywhere_false : ¬ DoubleFreeErrorsEverywhere := by
  intro h
  exact string_array_double_free_counterexample
    (h Gen.fn_c2pa_free_string_array (by simp [Gen.ffiGuards]) (Or.inr rfl))

/-- The first release of the array is fine and releases the strings and the array once. -/
example :
    ((run {} [⟨Gen.fn_c2pa_reader_supported_mime_types, [⟨1, false⟩], true, [2, 3, 4]⟩,
              ⟨Gen.fn_c2pa_free_string_array, [⟨4, false⟩, ⟨1, false⟩], true, []⟩,
              ⟨Gen.fn_c2pa_free_string_array, [⟨4, false⟩, ⟨1, false⟩], true, []⟩]).2.map
        (fun o => (o.ub, o.freed))) = [(false, []), (false, [2, 3, 4]), (true, [])] := by decide +kernel

end C2pa.C31
