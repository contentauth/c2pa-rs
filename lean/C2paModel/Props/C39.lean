import C2paModel.Model.C39
/-
C39 — property theorems. The statement (properties.jsonl):

  Adding a signed asset as an ingredient records its active manifest (so the parent's store
  contains the ingredient's manifests unchanged) together with the validation state and failure
  codes obtained by reading the ingredient on its own. Adding an unsigned asset records no
  manifest and no failure.

In four parts, as the code has them. Capture (`update_validation_status` / `add_stream_internal` /
`add_to_claim`): what each outcome of the stand-alone read records, and which outcomes can be signed.
Merge (`load_ingredient_to_claim`): the version gates; without a label conflict every manifest, incoming
or already held, is present afterwards unchanged; the conflict branch as coded. The resource lookup
of `add_to_claim` (the ingredient's own store is asked first). The parent's read
(`ValidationResults::from_store`): which logged statuses become ingredient deltas. The statement is
false without the version condition (`v2_ingredient_into_v1_claim_rejected`) and without "no label
conflict" (`ingredient_store_embedded_full_false`); `hard_error_blocks_signing` and
`inaccessible_blocks_signing` state open findings as coded.
-/
namespace C2pa.C39

/-! ### capture -/

theorem provenance_none_iff (s : MStore) : provenance s = none ↔ s = [] := by
  unfold provenance
  exact List.getLast?_eq_none_iff

theorem provenance_mem (s : MStore) (pc : Man) (h : provenance s = some pc) : pc ∈ s := by
  unfold provenance at h
  exact List.mem_of_getLast? h

theorem provenance_isSome_iff (s : MStore) : (provenance s).isSome ↔ s ≠ [] := by
  rw [← Option.ne_none_iff_isSome, Ne, provenance_none_iff]

/-- **Exactly four error classes mean "unsigned asset".** -/
theorem no_manifest_arm_iff (c : ErrClass) (l : Results) :
    armOf c l = .noManifest ↔
      c = .jumbfNotFound ∨ c = .provenanceMissing ∨ c = .unsupportedType ∨ c = .unrecognizedFileType := by
  cases c <;> simp [armOf]

theorem armOf_ne_ok (c : ErrClass) (l : Results) (s : MStore) (r : Results) : armOf c l ≠ .ok s r := by
  cases c <;> simp [armOf]

/-- Whatever "no manifest" class the stand-alone read ends in
(also an asset of a format without handler: `UnsupportedType`; also a store without manifests:
`ProvenanceMissing`), and whatever was logged: nothing is recorded, and adding the ingredient to a
version 1 or 2 claim leaves the claim's ingredient store as it was and writes an assertion without
manifest reference, results or status. -/
theorem unsigned_no_manifest_no_failure (c : ErrClass) (l : Results)
    (hc : c = .jumbfNotFound ∨ c = .provenanceMissing ∨ c = .unsupportedType ∨ c = .unrecognizedFileType)
    (v : Nat) (hv : v = 1 ∨ v = 2) (skip : Bool) (kind : Man → RedactionKind) (cur : MStore) :
    addStream (armOf c l) = some ⟨none, none, none, none⟩ ∧
    addToClaim v skip kind cur ⟨none, none, none, none⟩ = .ok (cur, ⟨none, none, none⟩) := by
  rw [(no_manifest_arm_iff c l).2 hc]
  refine ⟨rfl, ?_⟩
  rcases hv with rfl | rfl <;> rfl

example : addStream (armOf .unsupportedType []) = some ⟨none, none, none, none⟩ := rfl

theorem nothing_recorded_iff (o : ReadOutcome) :
    addStream o = some ⟨none, none, none, none⟩ ↔ o = .noManifest := by
  cases o <;> simp [addStream, record]

/-- `add_stream_internal` is `addStream` of the outcome of load and validation; the manifest bytes only
matter in the `ok` arm. -/
theorem add_stream_internal_eq (load : Except ErrClass MStore)
    (validate : MStore → Except (ErrClass × Results) Results) :
    addStreamInternal load validate =
      addStream (match load with
        | .error c => armOf c []
        | .ok b => match validate b with
          | .ok r => .ok b r
          | .error (c, l) => armOf c l) := by
  cases load with
  | error c => cases c <;> rfl
  | ok b =>
    simp only [addStreamInternal]
    cases hv : validate b with
    | ok r => rfl
    | error e =>
      obtain ⟨c, l⟩ := e
      cases c <;> rfl

/-- the two conditions of the `Ok` arm of `update_validation_status`: the active manifest is set
only from the store's provenance claim, the manifest data only from the bytes handed in. -/
theorem record_ok_arm (s : MStore) (r : Results) (bytes : Option MStore) :
    ∃ i, record (.ok s r) bytes = some i ∧ i.data = bytes ∧
      i.active = (provenance s).map (·.label) ∧ (i.active.isSome ↔ s ≠ []) ∧
      i.results = some r ∧ i.status = statusOf r := by
  refine ⟨_, rfl, rfl, rfl, ?_, rfl, rfl⟩
  simp only [Option.isSome_map]
  exact provenance_isSome_iff s

theorem record_err_arm (o : ReadOutcome) (bytes : Option MStore) (i : IngRec)
    (hno : ∀ s r, o ≠ .ok s r) (h : record o bytes = some i) : i.active = none ∧ i.data = none := by
  cases o with
  | ok s r => exact absurd rfl (hno s r)
  | noManifest => cases h; exact ⟨rfl, rfl⟩
  | inaccessible => cases h; exact ⟨rfl, rfl⟩
  | cancelled => cases h
  | hardError l => cases h; exact ⟨rfl, rfl⟩

theorem manifest_recorded_iff (o : ReadOutcome) (i : IngRec) (h : addStream o = some i) :
    (i.data.isSome ↔ ∃ s r, o = .ok s r) ∧
    (i.active.isSome ↔ ∃ s r, o = .ok s r ∧ s ≠ []) ∧
    (i.results.isSome ↔ o ≠ .noManifest) ∧
    i.active = i.data.bind (fun s => (provenance s).map (·.label)) := by
  cases o with
  | noManifest => cases h; simp
  | inaccessible => cases h; simp
  | cancelled => cases h
  | hardError l => cases h; simp
  | ok s r =>
    cases h
    refine ⟨⟨fun _ => ⟨s, r, rfl⟩, fun _ => rfl⟩, ?_, ⟨fun _ => by simp, fun _ => rfl⟩, rfl⟩
    simp only [Option.isSome_map]
    rw [provenance_isSome_iff]
    constructor
    · intro hs; exact ⟨s, r, rfl, hs⟩
    · rintro ⟨s', r', heq, hs'⟩
      injection heq with h1 _
      exact h1 ▸ hs'

example : ∃ i, addStream (.ok [⟨⟨"L", none, none⟩, "c", 2⟩] []) = some i ∧ i.active = some ⟨"L", none, none⟩ :=
  ⟨_, rfl, rfl⟩

/-- a tampered ingredient shows exactly the failures of its stand-alone read (as `validation_status`
codes, `None` when there is none) -/
theorem tampered_failure_shown (store : MStore) (results : Results) (i : IngRec)
    (h : addStream (.ok store results) = some i) :
    i.results.map failures = some (failures results) ∧ i.status = statusOf results := by
  cases h
  exact ⟨rfl, rfl⟩

example : failures [⟨0, "claimSignature.validated", "L", "c2pa.signature", none⟩,
    ⟨2, "assertion.dataHash.mismatch", "L", "c2pa.assertions/c2pa.hash.data", none⟩] =
    ["assertion.dataHash.mismatch"] := by decide +kernel

/-! ### merge without label conflict -/

theorem lookup_replaceOrInsert (s : MStore) (m : Man) (l : MLabel) :
    lookup (replaceOrInsert s m) l = if m.label = l then some m.content else lookup s l := by
  induction s with
  | nil => rfl
  | cons x xs ih =>
    rw [replaceOrInsert]
    by_cases hx : x.label = m.label
    · rw [if_pos hx, lookup, lookup, hx]
      by_cases hm : m.label = l
      · simp only [if_pos hm]
      · simp only [if_neg hm]
    · rw [if_neg hx, lookup, lookup, ih]
      by_cases hm : m.label = l
      · simp only [if_pos hm, if_neg (hm ▸ hx)]
      · simp only [if_neg hm]

theorem lookup_append (a c : MStore) (l : MLabel) :
    lookup (a ++ c) l = (lookup a l).or (lookup c l) := by
  induction a with
  | nil => rfl
  | cons y ys ih =>
    rw [List.cons_append, lookup, lookup, ih]
    by_cases hy : y.label = l
    · rw [if_pos hy, if_pos hy]; rfl
    · rw [if_neg hy, if_neg hy]

/-- lookup after inserting a list: the last inserted manifest with that label, else the old one -/
theorem lookup_foldl (inc s : MStore) (l : MLabel) :
    lookup (inc.foldl replaceOrInsert s) l = (lookup inc.reverse l).or (lookup s l) := by
  induction inc generalizing s with
  | nil => rfl
  | cons m ms ih =>
    rw [List.foldl_cons, ih, List.reverse_cons, lookup_append, Option.or_assoc, lookup_replaceOrInsert]
    congr 1
    rw [lookup]
    by_cases hm : m.label = l
    · rw [if_pos hm, if_pos hm]; rfl
    · rw [if_neg hm, if_neg hm]; rfl

theorem lookup_none_of_not_mem (s : MStore) (l : MLabel) (h : ∀ m ∈ s, m.label ≠ l) :
    lookup s l = none := by
  induction s with
  | nil => rfl
  | cons x xs ih =>
    simp only [lookup]
    have := h x (by simp)
    simp [this, ih (fun m hm => h m (by simp [hm]))]

theorem lookup_some_mem (s : MStore) (l : MLabel) (c : String) (h : lookup s l = some c) :
    ∃ m ∈ s, m.label = l ∧ m.content = c := by
  induction s with
  | nil => simp [lookup] at h
  | cons x xs ih =>
    simp only [lookup] at h
    by_cases hx : x.label = l
    · simp only [hx, if_true, Option.some.injEq] at h
      exact ⟨x, by simp, hx, h⟩
    · simp only [hx, if_false] at h
      obtain ⟨m, hm, h1, h2⟩ := ih h
      exact ⟨m, by simp [hm], h1, h2⟩

def Uniq (s : MStore) : Prop := (s.map (·.label)).Nodup

theorem mem_replaceOrInsert (s : MStore) (m x : Man) (h : x ∈ replaceOrInsert s m) :
    x ∈ s ∨ x = m := by
  induction s with
  | nil => exact Or.inr (List.mem_singleton.1 h)
  | cons y ys ih =>
    rw [replaceOrInsert] at h
    split at h
    · exact (List.mem_cons.1 h).symm.imp (List.mem_cons_of_mem _) id
    · rcases List.mem_cons.1 h with h | h
      · exact Or.inl (h ▸ List.mem_cons_self)
      · exact (ih h).imp (List.mem_cons_of_mem _) id

theorem uniq_replaceOrInsert (s : MStore) (m : Man) (hu : Uniq s) : Uniq (replaceOrInsert s m) := by
  induction s with
  | nil => simp [replaceOrInsert, Uniq]
  | cons y ys ih =>
    unfold Uniq at hu ih ⊢
    simp only [List.map_cons, List.nodup_cons] at hu
    unfold replaceOrInsert
    by_cases hy : y.label = m.label
    · simp only [hy, if_true, List.map_cons, List.nodup_cons]
      exact ⟨hy ▸ hu.1, hu.2⟩
    · simp only [hy, if_false, List.map_cons, List.nodup_cons]
      refine ⟨?_, ih hu.2⟩
      intro hmem
      obtain ⟨x, hx, hxl⟩ := List.mem_map.1 hmem
      rcases mem_replaceOrInsert ys m x hx with h | h
      · exact hu.1 (hxl ▸ List.mem_map_of_mem h)
      · subst h; exact hy hxl.symm

theorem lookup_mem_uniq (s : MStore) (hu : Uniq s) (m : Man) (hm : m ∈ s) :
    lookup s m.label = some m.content := by
  induction s with
  | nil => cases hm
  | cons x xs ih =>
    unfold Uniq at hu
    simp only [List.map_cons, List.nodup_cons] at hu
    simp only [lookup]
    rcases List.mem_cons.1 hm with rfl | hm'
    · simp
    · have : x.label ≠ m.label := by
        intro h
        exact hu.1 (h ▸ List.mem_map_of_mem hm')
      simp [this, ih hu.2 hm']

/-- no manifest of `inc` is in `cur` under the same label with another content -/
def Compatible (cur inc : MStore) : Prop :=
  ∀ m ∈ inc, ∀ c, lookup cur m.label = some c → c = m.content

theorem conflicts_nil_of_compatible (cur inc : MStore) (h : Compatible cur inc) :
    conflicts cur inc = [] := by
  unfold conflicts
  rw [List.filter_eq_nil_iff]
  intro m hm
  cases hl : lookup cur m.label with
  | none => simp
  | some c =>
    have := h m hm c hl
    simp [this]

theorem compatible_nil (inc : MStore) : Compatible [] inc := by
  intro m _ c hc
  simp [lookup] at hc

/-- Normal form of the merge without label conflict: the three gates, then the fold. -/
theorem merge_compatible_nf (v : Nat) (skip : Bool) (kind : Man → RedactionKind) (cur inc : MStore)
    (h : Compatible cur inc) :
    merge v skip kind cur inc =
      match provenance inc with
      | none => .error .missingProvenance
      | some pc =>
        if v < pc.ver then .error .versionTooNew
        else if inc.any (fun m => decide (m.ver > v)) then .error .versionCompatibility
        else .ok (inc.foldl replaceOrInsert cur) := by
  unfold merge
  cases provenance inc with
  | none => rfl
  | some pc =>
    simp only
    by_cases h1 : v < pc.ver
    · simp only [h1, if_true]
    · simp only [h1, if_false]
      have hres : (if (decide (v > 1) && !skip) = true then
            resolve v kind (conflicts cur inc) cur [] else Except.ok (cur, [])) =
          Except.ok (cur, ([] : List MLabel)) := by
        rw [conflicts_nil_of_compatible cur inc h]
        split <;> rfl
      rw [hres]
      simp only
      have hadds : inc.filter (fun m => !([] : List MLabel).contains m.label) = inc := by
        apply List.filter_eq_self.2
        intro m _
        simp
      rw [hadds]

theorem merge_of_compatible (v : Nat) (skip : Bool) (kind : Man → RedactionKind) (cur inc : MStore)
    (h : Compatible cur inc) (hne : inc ≠ []) (hv : ∀ m ∈ inc, m.ver ≤ v) :
    merge v skip kind cur inc = .ok (inc.foldl replaceOrInsert cur) := by
  rw [merge_compatible_nf v skip kind cur inc h]
  cases hp : provenance inc with
  | none => exact absurd ((provenance_none_iff inc).1 hp) hne
  | some pc =>
    have h1 : ¬ v < pc.ver := Nat.not_lt.2 (hv pc (provenance_mem inc pc hp))
    have hany : inc.any (fun m => decide (m.ver > v)) = false := by
      rw [List.any_eq_false]
      intro m hm
      simpa using hv m hm
    simp [h1, hany]

/-- An ingredient whose active manifest is newer than the claim is
refused with "ingredient version too new" — whatever the claim already holds. -/
theorem merge_rejects_newer_active (v : Nat) (skip : Bool) (kind : Man → RedactionKind)
    (cur inc : MStore) (pc : Man) (hp : provenance inc = some pc) (hn : pc.ver > v) :
    merge v skip kind cur inc = .error .versionTooNew := by
  unfold merge
  rw [hp]
  simp [hn]

/-- Any newer claim anywhere in the incoming store is refused
(`versionTooNew` when it is the active one, else `VersionCompatibility`). -/
theorem merge_rejects_newer (v : Nat) (skip : Bool) (kind : Man → RedactionKind)
    (cur inc : MStore) (h : Compatible cur inc) (hn : ∃ m ∈ inc, m.ver > v) :
    merge v skip kind cur inc = .error .versionTooNew ∨
    merge v skip kind cur inc = .error .versionCompatibility := by
  rw [merge_compatible_nf v skip kind cur inc h]
  obtain ⟨m, hm, hmv⟩ := hn
  cases hp : provenance inc with
  | none => rw [(provenance_none_iff inc).1 hp] at hm; cases hm
  | some pc =>
    simp only
    by_cases h1 : v < pc.ver
    · left; simp [h1]
    · right
      have hany : inc.any (fun m => decide (m.ver > v)) = true :=
        List.any_eq_true.2 ⟨m, hm, by simpa using hmv⟩
      simp [h1, hany]

/-- **The version gates, as an iff**: a store without label conflict can be merged exactly when it
has a provenance claim (is not empty) and none of its claims is newer than the claim being built. -/
theorem merge_ok_iff_of_compatible (v : Nat) (skip : Bool) (kind : Man → RedactionKind)
    (cur inc : MStore) (h : Compatible cur inc) :
    (∃ s', merge v skip kind cur inc = .ok s') ↔ inc ≠ [] ∧ ∀ m ∈ inc, m.ver ≤ v := by
  constructor
  · rintro ⟨s', hs⟩
    refine ⟨fun he => ?_, fun m hm => Nat.le_of_not_lt fun hgt => ?_⟩
    · rw [he] at hs; cases hs
    · rcases merge_rejects_newer v skip kind cur inc h ⟨m, hm, hgt⟩ with e | e <;>
        exact nomatch e.symm.trans hs
  · rintro ⟨hne, hv⟩
    exact ⟨_, merge_of_compatible v skip kind cur inc h hne hv⟩

theorem merge_missing_provenance (v : Nat) (skip : Bool) (kind : Man → RedactionKind) (cur : MStore) :
    merge v skip kind cur [] = .error .missingProvenance := rfl

example : merge 1 false (fun _ => .notByRedaction) [] [⟨⟨"A", none, none⟩, "a", 1⟩, ⟨⟨"B", none, none⟩, "b", 2⟩] =
    .error .versionTooNew := by rfl
example : merge 1 false (fun _ => .notByRedaction) [] [⟨⟨"B", none, none⟩, "b", 2⟩, ⟨⟨"A", none, none⟩, "a", 1⟩] =
    .error .versionCompatibility := by rfl

theorem lookup_foldl_incoming (cur inc : MStore) (hui : Uniq inc) (m : Man) (hm : m ∈ inc) :
    lookup (inc.foldl replaceOrInsert cur) m.label = some m.content := by
  have hur : Uniq inc.reverse := by
    unfold Uniq at *
    rw [List.map_reverse]
    exact (List.reverse_perm _).nodup_iff.2 hui
  rw [lookup_foldl, lookup_mem_uniq inc.reverse hur m (List.mem_reverse.2 hm)]
  rfl

/-- what `a` answers under a label, `b` answers under it (a store seen as its look-up function) -/
def Sub (a b : MStore) : Prop := ∀ l c, lookup a l = some c → lookup b l = some c

theorem foldl_sub (cur inc : MStore) (h : Compatible cur inc) :
    Sub cur (inc.foldl replaceOrInsert cur) := by
  intro l c hc
  rw [lookup_foldl]
  cases hl : lookup inc.reverse l with
  | none => exact hc
  | some x =>
    obtain ⟨m, hm, rfl, rfl⟩ := lookup_some_mem _ _ _ hl
    rw [h m (List.mem_reverse.1 hm) c hc]; rfl

/-- Without a label conflict, for a non-empty incoming store
none of whose claims is newer than the claim being built, the merge succeeds, every incoming
manifest is then present under its own label with its own content, and every manifest the claim's
store already held is still there with its content — with or without conflict resolution, for every
redaction classifier. (The version condition is necessary: `merge_ok_iff_of_compatible`.) -/
theorem ingredient_store_embedded_unchanged (v : Nat) (skip : Bool) (kind : Man → RedactionKind)
    (cur inc : MStore) (hui : Uniq inc) (huc : Uniq cur) (h : Compatible cur inc)
    (hne : inc ≠ []) (hv : ∀ m ∈ inc, m.ver ≤ v) :
    ∃ s', merge v skip kind cur inc = .ok s' ∧
      (∀ m ∈ inc, lookup s' m.label = some m.content) ∧
      (∀ c ∈ cur, lookup s' c.label = some c.content) := by
  exact ⟨_, merge_of_compatible v skip kind cur inc h hne hv,
    lookup_foldl_incoming cur inc hui,
    fun c hc => foldl_sub cur inc h _ _ (lookup_mem_uniq cur huc c hc)⟩

example : Uniq [⟨⟨"A", none, none⟩, "a", 1⟩, ⟨⟨"B", none, none⟩, "b", 2⟩] ∧
    Compatible [⟨⟨"A", none, none⟩, "a", 1⟩] [⟨⟨"A", none, none⟩, "a", 1⟩, ⟨⟨"B", none, none⟩, "b", 2⟩] := by
  refine ⟨by simp [Uniq], ?_⟩
  intro m hm c hc
  simp at hm
  rcases hm with rfl | rfl
  · simp [lookup] at hc; exact hc.symm
  · simp [lookup] at hc

/-- The statement without the version condition ("for every claim version") is false: a version 2
ingredient cannot be added to a version 1 claim (replayed on the implementation: `add v=1` with an
ingredient signed in-process). -/
theorem v2_ingredient_into_v1_claim_rejected :
    ¬ (∀ (v : Nat) (cur inc : MStore), Uniq inc → Uniq cur → Compatible cur inc → inc ≠ [] →
        ∃ s', merge v false (fun _ => .notByRedaction) cur inc = .ok s') := by
  intro h
  obtain ⟨s', hs⟩ := h 1 [] [⟨⟨"L", none, none⟩, "a", 2⟩] (by simp [Uniq]) (by simp [Uniq])
    (compatible_nil _) (by simp)
  have : merge 1 false (fun _ => RedactionKind.notByRedaction) [] [⟨⟨"L", none, none⟩, "a", 2⟩] =
      .error .versionTooNew := by rfl
  rw [this] at hs
  cases hs

/-! ### what can be signed -/

/-- The arm with a store, for both claim versions the SDK builds: the recorded ingredient carries
manifest data, results and (when the store has a provenance claim) an active manifest together, so
the ingredient assertion never refuses it; what decides is the merge, i.e. the version gates. -/
theorem addToClaim_ok_arm (v : Nat) (hv : v = 1 ∨ v = 2) (skip : Bool) (kind : Man → RedactionKind)
    (cur s : MStore) (r : Results) (hc : Compatible cur s) :
    (∃ out, addToClaim v skip kind cur
        ⟨(provenance s).map (·.label), some s, some r, statusOf r⟩ = .ok out)
      ↔ s ≠ [] ∧ ∀ m ∈ s, m.ver ≤ v := by
  rw [← merge_ok_iff_of_compatible v skip kind cur s hc]
  simp only [addToClaim]
  cases hm : merge v skip kind cur s with
  | error e => exact ⟨fun ⟨_, h⟩ => (nomatch h), fun ⟨_, h⟩ => (nomatch h)⟩
  | ok cur' =>
    refine ⟨fun _ => ⟨cur', rfl⟩, fun _ => ?_⟩
    have hne := ((merge_ok_iff_of_compatible v skip kind cur s hc).1 ⟨cur', hm⟩).1
    have hp : ((provenance s).map (·.label)).isSome = true := by
      rw [Option.isSome_map]; exact (provenance_isSome_iff s).2 hne
    rcases hv with rfl | rfl
    · exact ⟨_, rfl⟩
    · simp only [toAssertion, hp]
      exact ⟨_, rfl⟩

/-- Version 2 claim, v3 ingredient assertion. Given no label conflict with what the
claim already holds, the ingredient can be added and the claim built exactly when the stand-alone
read found no manifest at all, or produced a store with a provenance claim and no claim newer than
version 2. In particular an inaccessible remote manifest and a hard error block signing. -/
theorem signable_iff (o : ReadOutcome) (skip : Bool) (kind : Man → RedactionKind) (cur : MStore)
    (hcompat : ∀ s r, o = .ok s r → Compatible cur s) :
    (∃ i, addStream o = some i ∧ ∃ out, addToClaim 2 skip kind cur i = .ok out) ↔
      o = .noManifest ∨ ∃ s r, o = .ok s r ∧ s ≠ [] ∧ ∀ m ∈ s, m.ver ≤ 2 := by
  -- without a store the recorded ingredient is a closed term and `add_to_claim` computes:
  -- results without manifest data are refused (`bothOrNeither`)
  cases o with
  | noManifest => exact ⟨fun _ => Or.inl rfl, fun _ => ⟨_, rfl, _, rfl⟩⟩
  | inaccessible =>
    constructor
    · rintro ⟨_, hi, _, ho⟩; cases hi; cases ho
    · rintro (h | ⟨_, _, h, _⟩) <;> cases h
  | cancelled =>
    constructor
    · rintro ⟨_, hi, _⟩; cases hi
    · rintro (h | ⟨_, _, h, _⟩) <;> cases h
  | hardError l =>
    constructor
    · rintro ⟨_, hi, _, ho⟩; cases hi; cases ho
    · rintro (h | ⟨_, _, h, _⟩) <;> cases h
  | ok s r =>
    have harm := addToClaim_ok_arm 2 (Or.inr rfl) skip kind cur s r (hcompat s r rfl)
    constructor
    · rintro ⟨_, hi, hout⟩
      cases hi
      exact Or.inr ⟨s, r, rfl, harm.1 hout⟩
    · rintro (h | ⟨s', r', heq, h⟩)
      · cases h
      · cases heq
        exact ⟨_, rfl, harm.2 h⟩

/-- Version 1 claim (v2 ingredient assertion: no both-or-neither rule): every
outcome but a cancelled read can be signed, provided a produced store has a provenance claim and only
version 1 claims. -/
theorem signable_v1_iff (o : ReadOutcome) (skip : Bool) (kind : Man → RedactionKind) (cur : MStore)
    (hcompat : ∀ s r, o = .ok s r → Compatible cur s) :
    (∃ i, addStream o = some i ∧ ∃ out, addToClaim 1 skip kind cur i = .ok out) ↔
      o ≠ .cancelled ∧ ∀ s r, o = .ok s r → s ≠ [] ∧ ∀ m ∈ s, m.ver ≤ 1 := by
  cases o with
  | noManifest => exact ⟨fun _ => ⟨nofun, nofun⟩, fun _ => ⟨_, rfl, _, rfl⟩⟩
  | inaccessible => exact ⟨fun _ => ⟨nofun, nofun⟩, fun _ => ⟨_, rfl, _, rfl⟩⟩
  | cancelled => exact ⟨fun ⟨_, hi, _⟩ => (nomatch hi), fun h => absurd rfl h.1⟩
  | hardError l => exact ⟨fun _ => ⟨nofun, nofun⟩, fun _ => ⟨_, rfl, _, rfl⟩⟩
  | ok s r =>
    have harm := addToClaim_ok_arm 1 (Or.inl rfl) skip kind cur s r (hcompat s r rfl)
    constructor
    · rintro ⟨_, hi, hout⟩
      cases hi
      refine ⟨nofun, fun s' r' heq => ?_⟩
      cases heq
      exact harm.1 hout
    · exact fun h => ⟨_, rfl, harm.2 (h.2 s r rfl)⟩

/-- As coded (open finding `damaged-ingredient-blocks-signing`): a
hard error of the stand-alone validation leaves results without manifest data, which the v3
ingredient assertion refuses; a version 1 claim takes it (status list only). -/
theorem hard_error_blocks_signing (logged : Results) (skip : Bool) (kind : Man → RedactionKind)
    (cur : MStore) :
    ∃ i, addStream (.hardError logged) = some i ∧
      addToClaim 2 skip kind cur i = .error .bothOrNeither ∧
      addToClaim 1 skip kind cur i = .ok (cur, ⟨none, none, statusOf logged⟩) :=
  ⟨_, rfl, rfl, rfl⟩

/-- As coded; open finding `inaccessible-remote-ingredient-blocks-signing`. -/
theorem inaccessible_blocks_signing (c : ErrClass) (l : Results)
    (hc : c = .remoteManifestUrl ∨ c = .remoteManifestFetch) (skip : Bool)
    (kind : Man → RedactionKind) (cur : MStore) :
    ∃ i, addStream (armOf c l) = some i ∧ i.active = none ∧ i.data = none ∧
      i.status = some ["manifest.inaccessible"] ∧
      addToClaim 2 skip kind cur i = .error .bothOrNeither := by
  rcases hc with rfl | rfl <;> exact ⟨_, rfl, rfl, rfl, rfl, rfl⟩

/-- a store without provenance claim (only reachable with `verify_after_reading = false`) is
recorded as manifest data without active manifest and blocks every claim -/
theorem missing_provenance_blocks_signing (r : Results) (v : Nat) (skip : Bool)
    (kind : Man → RedactionKind) (cur : MStore) :
    ∃ i, addStream (.ok [] r) = some i ∧ i.active = none ∧ i.data = some [] ∧
      addToClaim v skip kind cur i = .error .missingProvenance :=
  ⟨_, rfl, rfl, rfl, rfl⟩

/-- **Validation results are copied from the stand-alone read**, with the active manifest and the
manifest store; the v3 ingredient assertion carries exactly them, its manifest reference is the
recorded active manifest, and the claim's ingredient store is the fold of the ingredient's store
into it. For a version 1 claim the assertion carries the failure codes instead. -/
theorem validation_copied (s : MStore) (r : Results) (v : Nat) (hv12 : v = 1 ∨ v = 2) (skip : Bool)
    (kind : Man → RedactionKind) (cur : MStore) (hne : s ≠ []) (hv : ∀ m ∈ s, m.ver ≤ v)
    (hc : Compatible cur s) :
    ∃ i, addStream (.ok s r) = some i ∧ i.results = some r ∧ i.data = some s ∧
      i.active = (provenance s).map (·.label) ∧ i.active.isSome ∧
      ∃ a, addToClaim v skip kind cur i = .ok (s.foldl replaceOrInsert cur, a) ∧
        a.manifestRef = i.active ∧
        (v = 2 → a.results = some r) ∧ (v = 1 → a.status = statusOf r) := by
  have hp : (provenance s).isSome = true := (provenance_isSome_iff s).2 hne
  refine ⟨_, rfl, rfl, rfl, rfl, by simpa using hp, ?_⟩
  have hm := merge_of_compatible v skip kind cur s hc hne hv
  rcases hv12 with rfl | rfl
  · exact ⟨⟨(provenance s).map (·.label), none, statusOf r⟩, by simp [addToClaim, hm, toAssertion],
      rfl, by simp, fun _ => rfl⟩
  · exact ⟨⟨(provenance s).map (·.label), some r, none⟩, by simp [addToClaim, hm, toAssertion, hp],
      rfl, fun _ => rfl, by simp⟩

example : [⟨⟨"L", none, none⟩, "c", 2⟩] ≠ ([] : MStore) ∧
    (∀ m ∈ [(⟨⟨"L", none, none⟩, "c", 2⟩ : Man)], m.ver ≤ 2) ∧
    Compatible [] [⟨⟨"L", none, none⟩, "c", 2⟩] :=
  ⟨by simp, by simp, compatible_nil _⟩

/-! ### the conflict branch as coded -/

/-- The full statement: any two stores (the incoming one admissible: not empty, no claim newer than
the claim) merge, the incoming manifests are embedded (under their own label or a relabelled one)
and nothing the claim already held is lost. -/
def IngredientStoreEmbeddedFull : Prop :=
  ∀ (cur inc : MStore), Uniq cur → Uniq inc → inc ≠ [] → (∀ m ∈ inc, m.ver ≤ 2) →
    ∃ s', merge 2 false (fun _ => .notByRedaction) cur inc = .ok s' ∧
      (∀ c ∈ cur, ∃ l, lookup s' l = some c.content) ∧
      (∀ m ∈ inc, ∃ l, lookup s' l = some m.content)

/-- **Every first conflict that is not explained by redaction fails** (resolution not skipped; the
other arms of `manifest_differs_by_redaction` drop or overwrite): with no relabelled manifest in the
claim's store yet there is no "last conflict version", and the code returns an error instead of
starting at version 1. -/
theorem first_conflict_fails (v : Nat) (cur inc : MStore) (hv : v > 1)
    (hc : conflicts cur inc ≠ []) (hnov : maxVersion cur = none)
    (hle : ∀ pc, provenance inc = some pc → pc.ver ≤ v) :
    merge v false (fun _ => .notByRedaction) cur inc = .error .labelMalformed := by
  unfold merge
  cases hp : provenance inc with
  | none =>
    have : inc = [] := (provenance_none_iff inc).1 hp
    subst this
    exact absurd rfl hc
  | some pc =>
    have h1 : ¬ v < pc.ver := Nat.not_lt.2 (hle pc hp)
    have h2 : (decide (v > 1) && !false) = true := by simp [hv]
    simp only [h1, if_false, h2, if_true]
    cases hcf : conflicts cur inc with
    | nil => exact absurd hcf hc
    | cons m ms => simp [resolve, hnov]

theorem ingredient_store_embedded_full_false : ¬ IngredientStoreEmbeddedFull := by
  intro h
  obtain ⟨s', hs, _⟩ := h [⟨⟨"L", none, none⟩, "a", 2⟩] [⟨⟨"L", none, none⟩, "b", 2⟩]
    (by simp [Uniq]) (by simp [Uniq]) (by simp) (by simp)
  have : merge 2 false (fun _ => RedactionKind.notByRedaction) [⟨⟨"L", none, none⟩, "a", 2⟩]
      [⟨⟨"L", none, none⟩, "b", 2⟩] = .error .labelMalformed := by rfl
  rw [this] at hs
  cases hs

/-- when a version is available the conflict is "resolved" by storing the incoming manifest twice;
the manifest the claim held under that label is lost -/
theorem conflict_overwrites_current :
    ∃ s', merge 2 false (fun _ => .notByRedaction)
        [⟨⟨"L", none, none⟩, "a", 2⟩, ⟨⟨"K", some 3, some 1⟩, "x", 2⟩] [⟨⟨"L", none, none⟩, "b", 2⟩] = .ok s' ∧
      lookup s' ⟨"L", none, none⟩ = some "b" ∧ lookup s' ⟨"L", some 4, some 1⟩ = some "b" ∧
      ∀ l, lookup s' l ≠ some "a" := by
  refine ⟨[⟨⟨"L", none, none⟩, "b", 2⟩, ⟨⟨"K", some 3, some 1⟩, "x", 2⟩, ⟨⟨"L", some 4, some 1⟩, "b", 2⟩],
    by rfl, by decide, by decide, ?_⟩
  intro l h
  obtain ⟨m, hm, _, h2⟩ := lookup_some_mem _ _ _ h
  simp at hm
  rcases hm with rfl | rfl | rfl <;> simp at h2

/-! ### several ingredients -/

-- by membership, not by `lookup` as `Compatible`: a look-up sees only the first manifest under a
-- label, and what a fold of one store leaves under a label is its last one (`compatible_foldl`)
def Agree (a b : MStore) : Prop := ∀ x ∈ a, ∀ y ∈ b, x.label = y.label → x.content = y.content

theorem compatible_of_agree (cur inc : MStore) (h : Agree cur inc) :
    Compatible cur inc := by
  intro m hm c hc
  obtain ⟨x, hx, h1, h2⟩ := lookup_some_mem _ _ _ hc
  rw [← h2]
  exact h x hx m hm h1

theorem compatible_foldl (cur s t : MStore) (hc : Compatible cur t) (ha : Agree s t) :
    Compatible (s.foldl replaceOrInsert cur) t := by
  intro m hm c hl
  rw [lookup_foldl] at hl
  cases hs : lookup s.reverse m.label with
  | none => rw [hs] at hl; exact hc m hm c hl
  | some x =>
    rw [hs] at hl; cases hl
    obtain ⟨y, hy, h1, rfl⟩ := lookup_some_mem _ _ _ hs
    exact ha y (List.mem_reverse.1 hy) m hm h1

/-- The loop of `to_claim` on look-ups: nothing the claim's store answers changes, and every
manifest of every ingredient store is answered. Uniqueness of the claim's own labels is not needed. -/
theorem mergeAll_embeds (v : Nat) (skip : Bool) (kind : Man → RedactionKind)
    (stores : List MStore) (cur : MStore)
    (hu : ∀ s ∈ stores, Uniq s)
    (hadm : ∀ s ∈ stores, s ≠ [] ∧ ∀ m ∈ s, m.ver ≤ v)
    (hcur : ∀ s ∈ stores, Compatible cur s)
    (hpair : ∀ s ∈ stores, ∀ t ∈ stores, Agree s t) :
    ∃ fin, mergeAll v skip kind stores cur = .ok fin ∧ Sub cur fin ∧
      ∀ s ∈ stores, ∀ m ∈ s, lookup fin m.label = some m.content := by
  induction stores generalizing cur with
  | nil => exact ⟨cur, rfl, fun _ _ h => h, by simp⟩
  | cons s ss ih =>
    have hcomp := hcur s (by simp)
    have hs := hadm s (by simp)
    obtain ⟨fin, hfin, hsub, hrest⟩ := ih (s.foldl replaceOrInsert cur)
      (fun t ht => hu t (by simp [ht])) (fun t ht => hadm t (by simp [ht]))
      (fun t ht => compatible_foldl cur s t (hcur t (by simp [ht])) (hpair s (by simp) t (by simp [ht])))
      (fun a ha b hb => hpair a (by simp [ha]) b (by simp [hb]))
    refine ⟨fin, ?_, fun l c h => hsub l c (foldl_sub cur s hcomp l c h), fun t ht m hm => ?_⟩
    · rw [mergeAll, merge_of_compatible v skip kind cur s hcomp hs.1 hs.2]
      exact hfin
    · rcases List.mem_cons.1 ht with rfl | ht'
      · exact hsub _ _ (lookup_foldl_incoming cur t (hu t (by simp)) m hm)
      · exact hrest t ht' m hm

/-- For any list of admissible ingredient stores (not empty, no
claim newer than the claim being built) that pairwise agree on shared labels (and agree with what
the claim already holds), adding them one after the other succeeds and the final store holds every
manifest of every ingredient store, and everything the claim held before, unchanged. -/
theorem all_ingredient_stores_embedded (v : Nat) (skip : Bool) (kind : Man → RedactionKind)
    (stores : List MStore) (cur : MStore) (huc : Uniq cur)
    (hu : ∀ s ∈ stores, Uniq s)
    (hadm : ∀ s ∈ stores, s ≠ [] ∧ ∀ m ∈ s, m.ver ≤ v)
    (hcur : ∀ s ∈ stores, Agree cur s)
    (hpair : ∀ s ∈ stores, ∀ t ∈ stores, Agree s t) :
    ∃ fin, mergeAll v skip kind stores cur = .ok fin ∧
      (∀ c ∈ cur, lookup fin c.label = some c.content) ∧
      (∀ s ∈ stores, ∀ m ∈ s, lookup fin m.label = some m.content) := by
  obtain ⟨fin, h1, h2, h3⟩ := mergeAll_embeds v skip kind stores cur hu hadm
    (fun s hs => compatible_of_agree cur s (hcur s hs)) hpair
  exact ⟨fin, h1, fun c hc => h2 _ _ (lookup_mem_uniq cur huc c hc), h3⟩

/-! ### resource lookup: an ingredient's own resource is never shadowed -/

/-- Whatever the Builder's resource store holds — in particular
another ingredient's manifest under the same (default) identifier — a resource present in the
ingredient's own store is the one `add_to_claim` uses. -/
theorem own_resource_never_shadowed {α : Type} (own builder : RStore α) (id : String) (r : α)
    (h : rget own id = some r) : getResource own builder id = some r := by
  simp [getResource, h]

theorem get_resource_iff {α : Type} (own builder : RStore α) (id : String) (r : α) :
    getResource own builder id = some r ↔
      rget own id = some r ∨ (rget own id = none ∧ rget builder id = some r) := by
  unfold getResource
  cases h : rget own id with
  | none => simp
  | some x => simp

/-- An ingredient that keeps its manifest data
in its own store is added to the claim exactly as if there were no Builder store: its own manifest
store is merged and referenced, for every content of the Builder's store. -/
theorem own_manifest_embedded_whatever_the_builder_holds (v : Nat) (skip : Bool)
    (kind : Man → RedactionKind) (cur : MStore) (i : IngRec) (id : String) (s : MStore)
    (own builder : RStore MStore) (h : rget own id = some s) :
    addToClaimRef v skip kind cur i (some id) own builder =
      addToClaim v skip kind cur { i with data := some s } := by
  simp [addToClaimRef, own_resource_never_shadowed own builder id s h]

/-- two stream ingredients and a definition ingredient colliding on the default identifier: each
carries its own manifest (with the two stores asked in the other order B would get the manifest of A) -/
example : getResource [("manifest_data.c2pa", "B")] [("manifest_data.c2pa", "A")] "manifest_data.c2pa" = some "B" ∧
    getResource ([] : RStore String) [("manifest_data.c2pa", "A")] "manifest_data.c2pa" = some "A" := by
  decide +kernel

/-! ### recorded results and the parent Reader's ingredient deltas -/

/-- **Which logged statuses the parent's read reports.** A status is reported iff it was logged and
(it was not logged for an ingredient, or it is about the active manifest itself, or it is not equal
(code, url, kind) to any status captured in an ingredient assertion of the store). -/
theorem from_store_mem_iff (a : String) (cap log : List Status) (s : Status) :
    s ∈ fromStore (some a) cap log ↔
      s ∈ log ∧ (s.ingUri = none ∨ s.manifest = a ∨ ∀ c ∈ cap, c.same s = false) := by
  unfold fromStore
  by_cases hany : log.any (fun s => s.manifest != a) = true
  · simp only [hany, if_true, List.mem_filter, Bool.or_eq_true, Option.isNone_iff_eq_none,
      beq_iff_eq, Bool.not_eq_true', List.any_eq_false, Bool.not_eq_true, or_assoc]
  · simp only [hany]
    constructor
    · intro h1
      refine ⟨h1, Or.inr (Or.inl ?_)⟩
      have := List.any_eq_false.1 (Bool.eq_false_iff.2 hany) s h1
      simpa using this
    · exact fun h => h.1

/-- If every failure logged for an ingredient manifest while
the parent is read is among the captured statuses (which hold the stand-alone results of each
ingredient: `validation_copied`), the parent's read reports no failure delta about an ingredient
manifest — the only possible delta failures concern the active manifest itself. -/
theorem faithful_capture_no_failure_delta (a : String) (cap log : List Status)
    (hcov : ∀ s ∈ log, s.kind = 2 → s.ingUri.isSome → s.manifest ≠ a → ∃ c ∈ cap, c.same s = true) :
    ∀ s ∈ deltaFailures (fromStore (some a) cap log), s.manifest = a := by
  intro s hs
  unfold deltaFailures at hs
  simp only [List.mem_filter, Bool.and_eq_true, beq_iff_eq] at hs
  obtain ⟨hmem, hu, hk⟩ := hs
  obtain ⟨hlog, hor⟩ := (from_store_mem_iff a cap log s).1 hmem
  rcases hor with h | h | h
  · rw [h] at hu; cases hu
  · exact h
  · apply Classical.byContradiction
    intro hne
    obtain ⟨c, hc, hsame⟩ := hcov s hlog hk hu hne
    rw [h c hc] at hsame
    cases hsame

/-- A failure found for an ingredient manifest while the parent is read that the capture did not
record is reported as an ingredient delta failure: an unfaithful capture is visible in the parent's
read. -/
theorem dropped_failure_is_delta (a : String) (cap log : List Status) (f : Status)
    (hf : f ∈ log) (hk : f.kind = 2) (hu : f.ingUri.isSome)
    (hnot : ∀ c ∈ cap, c.same f = false) :
    f ∈ deltaFailures (fromStore (some a) cap log) := by
  unfold deltaFailures
  simp only [List.mem_filter, Bool.and_eq_true, beq_iff_eq]
  exact ⟨(from_store_mem_iff a cap log f).2 ⟨hf, Or.inr (Or.inr hnot)⟩, hu, hk⟩

example : deltaFailures (fromStore (some "P") [⟨2, "assertion.dataHash.mismatch", "I", "h", none⟩]
    [⟨2, "assertion.dataHash.mismatch", "I", "h", some "P/ing"⟩, ⟨0, "claimSignature.validated", "P", "s", none⟩]) = [] := by
  decide +kernel
example : deltaFailures (fromStore (some "P") []
    [⟨2, "assertion.dataHash.mismatch", "I", "h", some "P/ing"⟩, ⟨0, "claimSignature.validated", "P", "s", none⟩]) =
    [⟨2, "assertion.dataHash.mismatch", "I", "h", some "P/ing"⟩] := by
  decide +kernel

end C2pa.C39
