import C2paModel.Model.C26
import C2paModel.Lemmas.C27Net
import C2paModel.Gen.C28HttpSites
import C2paModel.Lemmas.DecideRun
/-
C26 — property theorems. The statement (properties.jsonl):

  When an allowed-hosts list is configured, no HTTP request (the initial request or any redirect
  hop) reaches the transport unless its URI matches a configured pattern under the documented
  rules (exact host or wildcard subdomain, optional scheme, port must match). Everything else is
  refused with a URI-disallowed error.

`MatchesSpec` is the documented rule written declaratively (no reference to the code's control
flow); `matches_spec` shows the model of `HostPattern::matches` decides exactly that rule,
`new_spec` characterises how `HostPattern::new` reads a pattern string, and the stack theorems
(`transport_only_sees_allowed`, `refused_is_uri_disallowed`) quantify over every transport, every
`Url::join` behaviour, every pattern list, every request and every redirect history. Over all
request sites of the SDK the statement is false (`site_enforces_iff`).
-/
namespace C2pa.C26

open C2pa.C27

/-! ### the documented rule -/

/-- Host rule: `*.suffix` admits exactly the hosts `pre ++ "." ++ suffix`, anything else is an
exact comparison; ASCII-case-insensitively in the host (the suffix of a wildcard is compared as it
stands: `HostPattern::new` has lower-cased the pattern text). (`pre` is whatever stands in place of the `*`;
the code does not require it to be non-empty, so the degenerate host `.suffix` is admitted too —
never the bare `suffix` and never `xsuffix`.) -/
def HostRule (patternHost host : Bytes) : Prop :=
  (∃ suffix, patternHost = wildcard ++ suffix ∧ ∃ pre, lower host = pre ++ 46 :: suffix) ∨
  ((∀ suffix, patternHost ≠ wildcard ++ suffix) ∧ lower patternHost = lower host)

/-- Scheme rule: a scheme in the pattern must be the URI's scheme. -/
def SchemeRule (patternScheme uriScheme : Option Bytes) : Prop :=
  ∀ s, patternScheme = some s → uriScheme = some s

/-- The documented rule for one pattern: host rule, equal port strings (both absent or both the
same text), scheme rule; a pattern without a host (scheme only) admits the URIs of that scheme. -/
def MatchesSpec (p : Pattern) (u : Uri) : Prop :=
  match p.host with
  | some ph => ∃ h, u.host = some h ∧ HostRule ph h ∧ p.port = u.port ∧ SchemeRule p.scheme u.scheme
  | none => ∃ s, p.scheme = some s ∧ u.scheme = some s

def AllowedSpec (ps : List Pattern) (u : Uri) : Prop := ∃ p ∈ ps, MatchesSpec p u

theorem wildcardMatch_iff (suffix host : Bytes) :
    wildcardMatch suffix host = true ↔ ∃ pre, lower host = pre ++ 46 :: suffix := by
  unfold wildcardMatch endsWith
  generalize lower host = hl
  dsimp only
  by_cases hs : suffix <:+ hl
  · -- the host is `t ++ suffix`; both sides say that the last byte of `t` is the dot
    obtain ⟨t, rfl⟩ := hs
    have e : (∃ pre, t ++ suffix = pre ++ 46 :: suffix) ↔ t.getLast? = some 46 := by
      rw [List.getLast?_eq_some_iff]
      exact exists_congr fun pre => by
        rw [show pre ++ 46 :: suffix = (pre ++ [46]) ++ suffix by simp, List.append_cancel_right_eq]
    rw [e]
    rcases List.eq_nil_or_concat t with rfl | ⟨ys, y, rfl⟩
    · simp
    · have hi : (ys ++ [y] ++ suffix).length - suffix.length - 1 = ys.length := by simp; omega
      rw [List.concat_eq_append, List.isSuffixOf_iff_suffix.2 (List.suffix_append _ suffix), hi]
      simp
      omega
  · have : suffix.isSuffixOf hl = false := Bool.eq_false_iff.2 (mt List.isSuffixOf_iff_suffix.1 hs)
    simp only [this, Bool.not_false, Bool.or_true, if_true, Bool.false_eq_true, false_iff]
    rintro ⟨pre, rfl⟩
    exact hs ⟨pre ++ [46], by simp⟩

/-! ### `matches` decides the documented rule -/

theorem hostRule_wildcard (suffix h : Bytes) :
    HostRule (wildcard ++ suffix) h ↔ ∃ pre, lower h = pre ++ 46 :: suffix :=
  ⟨fun hr => hr.elim (fun ⟨_, hs, hp⟩ => List.append_cancel_left hs ▸ hp)
      (fun ⟨hno, _⟩ => absurd rfl (hno suffix)),
    fun hp => Or.inl ⟨suffix, rfl, hp⟩⟩

theorem hostRule_of_no_wildcard {ph : Bytes} (hw : ∀ s, ph ≠ wildcard ++ s) (h : Bytes) :
    HostRule ph h ↔ lower ph = lower h :=
  ⟨fun hr => hr.elim (fun ⟨s, hs, _⟩ => absurd hs (hw s)) And.right, fun e => Or.inr ⟨hw, e⟩⟩

theorem hostAllowed_iff (ph h : Bytes) : hostAllowed ph h = true ↔ HostRule ph h := by
  unfold hostAllowed
  cases hs : stripPrefix wildcard ph with
  | some suffix =>
    rw [(stripPrefix_some_iff _ _ _).1 hs, hostRule_wildcard, wildcardMatch_iff]
  | none =>
    rw [hostRule_of_no_wildcard ((stripPrefix_none_iff _ _).1 hs)]
    simp only [eqIgnoreCase, beq_iff_eq]

theorem schemeEquals_iff (a : Bytes) (us : Option Bytes) :
    schemeEquals a us = true ↔ us = some a := by
  unfold schemeEquals
  cases us with
  | none => simp
  | some s => simp

/-- The left-hand side is the scheme test as it stands in the body of `Pattern.matches`, so that
`matches_spec` can rewrite with this lemma from right to left. -/
theorem schemeOk_iff (sc us : Option Bytes) :
    (match sc with | some a => schemeEquals a us | none => true) = true ↔ SchemeRule sc us := by
  cases sc with
  | none => exact ⟨fun _ _ hs => (by cases hs), fun _ => rfl⟩
  | some a =>
    rw [schemeEquals_iff]
    exact ⟨fun h s hs => Option.some.inj hs ▸ h, fun h => h a rfl⟩

/-- **The model of `HostPattern::matches` holds exactly when the documented rule does.** -/
theorem matches_spec (p : Pattern) (u : Uri) : p.matches u = true ↔ MatchesSpec p u := by
  unfold Pattern.matches MatchesSpec
  cases p.host with
  | none =>
    cases p.scheme with
    | none => simp
    | some a => simp [schemeEquals_iff]
  | some ph =>
    cases u.host with
    | none => simp
    | some h =>
      -- host, port and scheme tests of the code are the three rules, one by one
      simp only [Option.some.injEq, exists_eq_left', ← schemeOk_iff, ← hostAllowed_iff]
      cases hostAllowed ph h
      · simp
      · -- left over: the scheme test of the code against its copy in `schemeOk_iff`
        simp; exact fun _ => rfl

theorem isUriAllowed_iff (ps : List Pattern) (u : Uri) :
    isUriAllowed ps u = true ↔ AllowedSpec ps u := by
  simp only [isUriAllowed, AllowedSpec, List.any_eq_true, matches_spec]

theorem empty_list_allows_nothing (u : Uri) : ¬ AllowedSpec [] u := by
  rintro ⟨p, hp, _⟩; cases hp

/-! ### the documented rule read strictly, and exactly what the code admits beyond it

`HostRule` above lets the text in place of the `*` and the suffix be empty, because the code does
(`host.len() <= suffix.len()` and a `.` before the suffix are its only checks). The documentation
(settings `core.allowed_network_hosts`) speaks of a *sub-domain* of a *hostname*:
`StrictHostRule` is that reading, `DegenerateHost` is precisely the excess, and
`matches_exact` says the code admits the strict rule plus exactly that excess — so neither
degenerate case can grow or shrink unnoticed. -/

/-- `*.suffix` with a non-empty suffix admits exactly `label….suffix` with a non-empty left part;
anything else is an exact comparison. -/
def StrictHostRule (patternHost host : Bytes) : Prop :=
  (∃ suffix, patternHost = wildcard ++ suffix ∧ suffix ≠ [] ∧
     ∃ pre, pre ≠ [] ∧ lower host = pre ++ 46 :: suffix) ∨
  ((∀ suffix, patternHost ≠ wildcard ++ suffix) ∧ lower patternHost = lower host)

/-- What the code admits beyond the strict reading: the pattern `*.` (empty suffix) admits every
host that ends in a dot, and `*.suffix` admits the host `.suffix` (empty label). -/
def DegenerateHost (patternHost host : Bytes) : Prop :=
  ∃ suffix, patternHost = wildcard ++ suffix ∧
    ((suffix = [] ∧ ∃ pre, lower host = pre ++ [46]) ∨ lower host = 46 :: suffix)

theorem hostRule_exact (ph h : Bytes) : HostRule ph h ↔ (StrictHostRule ph h ∨ DegenerateHost ph h) := by
  unfold HostRule StrictHostRule DegenerateHost
  constructor
  · rintro (⟨suffix, hph, pre, hpre⟩ | hex)
    · by_cases hs : suffix = []
      · right; exact ⟨suffix, hph, Or.inl ⟨hs, pre, by rw [hpre, hs]⟩⟩
      · by_cases hp : pre = []
        · right; exact ⟨suffix, hph, Or.inr (by rw [hpre, hp]; rfl)⟩
        · left; left; exact ⟨suffix, hph, hs, pre, hp, hpre⟩
    · left; right; exact hex
  · rintro ((⟨suffix, hph, _, pre, _, hpre⟩ | hex) | ⟨suffix, hph, (⟨hs, pre, hpre⟩ | hpre)⟩)
    · left; exact ⟨suffix, hph, pre, hpre⟩
    · right; exact hex
    · left; exact ⟨suffix, hph, pre, by rw [hpre, hs]⟩
    · left; exact ⟨suffix, hph, [], by rw [hpre]; rfl⟩

/-- `MatchesSpec` with `StrictHostRule` in place of `HostRule`. -/
def StrictMatchesSpec (p : Pattern) (u : Uri) : Prop :=
  (∃ ph h, p.host = some ph ∧ u.host = some h ∧ StrictHostRule ph h ∧ p.port = u.port ∧
     SchemeRule p.scheme u.scheme) ∨
  (p.host = none ∧ ∃ s, p.scheme = some s ∧ u.scheme = some s)

/-- **`HostPattern::matches` admits exactly the strictly-read documented rule plus the two
degenerate host cases** (with the same port and scheme conditions). -/
theorem matches_exact (p : Pattern) (u : Uri) :
    p.matches u = true ↔
      (StrictMatchesSpec p u ∨
       ∃ ph h, p.host = some ph ∧ u.host = some h ∧ DegenerateHost ph h ∧ p.port = u.port ∧
         SchemeRule p.scheme u.scheme) := by
  rw [matches_spec]
  unfold MatchesSpec StrictMatchesSpec
  cases p.host with
  | none => simp
  | some ph =>
    -- the two readings of the host rule (`hostRule_exact`), distributed over the other conditions
    simp only [hostRule_exact, or_and_right, and_or_left, exists_or, Option.some.injEq,
      exists_and_left, exists_eq_left', reduceCtorEq, false_and, or_false]

/-- Under the strict rule a host admitted by `*.suffix` is `pre ++ "." ++ suffix` with `pre`
non-empty: never the bare suffix, a sibling that merely ends in the suffix text, or an empty label. -/
theorem strict_wildcard_needs_label (suffix host : Bytes) (_hs : suffix ≠ [])
    (h : StrictHostRule (wildcard ++ suffix) host) :
    ∃ pre, pre ≠ [] ∧ lower host = pre ++ 46 :: suffix := by
  rcases h with ⟨suf, hph, _, pre, hpre, hh⟩ | ⟨hno, _⟩
  · have : suffix = suf := List.append_cancel_left hph
    subst this; exact ⟨pre, hpre, hh⟩
  · exact absurd rfl (hno suffix)

/-! ### how `HostPattern::new` reads a pattern string -/

theorem rsplitOnce_split (c : Nat) (a b : Bytes) (hb : c ∉ b) :
    rsplitOnce c (a ++ c :: b) = some (a, b) := by
  have h := Data.span_append (· != c) b.reverse (c :: a.reverse)
    (fun x hx => bne_iff_ne.2 fun e => hb (e ▸ List.mem_reverse.1 hx)) (fun x hx => by cases hx; simp)
  simp only [rsplitOnce, List.reverse_append, List.reverse_cons, List.append_assoc,
    List.singleton_append, h.1, h.2, List.reverse_reverse]

theorem rsplitOnce_not_mem (c : Nat) (s : Bytes) (h : c ∉ s) : rsplitOnce c s = none := by
  have := (Data.span_append (· != c) s.reverse []
    (fun x hx => bne_iff_ne.2 fun e => h (e ▸ List.mem_reverse.1 hx)) nofun).2
  rw [List.append_nil] at this
  simp only [rsplitOnce, this]

theorem exists_last_split (c : Nat) : ∀ s : Bytes, c ∈ s → ∃ a b, s = a ++ c :: b ∧ c ∉ b
  | x :: xs, h => by
    by_cases hxs : c ∈ xs
    · obtain ⟨a, b, hab, hnb⟩ := exists_last_split c xs hxs
      exact ⟨x :: a, b, by rw [hab]; rfl, hnb⟩
    · have : x = c := ((List.mem_cons.1 h).resolve_right hxs).symm
      exact ⟨[], xs, by rw [this]; rfl, hxs⟩

theorem rsplitOnce_cases (c : Nat) (s : Bytes) :
    (c ∉ s ∧ rsplitOnce c s = none) ∨
      ∃ a b, s = a ++ c :: b ∧ c ∉ b ∧ rsplitOnce c s = some (a, b) := by
  by_cases h : c ∈ s
  · obtain ⟨a, b, rfl, hb⟩ := exists_last_split c s h
    exact Or.inr ⟨a, b, rfl, hb, rsplitOnce_split c a b hb⟩
  · exact Or.inl ⟨h, rsplitOnce_not_mem c s h⟩

theorem splitScheme_iff (pat : Bytes) (sc : Option Bytes) (rest : Bytes) :
    splitScheme pat = (sc, rest) ↔
      (sc = some sHttps ∧ pat = pHttps ++ rest) ∨
      (sc = some sHttp ∧ pat = pHttp ++ rest ∧ ∀ r, pat ≠ pHttps ++ r) ∨
      (sc = none ∧ pat = rest ∧ (∀ r, pat ≠ pHttps ++ r) ∧ ∀ r, pat ≠ pHttp ++ r) := by
  unfold splitScheme
  cases h1 : stripPrefix pHttps pat with
  | some r1 =>
    simp [(stripPrefix_some_iff _ _ _).1 h1, @eq_comm _ _ sc]
  | none =>
    have n1 := (stripPrefix_none_iff _ _).1 h1
    cases h2 : stripPrefix pHttp pat with
    | some r2 =>
      have e := (stripPrefix_some_iff _ _ _).1 h2
      simp [e ▸ n1, e, @eq_comm _ _ sc]
    | none => simp [n1, (stripPrefix_none_iff _ _).1 h2, @eq_comm _ _ sc, @eq_comm _ pat]

theorem splitPort_iff (rest h : Bytes) (pt : Option Bytes) :
    splitPort rest = (h, pt) ↔
      (∃ p, pt = some p ∧ rest = h ++ 58 :: p ∧ 58 ∉ p) ∨ (pt = none ∧ rest = h ∧ 58 ∉ rest) := by
  unfold splitPort
  rcases rsplitOnce_cases 58 rest with ⟨hn, e⟩ | ⟨a, b, rfl, hb, e⟩ <;> rw [e]
  · constructor
    · rintro ⟨⟩; exact Or.inr ⟨rfl, rfl, hn⟩
    · rintro (⟨p, _, rfl, _⟩ | ⟨rfl, rfl, _⟩)
      · exact absurd (by simp) hn
      · rfl
  · constructor
    · rintro ⟨⟩; exact Or.inl ⟨b, rfl, rfl, hb⟩
    · rintro (⟨p, rfl, e', hp⟩ | ⟨_, _, hno⟩)
      · -- the last split is unique: the function finds it on either spelling of the text
        rw [e', rsplitOnce_split 58 h p hp] at e
        cases e; rfl
      · exact absurd (by simp) hno

/-- The components `HostPattern::new` extracts, described by equations on the lower-cased pattern
text: an `https://` or (failing that) `http://` prefix is the scheme; the rest is split at its
*last* `:` into host and port (no `:` — no port); an empty host is no host. -/
theorem new_spec (raw : Bytes) :
    let p := Pattern.new raw
    p.pattern = lower raw ∧
    ∃ rest hostText,
      ((p.scheme = some sHttps ∧ lower raw = pHttps ++ rest) ∨
       (p.scheme = some sHttp ∧ lower raw = pHttp ++ rest ∧ ∀ r, lower raw ≠ pHttps ++ r) ∨
       (p.scheme = none ∧ lower raw = rest ∧ (∀ r, lower raw ≠ pHttps ++ r) ∧ ∀ r, lower raw ≠ pHttp ++ r)) ∧
      ((∃ portText, p.port = some portText ∧ rest = hostText ++ 58 :: portText ∧ 58 ∉ portText) ∨
       (p.port = none ∧ rest = hostText ∧ 58 ∉ rest)) ∧
      p.host = (if hostText.isEmpty then none else some hostText) :=
  ⟨rfl, (splitScheme (lower raw)).2, (splitPort (splitScheme (lower raw)).2).1,
    (splitScheme_iff (lower raw) _ _).1 rfl, (splitPort_iff _ _ _).1 rfl, rfl⟩

/-! ### `new` and `matches` composed: from the pattern *text* to the admitted URIs -/

def exUri' (host : String) (port : Option String) : Uri :=
  { text := [], scheme := some (bytesOf "https"), host := some (bytesOf host), port := port.map bytesOf }

/-- `scheme://` or nothing -/
def schemePrefix : Option Bytes → Bytes
  | none => []
  | some s => s ++ bytesOf "://"

/-- `:port` or nothing -/
def portSuffix : Option Bytes → Bytes
  | none => []
  | some p => 58 :: p

theorem schemePrefix_https : schemePrefix (some sHttps) = pHttps := by
  unfold schemePrefix sHttps pHttps bytesOf; decide_run

theorem schemePrefix_http : schemePrefix (some sHttp) = pHttp := by
  unfold schemePrefix sHttp pHttp bytesOf; decide_run

theorem pHttp_ne_pHttps (x r : Bytes) : pHttp ++ x ≠ pHttps ++ r := by
  intro h
  -- byte 4 is `:` in one and `s` in the other
  have := congrArg (fun l => l[4]?) h
  simp [pHttp, pHttps, bytesOf] at this

/-- **What `HostPattern::new` makes of a well-formed pattern text.** If the lower-cased text is
`[http(s)://] host [:port]` — the host non-empty, the port (when present) without `:`, the host
without `:` when there is no port, and a scheme-less text not itself starting with `http(s)://` —
then `new` yields exactly these three components. -/
theorem new_of_text (raw : Bytes) (sc : Option Bytes) (h : Bytes) (pt : Option Bytes)
    (hraw : lower raw = schemePrefix sc ++ (h ++ portSuffix pt))
    (hsc : sc = none ∨ sc = some sHttps ∨ sc = some sHttp)
    (hnone : sc = none → (∀ r, lower raw ≠ pHttps ++ r) ∧ ∀ r, lower raw ≠ pHttp ++ r)
    (hne : h ≠ [])
    (hcolon : match pt with | none => 58 ∉ h | some p => 58 ∉ p) :
    Pattern.new raw = { pattern := lower raw, scheme := sc, host := some h, port := pt } := by
  have hsplit : splitScheme (lower raw) = (sc, h ++ portSuffix pt) := by
    rw [splitScheme_iff]
    rcases hsc with rfl | rfl | rfl
    · exact Or.inr (Or.inr ⟨rfl, by simpa [schemePrefix] using hraw, hnone rfl⟩)
    · exact Or.inl ⟨rfl, by rw [hraw, schemePrefix_https]⟩
    · refine Or.inr (Or.inl ⟨rfl, by rw [hraw, schemePrefix_http], fun r hr => ?_⟩)
      rw [hraw, schemePrefix_http] at hr; exact pHttp_ne_pHttps _ _ hr
  have hport : splitPort (h ++ portSuffix pt) = (h, pt) := by
    rw [splitPort_iff]
    cases pt with
    | none => exact Or.inr ⟨rfl, by simp [portSuffix], by simpa [portSuffix] using hcolon⟩
    | some p => exact Or.inl ⟨p, rfl, rfl, hcolon⟩
  have hem : h.isEmpty = false := by cases h <;> simp at hne ⊢
  unfold Pattern.new
  simp only [hsplit, hport, hem, Bool.false_eq_true, if_false]

/-- **From pattern text to admitted URIs**: what `HostPattern::new(text).matches` admits for a
well-formed pattern text, in terms of the parts of the text. -/
theorem new_matches_iff (raw : Bytes) (sc : Option Bytes) (h : Bytes) (pt : Option Bytes) (u : Uri)
    (hraw : lower raw = schemePrefix sc ++ (h ++ portSuffix pt))
    (hsc : sc = none ∨ sc = some sHttps ∨ sc = some sHttp)
    (hnone : sc = none → (∀ r, lower raw ≠ pHttps ++ r) ∧ ∀ r, lower raw ≠ pHttp ++ r)
    (hne : h ≠ [])
    (hcolon : match pt with | none => 58 ∉ h | some p => 58 ∉ p) :
    (Pattern.new raw).matches u = true ↔
      ∃ uh, u.host = some uh ∧ HostRule h uh ∧ pt = u.port ∧ SchemeRule sc u.scheme := by
  rw [new_of_text raw sc h pt hraw hsc hnone hne hcolon, matches_spec]
  simp [MatchesSpec]

/-- Plain host text (no scheme, no port, no wildcard): admitted are exactly the URIs with that
host, case-insensitively, and *no* port. -/
theorem new_exact_host (raw : Bytes) (u : Uri)
    (hc : 58 ∉ lower raw) (hne : raw ≠ [])
    (hw : ∀ s, lower raw ≠ wildcard ++ s) :
    (Pattern.new raw).matches u = true ↔
      ((u.host.map lower) = some (lower raw) ∧ u.port = none) := by
  have no_colon_prefix : ∀ (pre : Bytes), (58 : Nat) ∈ pre → ∀ r, lower raw ≠ pre ++ r := by
    intro pre hp r e; apply hc; rw [e]; exact List.mem_append_left _ hp
  have hne' : lower raw ≠ [] := by cases raw <;> simp [lower] at hne ⊢
  rw [new_matches_iff raw none (lower raw) none u (by simp [schemePrefix, portSuffix]) (Or.inl rfl)
    (fun _ => ⟨no_colon_prefix pHttps (by decide +kernel), no_colon_prefix pHttp (by decide +kernel)⟩)
    hne' hc]
  cases u.host with
  | none => simp
  | some uh =>
    simp only [Option.some.injEq, exists_eq_left', hostRule_of_no_wildcard hw, lower_lower,
      Option.map_some, @eq_comm _ none, @eq_comm _ (lower uh)]
    exact and_congr_right fun _ => and_iff_left fun s hs => nomatch hs

example : Pattern.new (bytesOf "HTTPS://Cdn.Example.net:8443") =
    { pattern := bytesOf "https://cdn.example.net:8443", scheme := some sHttps,
      host := some (bytesOf "cdn.example.net"), port := some (bytesOf "8443") } := by
  have hl : lower (bytesOf "HTTPS://Cdn.Example.net:8443") = bytesOf "https://cdn.example.net:8443" := by
    unfold bytesOf; decide_run
  rw [← hl]
  exact new_of_text _ (some sHttps) (bytesOf "cdn.example.net") (some (bytesOf "8443"))
    (by unfold sHttps bytesOf; decide_run) (Or.inr (Or.inl rfl)) (by intro h; cases h)
    (by unfold bytesOf; decide_run) (by unfold bytesOf; decide_run)

/-- `new_exact_host` on an ordinary host name. -/
example : (Pattern.new (bytesOf "Example.ORG")).matches (exUri' "EXAMPLE.org" none) = true :=
  (new_exact_host (bytesOf "Example.ORG") _ (by unfold bytesOf; decide_run)
    (by unfold bytesOf; decide_run)
    ((stripPrefix_none_iff _ _).1 (by unfold bytesOf; decide_run))).2
    (by unfold exUri' bytesOf; decide_run)

/-- `new_matches_iff` on a wildcard pattern with scheme and port: a sub-domain on that port and
scheme is admitted. -/
example : (Pattern.new (bytesOf "https://*.Example.org:8443")).matches
    { text := [], scheme := some sHttps, host := some (bytesOf "CDN.example.org"), port := some (bytesOf "8443") } = true :=
  (new_matches_iff (bytesOf "https://*.Example.org:8443") (some sHttps) (bytesOf "*.example.org")
    (some (bytesOf "8443")) _ (by unfold sHttps bytesOf; decide_run) (Or.inr (Or.inl rfl))
    (by intro h; cases h) (by unfold bytesOf; decide_run) (by unfold bytesOf; decide_run)).2
    ⟨bytesOf "CDN.example.org", rfl,
      Or.inl ⟨bytesOf "example.org", by unfold bytesOf; decide_run, bytesOf "cdn",
        by unfold bytesOf; decide_run⟩,
      rfl, fun s hs => by cases hs; rfl⟩

/-! ### degenerate and surprising pattern texts, recorded as facts

None of these lets a request through that the *configured text* does not name, so none is a
violation of the statement; they are recorded so that a change is noticed (the harness replays each
on `HostPattern::new` / `matches`). -/

def uriOf (host : String) (port : Option String) : Uri :=
  { text := [], scheme := some (bytesOf "https"), host := some (bytesOf host), port := port.map bytesOf }

/-- the pattern `*.` (no suffix) admits a host written with a trailing dot, `evil.com.`, and not
`evil.com` (every such host: the first case of `DegenerateHost`, by `matches_exact`) -/
theorem wildcard_dot_admits_fqdn :
    (Pattern.new (bytesOf "*.")).matches (uriOf "evil.com." none) = true ∧
    (Pattern.new (bytesOf "*.")).matches (uriOf "evil.com" none) = false := by
  unfold uriOf bytesOf; decide_run

/-- `*.example.org` admits the host `.example.org` (empty label) — and not `example.org` -/
theorem wildcard_admits_empty_label :
    (Pattern.new (bytesOf "*.example.org")).matches (uriOf ".example.org" none) = true ∧
    (Pattern.new (bytesOf "*.example.org")).matches (uriOf "example.org" none) = false ∧
    (Pattern.new (bytesOf "*.example.org")).matches (uriOf "fakeexample.org" none) = false := by
  unfold uriOf bytesOf; decide_run

/-- An IPv6 literal pattern without a port is cut at its last `:` (host `[:`, port `1]`): it admits
`[::1]` neither without a port nor with port 8080 (a port text `1]` is none an `http::Uri` carries,
so it fails closed); the pattern with a port admits its URI. -/
theorem ipv6_pattern_needs_port :
    Pattern.new (bytesOf "[::1]") =
      { pattern := bytesOf "[::1]", scheme := none, host := some (bytesOf "[:"), port := some (bytesOf "1]") } ∧
    (Pattern.new (bytesOf "[::1]")).matches (uriOf "[::1]" none) = false ∧
    (Pattern.new (bytesOf "[::1]")).matches (uriOf "[::1]" (some "8080")) = false ∧
    (Pattern.new (bytesOf "[::1]:8080")).matches (uriOf "[::1]" (some "8080")) = true := by
  unfold uriOf bytesOf; decide_run

/-- A trailing dot and a trailing `:` are compared literally: `example.org` does not admit the host
`example.org.`, nor `example.org:` the host `example.org`. -/
theorem literal_dot_and_colon :
    (Pattern.new (bytesOf "example.org")).matches (uriOf "example.org." none) = false ∧
    (Pattern.new (bytesOf "example.org:")).matches (uriOf "example.org" none) = false := by
  unfold uriOf bytesOf; decide_run

/-! ### enforcement: one layer -/

/-- **A URI outside the list is refused with `UriDisallowed` and the transport is not called.** -/
theorem restricted_refuses (ps : List Pattern) (t : Transport) (hop : Nat) (req : Request) (st : St)
    (h : ¬ AllowedSpec ps req.uri) :
    restricted (some ps) t hop req st =
      ({ st with attempts := st.attempts ++ [req] }, .error .uriDisallowed) := by
  have : isUriAllowed ps req.uri = false :=
    Bool.eq_false_iff.2 fun hb => h ((isUriAllowed_iff ps req.uri).1 hb)
  simp [restricted, resolverAllows, this]

theorem restricted_passes (ps : List Pattern) (t : Transport) (hop : Nat) (req : Request) (st : St)
    (h : AllowedSpec ps req.uri) :
    restricted (some ps) t hop req st =
      ({ attempts := st.attempts ++ [req], trace := st.trace ++ [req] }, t hop req) := by
  have : isUriAllowed ps req.uri = true := (isUriAllowed_iff ps req.uri).2 h
  simp [restricted, resolverAllows, this]

/-! ### enforcement: the whole stack, every hop -/

/-- Outcome of a run with respect to the allow-list: either every attempted request was admitted
(and all of them reached the transport), or exactly the last attempt was outside the list, it did
not reach the transport, and the result is `UriDisallowed`. -/
def RefusalShape (ps : List Pattern) (r : St × Except Err Response) : Prop :=
  (∀ q ∈ r.1.trace, AllowedSpec ps q.uri) ∧
  (r.1.attempts = r.1.trace ∨
    ∃ q, r.1.attempts = r.1.trace ++ [q] ∧ ¬ AllowedSpec ps q.uri ∧ r.2 = .error .uriDisallowed)

/-- The invariant at the head of an iteration: so far every attempt reached the transport
(`attempts = trace`) and was admitted. (`C27.loop_rule` does not serve here: `RefusalShape` speaks of
the result of the run as well as of its final state.) -/
theorem loop_refusal (t : Transport) (join : JoinFn) (ps : List Pattern) (redirects : Bool) :
    ∀ fuel hop req st, st.attempts = st.trace → (∀ q ∈ st.trace, AllowedSpec ps q.uri) →
      RefusalShape ps (redirectLoop (restricted (some ps) t) join redirects fuel hop req st) := by
  intro fuel
  induction fuel with
  | zero => intro hop req st h1 h2; exact ⟨by simpa [redirectLoop] using h2, Or.inl (by simpa [redirectLoop] using h1)⟩
  | succ n ih =>
    intro hop req st h1 h2
    unfold redirectLoop
    by_cases ha : AllowedSpec ps req.uri
    · rw [restricted_passes ps t hop req st ha]
      have h1' : (st.attempts ++ [req]) = (st.trace ++ [req]) := by rw [h1]
      have h2' : ∀ q ∈ st.trace ++ [req], AllowedSpec ps q.uri :=
        List.forall_mem_append.2 ⟨h2, List.forall_mem_singleton.2 ha⟩
      cases ht : t hop req with
      | error e => exact ⟨h2', Or.inl h1'⟩
      | ok resp =>
        simp only
        cases hr : redirectTarget join redirects hop req.uri resp with
        | error e => exact ⟨h2', Or.inl h1'⟩
        | ok o =>
          cases o with
          | none => exact ⟨h2', Or.inl h1'⟩
          | some target => exact ih _ _ _ h1' h2'
    · rw [restricted_refuses ps t hop req st ha]
      exact ⟨h2, Or.inr ⟨req, by simp [h1], ha, rfl⟩⟩

/-- **Everything else is refused with a URI-disallowed error**: in every run of the stack each
attempted request outside the list is the last attempt, never reaches the transport, and the run
ends in `UriDisallowed`; all other attempts reached the transport. -/
theorem refused_is_uri_disallowed (t : Transport) (join : JoinFn) (ps : List Pattern)
    (redirects : Bool) (req : Request) :
    RefusalShape ps (stack t join (some ps) redirects req) := by
  unfold stack redirectResolver
  exact loop_refusal t join ps redirects _ _ _ _ rfl (by intro q hq; cases hq)

/-- **Every request that reaches the transport — the initial one and every redirect hop —
matches a configured pattern under the documented rule.** For every transport, every behaviour of
`Url::join`, both redirect settings, every request. -/
theorem transport_only_sees_allowed (t : Transport) (join : JoinFn) (ps : List Pattern)
    (redirects : Bool) (req : Request) :
    ∀ r ∈ (stack t join (some ps) redirects req).1.trace, ∃ p ∈ ps, MatchesSpec p r.uri :=
  (refused_is_uri_disallowed t join ps redirects req).1

/-- An initial request outside the list never reaches the transport at all. -/
theorem initial_refused (t : Transport) (join : JoinFn) (ps : List Pattern) (redirects : Bool)
    (req : Request) (h : ¬ AllowedSpec ps req.uri) :
    stack t join (some ps) redirects req =
      ({ attempts := [req], trace := [] }, .error .uriDisallowed) := by
  unfold stack redirectResolver
  show redirectLoop _ _ _ (maxRedirects + 1) 0 req {} = _
  unfold redirectLoop
  rw [restricted_refuses ps t 0 req {} h]
  rfl

/-- A redirect hop outside the list: the follow-up request is refused, whatever came before. -/
theorem redirect_hop_refused (t : Transport) (join : JoinFn) (ps : List Pattern)
    (fuel hop : Nat) (req : Request) (st : St) (resp : Response) (target : Uri)
    (hallow : AllowedSpec ps req.uri) (ht : t hop req = .ok resp)
    (hr : redirectTarget join true hop req.uri resp = .ok (some target))
    (hout : ¬ AllowedSpec ps target) :
    redirectLoop (restricted (some ps) t) join true (fuel + 2) hop req st =
      ({ attempts := st.attempts ++ [req] ++ [buildRedirected req target], trace := st.trace ++ [req] },
        .error .uriDisallowed) := by
  unfold redirectLoop
  rw [restricted_passes ps t hop req st hallow, ht]
  simp only [hr]
  unfold redirectLoop
  have : ¬ AllowedSpec ps (buildRedirected req target).uri := hout
  rw [restricted_refuses ps t (hop + 1) _ _ this]

/-! ### non-vacuity -/

def exPatterns : List Pattern :=
  [Pattern.new (bytesOf "*.Example.org"), Pattern.new (bytesOf "https://cdn.example.net:8443")]

def exUri (text scheme host : String) (port : Option String) : Uri :=
  { text := bytesOf text, scheme := some (bytesOf scheme), host := some (bytesOf host),
    port := port.map bytesOf }

example : (Pattern.new (bytesOf "https://cdn.example.net:8443")) =
    { pattern := bytesOf "https://cdn.example.net:8443", scheme := some sHttps,
      host := some (bytesOf "cdn.example.net"), port := some (bytesOf "8443") } := by
  unfold sHttps bytesOf; decide_run

example : isUriAllowed exPatterns (exUri "https://A.example.org/x" "https" "A.example.org" none) = true := by
  unfold exPatterns exUri bytesOf; decide_run
example : isUriAllowed exPatterns (exUri "https://example.org/x" "https" "example.org" none) = false := by
  unfold exPatterns exUri bytesOf; decide_run
example : isUriAllowed exPatterns (exUri "https://fakeexample.org/" "https" "fakeexample.org" none) = false := by
  unfold exPatterns exUri bytesOf; decide_run
example : isUriAllowed exPatterns (exUri "https://cdn.example.net:8443/" "https" "cdn.example.net" (some "8443")) = true := by
  unfold exPatterns exUri bytesOf; decide_run
example : isUriAllowed exPatterns (exUri "http://cdn.example.net:8443/" "http" "cdn.example.net" (some "8443")) = false := by
  unfold exPatterns exUri bytesOf; decide_run
example : isUriAllowed exPatterns (exUri "https://cdn.example.net/" "https" "cdn.example.net" none) = false := by
  unfold exPatterns exUri bytesOf; decide_run

def exTransport : Transport := fun hop _ =>
  if hop = 0 then .ok { status := 302, location := .str (bytesOf "https://evil.example.com/") }
  else .ok { status := 200, location := .absent }
def exJoin : JoinFn := fun _ _ _ => .ok (exUri "https://evil.example.com/" "https" "evil.example.com" none)
def exReq : Request :=
  { method := bytesOf "GET", uri := exUri "https://a.example.org/" "https" "a.example.org" none,
    headers := [], body := [] }
def isUriDisallowed : Except Err Response → Bool
  | .error .uriDisallowed => true
  | _ => false

/-- a followed redirect to an outside host: one transport call, then `UriDisallowed` -/
example :
    isUriDisallowed (stack exTransport exJoin (some exPatterns) true exReq).2 = true ∧
    (stack exTransport exJoin (some exPatterns) true exReq).1.trace.length = 1 ∧
    (stack exTransport exJoin (some exPatterns) true exReq).1.attempts.length = 2 := by
  unfold exTransport exJoin exPatterns exReq exUri bytesOf; decide_run

/-! ### the Context's two default stacks as a function of the setting -/

/-- Both flavours are the stack of the theorems above. -/
theorem contextStack_eq (f : Flavour) (t : Transport) (join : JoinFn)
    (allowed : Option (List Pattern)) (redirects : Bool) (req : Request) :
    contextStack f t join allowed redirects req = stack t join allowed redirects req := by
  cases f <;> cases allowed <;> rfl

/-- `None` ⇒ no allow-list layer; `Some l` ⇒ the layer, for every `l` and both flavours. -/
theorem contextStack_layer (f : Flavour) (t : Transport) (join : JoinFn) (redirects : Bool)
    (req : Request) :
    contextStack f t join none redirects req = redirectResolver (bare t) join redirects req ∧
    ∀ l, contextStack f t join (some l) redirects req =
      redirectResolver (restricted (some l) t) join redirects req := by
  cases f <;> exact ⟨rfl, fun _ => rfl⟩

/-- **`core.allowed_network_hosts = []` blocks all traffic, on the sync and on the async default
resolver**: whatever the request, the transport and the redirect setting, the request is attempted
once, never reaches the transport, and the result is `UriDisallowed`. -/
theorem empty_list_refuses_everything (f : Flavour) (t : Transport) (join : JoinFn)
    (redirects : Bool) (req : Request) :
    contextStack f t join (some []) redirects req =
      ({ attempts := [req], trace := [] }, .error .uriDisallowed) := by
  rw [contextStack_eq]
  exact initial_refused t join [] redirects req (empty_list_allows_nothing _)

theorem contextStack_only_sees_allowed (f : Flavour) (t : Transport) (join : JoinFn)
    (ps : List Pattern) (redirects : Bool) (req : Request) :
    ∀ r ∈ (contextStack f t join (some ps) redirects req).1.trace, ∃ p ∈ ps, MatchesSpec p r.uri := by
  rw [contextStack_eq]
  exact transport_only_sees_allowed t join ps redirects req

/-! ### "every request": the request sites of the SDK

The statement quantifies over every HTTP request of the SDK. `transport_only_sees_allowed` covers
the requests issued through `Context::resolver()`. Two request sites do not go through it
(`Model/C26.lean`, `Site`); for them the statement is **false**, proved here with witnesses that
the harness replays on the real code over a loopback listener (known findings
`signer-timestamp-request-ignores-allow-list`, `remote-signer-ignores-allow-list`). -/

/-- The allow-list of the caller's configuration is enforced on every request issued at `site`. -/
def SiteEnforces (site : Site) : Prop :=
  ∀ (t : Transport) (join : JoinFn) (ps : List Pattern) (redirects : Bool) (req : Request),
    ∀ r ∈ (siteStack site t join (some ps) redirects req).1.trace, AllowedSpec ps r.uri

/-- The full statement of C26 over the request sites of sdk/src. It is false of the current code. -/
def EveryRequestSiteEnforces : Prop := ∀ site, SiteEnforces site

def okTransport : Transport := fun _ _ => .ok { status := 200, location := .absent }

/-- **Exactly the Context-resolver site enforces the allow-list**; the signer's default
time-stamp request and the remote signer send their request whatever list is configured (witness:
the empty list, "all traffic is blocked"). -/
theorem site_enforces_iff (site : Site) : SiteEnforces site ↔ site = .contextResolver := by
  constructor
  · intro h
    cases site with
    | contextResolver => rfl
    | _ =>
      exact absurd (h okTransport exJoin [] false exReq exReq
          (by unfold exJoin exReq exUri bytesOf; decide_run))
        (empty_list_allows_nothing _)
  · rintro rfl t join ps redirects req r hr
    exact transport_only_sees_allowed t join ps redirects req r hr

/-- The full statement is false: witness `signerTimestamp` (also `remoteSigner`). -/
theorem every_request_site_enforces_false : ¬ EveryRequestSiteEnforces := by
  intro h
  have := (site_enforces_iff .signerTimestamp).1 (h .signerTimestamp)
  cases this

/-- What remains true: the part of the statement about the Context resolver
(`transport_only_sees_allowed`, `refused_is_uri_disallowed`) — the full statement is
`EveryRequestSiteEnforces`. -/
theorem every_request_site_enforces_partial : SiteEnforces .contextResolver :=
  (site_enforces_iff .contextResolver).2 rfl

/-- The witnesses, concretely: with the empty list configured the time-stamp request and the
remote-signing request reach the transport, while the same request through the Context resolver
is refused without reaching it. -/
example :
    (siteStack .signerTimestamp okTransport exJoin (some []) false exReq).1.trace = [exReq] ∧
    (siteStack .remoteSigner okTransport exJoin (some []) false exReq).1.trace = [exReq] ∧
    (siteStack .contextResolver okTransport exJoin (some []) false exReq).1.trace = [] ∧
    isUriDisallowed (siteStack .contextResolver okTransport exJoin (some []) false exReq).2 = true := by
  unfold exJoin exReq exUri bytesOf; decide_run

/-! #### the site list is the source's: generated table, fixed exception lists

`Gen.sinkSites` / `Gen.freshContexts` are regenerated from sdk/src on every run
(`translators/c28_http_sites.py`). A request site is classified by how it obtains its transport:
through `.resolver()` / `.resolver_async()` of a Context (then which Context matters: the
`freshContexts` rows are the functions that build a default-settings Context on the spot), or by
constructing an HTTP client itself (`own_transport`). The theorem states both exception lists in
full: a new site that builds its own client, or a new function that builds a fresh `Context`, changes
the generated table and breaks this obligation. -/

/-- every non-test function of sdk/src (outside sdk/src/http) that touches an HTTP transport
either asks a Context for its resolver, is the Context's own stack builder, or is the one
exception `RemoteSigner::sign` -/
def sinkSiteClassified (x : String × String × String) : Bool :=
  C28.Gen.sinkSites.contains (x.1, x.2.1, "resolver") || x.1 == "context.rs" ||
    (x.1 == "settings/signer.rs" && x.2.1 == "sign")

theorem request_sites_pinned :
    C28.Gen.sinkSites.all sinkSiteClassified = true ∧
    -- HTTP clients constructed outside sdk/src/http: the Context's two stack builders and `Site.remoteSigner`
    (C28.Gen.sinkSites.filter (fun x => x.2.2 == "own_transport")).map (fun x => (x.1, x.2.1)) =
      [("context.rs", "build_default_async_resolver"), ("context.rs", "build_default_sync_resolver"),
       ("settings/signer.rs", "sign")] ∧
    -- default-settings Contexts built on the spot; the two that are handed to a request function are
    -- `Site.signerTimestamp` (provider.rs and signer.rs, sync and async bodies folded); `Reader::default`
    -- and `Store::default` are the caller's own "no settings" constructors, utils/test.rs is test support
    C28.Gen.freshContexts =
      [("crypto/time_stamp/provider.rs", "send_time_stamp_request"), ("reader.rs", "default"),
       ("signer.rs", "send_timestamp_request"), ("store.rs", "default"),
       ("utils/test.rs", "create_test_store"), ("utils/test.rs", "create_test_store_v1")] := by
  decide +kernel

end C2pa.C26
