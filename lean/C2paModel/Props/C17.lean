import C2paModel.Lemmas.C17
/-
C17 — BMFF mdat hashing is independent of how the payload is chunked.  Statement:

  When a caller feeds the mdat payload to the SDK incrementally and then signs in the BMFF
  placeholder workflow, the resulting asset reads back Valid for every way of splitting the
  payload into chunks. With a fixed leaf size the recorded Merkle leaves depend only on the
  concatenated payload.

The theorems are over every payload, every chunk list `cs` (any number of chunks, any sizes,
empty chunks included), every fixed leaf size `F > 0` (bytes; `F > 1` where the verifier comes in:
it refuses a block size of at most 1, and the public setter takes KiB) or variable sizes, and both
mdat header forms.  `cs.flatten` is the payload as the caller delivers it (the box content after the
size/type header, or after the 16-byte header of a large-size box); `covered large payload` is
the part the verifier hashes (it excludes 16 bytes from the start of the box).

"Reads back Valid" is proved for the hash binding of the mdat boxes: the verifier's ranges
(`validate_merkle_maps_mdat_boxes`) are exactly the recorded leaves and every leaf passes
`check_merkle_tree` (C16).  The flat BMFF hash over the rest of the file, the claim signature and
the manifest structure are not part of the model; they are observed end-to-end by the harness.

The theorems describe the code with the repairs listed in Model/C17 applied; before them
`MerkleAccumulator::add_merkle_leaf` falsified `leaves_depend_on_concat` (first chunk of
at most 8 bytes: the chunk was dropped and 8 further bytes skipped) and `variable_sizes_sum`
(an empty chunk recorded a zero-length leaf with an empty digest).

Limits that are part of the statements (and of the code):
* the validator refuses an mdat with more than `MAX_MERKLE_LEAVES_SIZE / digest length` leaves
  (2^20 for SHA-256).  With fixes/C17-signing-histories.patch the signer refuses exactly those
  (`signer_stores_iff_validator_accepts_*`); before, it stored maps no reader accepts
  (`pre_fix_signer_validator_asymmetry_*`).  `Budget` is the input-level form of the limit.
* an asset with several mdats of which one has no covered byte does not verify
  (`uncovered_mdat_rejected`; open finding); all mdats uncovered gives no Merkle maps at all
  (`all_uncovered_no_maps`).
* the leaf size is documented to be set before the first chunk; `setFixed_first` covers that,
  the `example`s at the end show what a later change does (refusal or an unverifiable map).
-/
namespace C2pa.C17

variable {β : Type}

/-- the leaves stored for one mdat after all chunks and the final flush -/
def finalLeaves (fixed : Option Nat) (large : Bool) (cs : List (List β)) : Except Err (List (Leaf β)) :=
  match runMdat fixed large {} cs with
  | .ok st => .ok (flush st).leaves
  | .error e => .error e

theorem finalLeaves_of_run {fixed : Option Nat} {large : Bool} {cs : List (List β)}
    {st : MdatState β} (h : runMdat fixed large {} cs = .ok st) :
    finalLeaves fixed large cs = .ok (flush st).leaves := by
  simp only [finalLeaves, h]

/-- **What is recorded, for both leaf-size modes**: for every chunking the stored leaves are those
of non-empty pieces `ds` tiling the covered payload; with a fixed leaf size the pieces are its
consecutive `F`-byte blocks, with variable sizes there is at most one per delivered chunk. -/
theorem finalLeaves_spec (fixed : Option Nat) (hF : ∀ F, fixed = some F → 0 < F) (large : Bool)
    (cs : List (List β)) :
    ∃ ds, finalLeaves fixed large cs = .ok (ds.map leafOf)
      ∧ Pieces fixed ds (covered large cs.flatten) cs.length := by
  obtain ⟨st, hrun, _, hrep⟩ := runMdat_spec fixed hF large cs {} [] (Inv_init fixed large)
  rw [List.nil_append] at hrep
  rw [finalLeaves_of_run hrun]
  exact (flush_leaves_of_Rep hrep hF).imp fun ds h => ⟨congrArg _ h.1, h.2⟩

/-- **Fixed leaf size: the recorded leaves are a function of the concatenated payload** — they
are the leaves of the consecutive `F`-byte blocks of the covered payload, for every chunking. -/
theorem leaves_depend_on_concat (F : Nat) (hF : 0 < F) (large : Bool) (cs : List (List β)) :
    finalLeaves (some F) large cs = .ok ((chunksOf F (covered large cs.flatten)).map leafOf) := by
  obtain ⟨ds, h, hds⟩ := finalLeaves_spec (some F) (by simpa using hF) large cs
  rw [h, hds.blocks F rfl]

/-- Two chunkings of the same payload record the same leaves (and neither fails). -/
theorem chunking_independent (F : Nat) (hF : 0 < F) (large : Bool) (cs cs' : List (List β))
    (h : cs.flatten = cs'.flatten) :
    finalLeaves (some F) large cs = finalLeaves (some F) large cs'
      ∧ ∃ ls, finalLeaves (some F) large cs = .ok ls := by
  rw [leaves_depend_on_concat F hF, leaves_depend_on_concat F hF, h]
  exact ⟨rfl, _, rfl⟩

/-- No mdat entry (hence no MerkleMap) exactly when nothing of the payload is covered, in both
leaf-size modes. -/
theorem finalLeaves_nil_iff (fixed : Option Nat) (hF : ∀ F, fixed = some F → 0 < F)
    (large : Bool) (cs : List (List β)) :
    finalLeaves fixed large cs = .ok [] ↔ covered large cs.flatten = [] := by
  obtain ⟨ds, h, hds⟩ := finalLeaves_spec fixed hF large cs
  rw [h, ← hds.tiles, flatten_eq_nil_iff_of_ne_nil hds.ne]
  simp

theorem no_leaves_iff_nothing_covered (F : Nat) (hF : 0 < F) (large : Bool) (cs : List (List β)) :
    finalLeaves (some F) large cs = .ok [] ↔ covered large cs.flatten = [] :=
  finalLeaves_nil_iff (some F) (by simpa using hF) large cs

/-- **Variable leaf sizes: the leaves tile the covered payload** — none of length zero, their data
concatenates to the covered payload, so the sizes sum to the length the verifier requires.  (At
most one leaf per chunk: `variable_leafcount_le`.) -/
theorem variable_sizes_sum (large : Bool) (cs : List (List β)) :
    ∃ pieces : List (List β),
      finalLeaves none large cs = .ok (pieces.map leafOf)
        ∧ (∀ p ∈ pieces, p ≠ [])
        ∧ pieces.flatten = covered large cs.flatten
        ∧ ((pieces.map leafOf).map (·.len)).sum = (covered large cs.flatten).length := by
  obtain ⟨pieces, h, hds⟩ := finalLeaves_spec none (by simp) large cs
  exact ⟨pieces, h, hds.ne, hds.tiles, by rw [sum_len_leafOf, hds.tiles]⟩

theorem variable_leafcount_le (large : Bool) (cs : List (List β)) (ls : List (Leaf β))
    (h : finalLeaves none large cs = .ok ls) : ls.length ≤ cs.length := by
  obtain ⟨ds, hfin, hds⟩ := finalLeaves_spec none (by simp) large cs
  cases hfin.symm.trans h
  simpa using hds.count rfl

/-! ### the verifier accepts what the accumulator recorded -/

/-- the mdat box as the verifier reads it: a header of 8 (16 for large-size) bytes, then the
payload -/
def IsBox (large : Bool) (hdr payload box : List β) : Prop :=
  box = hdr ++ payload ∧ hdr.length = if large then 16 else 8

theorem box_region (large : Bool) (hdr payload box : List β) (h : IsBox large hdr payload box) :
    box.drop 16 = covered large payload := by
  obtain ⟨rfl, hl⟩ := h
  cases large with
  | true =>
    simp only [if_true] at hl
    simp [covered, hl]
  | false =>
    simp only [Bool.false_eq_true, if_false] at hl
    simp [covered, List.drop_append, hl]

/-- the leaf-memory budget of the validator, on the caller's inputs: with a fixed leaf size the
covered payload has at most `MAX / hsz` blocks; with variable sizes at most that many chunks are
delivered (each chunk gives at most one leaf) -/
def Budget (fixed : Option Nat) (hsz : Nat) (large : Bool) (cs : List (List β)) : Prop :=
  match fixed with
  | some F => divCeil (covered large cs.flatten).length F * hsz ≤ maxMerkleLeavesSize
  | none => cs.length * hsz ≤ maxMerkleLeavesSize

instance (fixed : Option Nat) (hsz : Nat) (large : Bool) (cs : List (List β)) :
    Decidable (Budget fixed hsz large cs) :=
  match fixed with
  | some F =>
    inferInstanceAs (Decidable (divCeil (covered large cs.flatten).length F * hsz ≤ maxMerkleLeavesSize))
  | none => inferInstanceAs (Decidable (cs.length * hsz ≤ maxMerkleLeavesSize))

/-- **One mdat, from the caller's chunks to the validator.**  For the chunks `cs` of the mdat lying
in `box`: the recorded `leaves`; the map `mm` that `create_mms_from_mdat_leaves` builds from them
before its budget check (`mkMapPre`); the validator accepts `mm` for the box **iff** the leaf vector
fits `MAX_MERKLE_LEAVES_SIZE`, and the repaired signer stores it iff it fits. -/
structure Stored [DecidableEq β] (fixed : Option Nat) (hsz : Nat) (large : Bool)
    (cs : List (List β)) (box : List β) (id : Nat) (leaves : List (Leaf β)) (mm : MMap β) :
    Prop where
  final : finalLeaves fixed large cs = .ok leaves
  nil_iff : leaves = [] ↔ covered large cs.flatten = []
  len_fixed : ∀ F, fixed = some F → leaves.length = divCeil (covered large cs.flatten).length F
  len_var : fixed = none → leaves.length ≤ cs.length
  pre : mkMapPre fixed hsz id leaves = .ok mm
  id_eq : mm.id = id
  var_none : fixed ≠ none → mm.varSizes = none
  fb_none : fixed = none → mm.fixedBlock = none
  accepts : (∃ ranges, mdatRanges mm box = .ok ranges ∧ checkMap mm ranges = true)
    ↔ leaves.length * hsz ≤ maxMerkleLeavesSize
  stores : mkMap fixed hsz id leaves = .ok mm ↔ leaves.length * hsz ≤ maxMerkleLeavesSize
  refuses : mkMap fixed hsz id leaves = .error .tooManyLeaves
    ↔ ¬ leaves.length * hsz ≤ maxMerkleLeavesSize

/-- **Signer and validator agree on the budget, both leaf-size modes**, for every chunking
(`finalLeaves_spec` composed with `mkMapPre_spec` against the mdat's box). -/
theorem signer_stores_iff_validator_accepts [DecidableEq β] (fixed : Option Nat)
    (hF : ∀ F, fixed = some F → 1 < F) (hsz : Nat) (large : Bool) (cs : List (List β))
    (hdr box : List β) (id : Nat) (hbox : IsBox large hdr cs.flatten box) :
    ∃ leaves mm, Stored fixed hsz large cs box id leaves mm := by
  have hF0 : ∀ F, fixed = some F → 0 < F := fun F e => Nat.lt_of_succ_lt (hF F e)
  obtain ⟨ds, hfin, hds⟩ := finalLeaves_spec fixed hF0 large cs
  obtain ⟨mm, hpre, hid, hv, hfb, hr, hc⟩ := mkMapPre_spec fixed hF hsz id ds _ _ box hds
    (box_region large hdr _ box hbox)
  have hiff := mkMap_iff fixed hsz id _ mm hpre
  exact ⟨ds.map leafOf, mm, {
    final := hfin
    nil_iff := by rw [List.map_eq_nil_iff, ← hds.tiles, flatten_eq_nil_iff_of_ne_nil hds.ne]
    len_fixed := fun F e => by rw [List.length_map, hds.blocks F e, chunksOf_length F _ (hF0 F e)]
    len_var := by rw [List.length_map]; exact hds.count
    pre := hpre, id_eq := hid, var_none := hv, fb_none := hfb
    accepts := by rw [List.length_map]; exact accepts_iff_fits mm box ds hsz hr hc
    stores := hiff.1, refuses := hiff.2 }⟩

theorem signer_stores_iff_validator_accepts_fixed [DecidableEq β] (F : Nat) (hF : 1 < F)
    (hsz : Nat) (large : Bool) (cs : List (List β)) (hdr box : List β) (id : Nat)
    (hbox : IsBox large hdr cs.flatten box) :
    ∃ leaves mm, Stored (some F) hsz large cs box id leaves mm :=
  signer_stores_iff_validator_accepts (some F) (by simpa using hF) hsz large cs hdr box id hbox

theorem signer_stores_iff_validator_accepts_variable [DecidableEq β] (hsz : Nat) (large : Bool)
    (cs : List (List β)) (hdr box : List β) (id : Nat) (hbox : IsBox large hdr cs.flatten box) :
    ∃ leaves mm, Stored none hsz large cs box id leaves mm :=
  signer_stores_iff_validator_accepts none (by simp) hsz large cs hdr box id hbox

theorem Stored.fits [DecidableEq β] {fixed : Option Nat} {hsz : Nat} {large : Bool}
    {cs : List (List β)} {box : List β} {id : Nat} {leaves : List (Leaf β)} {mm : MMap β}
    (s : Stored fixed hsz large cs box id leaves mm) (hcap : Budget fixed hsz large cs) :
    leaves.length * hsz ≤ maxMerkleLeavesSize := by
  cases fixed with
  | some F => rw [s.len_fixed F rfl]; exact hcap
  | none => exact Nat.le_trans (Nat.mul_le_mul_right hsz (s.len_var rfl)) hcap

/-- Both leaf-size modes: within the budget the signer stores the map built from the accumulated
leaves and it verifies against the mdat box, for every chunking. -/
theorem accumulated_verifies [DecidableEq β] (fixed : Option Nat) (hF : ∀ F, fixed = some F → 1 < F)
    (hsz : Nat) (large : Bool) (cs : List (List β)) (hdr box : List β) (id : Nat)
    (hbox : IsBox large hdr cs.flatten box) (hcap : Budget fixed hsz large cs) :
    ∃ leaves mm, Stored fixed hsz large cs box id leaves mm ∧ mkMap fixed hsz id leaves = .ok mm
      ∧ ∃ ranges, mdatRanges mm box = .ok ranges ∧ checkMap mm ranges = true := by
  obtain ⟨leaves, mm, s⟩ := signer_stores_iff_validator_accepts fixed hF hsz large cs hdr box id hbox
  exact ⟨leaves, mm, s, s.stores.mpr (s.fits hcap), s.accepts.mpr (s.fits hcap)⟩

theorem accumulated_verifies_fixed [DecidableEq β] (F : Nat) (hF : 1 < F) (hsz : Nat) (large : Bool)
    (cs : List (List β)) (hdr box : List β) (id : Nat)
    (hbox : IsBox large hdr cs.flatten box) (hcap : Budget (some F) hsz large cs) :
    ∃ leaves mm, Stored (some F) hsz large cs box id leaves mm
      ∧ mkMap (some F) hsz id leaves = .ok mm
      ∧ ∃ ranges, mdatRanges mm box = .ok ranges ∧ checkMap mm ranges = true :=
  accumulated_verifies (some F) (by simpa using hF) hsz large cs hdr box id hbox hcap

theorem accumulated_verifies_variable [DecidableEq β] (hsz : Nat) (large : Bool) (cs : List (List β))
    (hdr box : List β) (id : Nat) (hbox : IsBox large hdr cs.flatten box)
    (hcap : Budget none hsz large cs) :
    ∃ leaves mm, Stored none hsz large cs box id leaves mm ∧ mkMap none hsz id leaves = .ok mm
      ∧ ∃ ranges, mdatRanges mm box = .ok ranges ∧ checkMap mm ranges = true :=
  accumulated_verifies none (by simp) hsz large cs hdr box id hbox hcap

/-- Over the budget the repaired signer refuses (`update_hash_from_stream` returns an error)
instead of storing a map that cannot verify. -/
theorem over_budget_refused_fixed [DecidableEq β] (F : Nat) (hF : 1 < F) (hsz : Nat) (large : Bool)
    (cs : List (List β)) (hdr box : List β) (id : Nat)
    (hbox : IsBox large hdr cs.flatten box) (hne : covered large cs.flatten ≠ [])
    (hcap : ¬ Budget (some F) hsz large cs) :
    ∃ leaves, finalLeaves (some F) large cs = .ok leaves
      ∧ mkMap (some F) hsz id leaves = .error .tooManyLeaves := by
  obtain ⟨leaves, mm, s⟩ :=
    signer_stores_iff_validator_accepts_fixed F hF hsz large cs hdr box id hbox
  exact ⟨leaves, s.final, s.refuses.mpr (by rw [s.len_fixed F rfl]; exact hcap)⟩

/-- **The defect repaired by the budget check in the signer**: over the budget the old
`create_mms_from_mdat_leaves` stored a map and the validator refuses it — for *every* chunking
(the leaf count of a fixed-size tree does not depend on the chunking). -/
theorem pre_fix_signer_validator_asymmetry_fixed [DecidableEq β] (F : Nat) (hF : 1 < F) (hsz : Nat)
    (large : Bool) (cs : List (List β)) (hdr box : List β) (id : Nat)
    (hbox : IsBox large hdr cs.flatten box) (hne : covered large cs.flatten ≠ [])
    (hcap : ¬ Budget (some F) hsz large cs) :
    ∃ leaves mm, finalLeaves (some F) large cs = .ok leaves
      ∧ mkMapPre (some F) hsz id leaves = .ok mm
      ∧ ¬ ∃ ranges, mdatRanges mm box = .ok ranges ∧ checkMap mm ranges = true := by
  obtain ⟨leaves, mm, s⟩ :=
    signer_stores_iff_validator_accepts_fixed F hF hsz large cs hdr box id hbox
  exact ⟨leaves, mm, s.final, s.pre, fun h => hcap (by have := s.accepts.mp h; rwa [s.len_fixed F rfl] at this)⟩

/-- the same defect with variable leaf sizes: more leaves than the budget (e.g. a 5 GB mdat
delivered in 4 KiB writes) gave a stored map that the validator refuses -/
theorem pre_fix_signer_validator_asymmetry_variable [DecidableEq β] (hsz : Nat) (large : Bool)
    (cs : List (List β)) (hdr box : List β) (id : Nat) (hbox : IsBox large hdr cs.flatten box)
    (leaves : List (Leaf β)) (hl : finalLeaves none large cs = .ok leaves)
    (hcap : ¬ leaves.length * hsz ≤ maxMerkleLeavesSize) :
    ∃ mm, mkMapPre none hsz id leaves = .ok mm
      ∧ (¬ ∃ ranges, mdatRanges mm box = .ok ranges ∧ checkMap mm ranges = true)
      ∧ mkMap none hsz id leaves = .error .tooManyLeaves := by
  obtain ⟨leaves', mm, s⟩ :=
    signer_stores_iff_validator_accepts_variable hsz large cs hdr box id hbox
  cases s.final.symm.trans hl
  exact ⟨mm, s.pre, fun h => hcap (s.accepts.mp h), s.refuses.mpr hcap⟩

/-- what `validate_merkle_maps_mdat_boxes` needs of one (map, box) pair -/
def GoodMap [DecidableEq β] (mm : MMap β) (box : List β) : Prop :=
  (mm.fixedBlock.isSome && mm.varSizes.isSome) = false
    ∧ ∃ ranges, mdatRanges mm box = .ok ranges ∧ checkMap mm ranges = true

/-- `accumulated_verifies` in the form the asset-level theorems use -/
theorem accumulated_good [DecidableEq β] (fixed : Option Nat) (hF : ∀ F, fixed = some F → 1 < F)
    (hsz : Nat) (large : Bool) (cs : List (List β)) (hdr box : List β) (id : Nat)
    (hbox : IsBox large hdr cs.flatten box) (hne : covered large cs.flatten ≠ [])
    (hcap : Budget fixed hsz large cs) :
    ∃ leaves mm, finalLeaves fixed large cs = .ok leaves ∧ leaves.isEmpty = false
      ∧ mkMap fixed hsz id leaves = .ok mm ∧ mm.id = id ∧ GoodMap mm box := by
  obtain ⟨leaves, mm, s, hstore, hacc⟩ :=
    accumulated_verifies fixed hF hsz large cs hdr box id hbox hcap
  refine ⟨leaves, mm, s.final, ?_, hstore, s.id_eq, ?_, hacc⟩
  · simpa using fun e => hne (s.nil_iff.mp e)
  · cases fixed with
    | some F => simp [s.var_none (by simp)]
    | none => simp [s.fb_none rfl]

/-! ### several mdats: the per-mdat states do not interfere -/

theorem Acc.add_ok {a a' : Acc β} {id : Nat} {large : Bool} {data : List β}
    (h : a.add id large data = .ok a') :
    ∃ s, addLeaf a.fixed large (lookupSt id a.mdats) data = .ok s
      ∧ a' = { a with mdats := insertSt id s a.mdats } := by
  rw [Acc.add] at h
  split at h
  · next s hs => exact ⟨s, hs, (Except.ok.inj h).symm⟩
  · cases h

/-- `hash_bmff_mdat_bytes(id, …)` changes the state of mdat `id` exactly as the single-mdat
step does and leaves every other mdat's state untouched (chunks of different mdats may be
interleaved arbitrarily). -/
theorem mdats_independent (a a' : Acc β) (id : Nat) (large : Bool) (data : List β)
    (h : a.add id large data = .ok a') (j : Nat) :
    a'.fixed = a.fixed ∧
    (j ≠ id → lookupSt j a'.mdats = lookupSt j a.mdats) ∧
    addLeaf a.fixed large (lookupSt id a.mdats) data = .ok (lookupSt id a'.mdats) := by
  obtain ⟨s, hs, rfl⟩ := Acc.add_ok h
  exact ⟨rfl, fun hj => by simp [lookup_insert, hj], by simp [lookup_insert, hs]⟩

/-- the whole call sequence of an application (chunks of several mdats in any order).  The model's
`Acc.runOps` runs histories that may also change the leaf size between chunks; on histories of
chunks only, which the asset-level theorems are about, it is this function (`runOps_adds`). -/
def Acc.run (a : Acc β) : List (Nat × Bool × List β) → Except Err (Acc β)
  | [] => .ok a
  | (id, large, data) :: rest =>
    match a.add id large data with
    | .ok a' => Acc.run a' rest
    | .error e => .error e

theorem Acc.run_cons_ok {a a' : Acc β} {c : Nat × Bool × List β}
    {rest : List (Nat × Bool × List β)} (h : a.run (c :: rest) = .ok a') :
    ∃ a1, a.add c.1 c.2.1 c.2.2 = .ok a1 ∧ a1.run rest = .ok a' := by
  rw [Acc.run] at h
  split at h
  · next a1 h1 => exact ⟨a1, h1, h⟩
  · cases h

/-- After any interleaved call sequence, the state of mdat `id` is what feeding just that
mdat's chunks, in order, to a fresh single-mdat accumulator gives. -/
theorem interleaving_irrelevant (a a' : Acc β) (calls : List (Nat × Bool × List β))
    (h : a.run calls = .ok a') (id : Nat) (large : Bool)
    (hcons : ∀ c ∈ calls, c.1 = id → c.2.1 = large) :
    runMdat a.fixed large (lookupSt id a.mdats)
        ((calls.filter (fun c => c.1 = id)).map (·.2.2)) = .ok (lookupSt id a'.mdats) := by
  induction calls generalizing a with
  | nil => cases h; rfl
  | cons c rest ih =>
    obtain ⟨a1, h1, h⟩ := Acc.run_cons_ok h
    obtain ⟨hfx, hother, hsame⟩ := mdats_independent a a1 c.1 c.2.1 c.2.2 h1 id
    have hrest := ih a1 h (fun c hc => hcons c (by simp [hc]))
    by_cases hid : c.1 = id
    · -- a chunk of this mdat: one more step of its own run
      subst hid
      rw [hcons c (by simp) rfl] at hsame
      simp only [List.filter_cons, decide_true, if_true, List.map_cons, runMdat, hsame]
      rw [← hfx]; exact hrest
    · have hne : id ≠ c.1 := fun e => hid e.symm
      simp only [List.filter_cons, hid, decide_false, Bool.false_eq_true, if_false]
      rw [← hother hne, ← hfx]; exact hrest

/-! ### ids stay ascending and duplicate-free (`BTreeMap` order = file order of the mdats) -/

theorem Acc.add_keys (a a' : Acc β) (id : Nat) (large : Bool) (data : List β)
    (h : a.add id large data = .ok a') :
    ((keys a.mdats).Pairwise (· < ·) → (keys a'.mdats).Pairwise (· < ·))
      ∧ ∀ k, k ∈ keys a'.mdats ↔ k = id ∨ k ∈ keys a.mdats := by
  obtain ⟨s, _, rfl⟩ := Acc.add_ok h
  exact ⟨insertSt_sorted id s a.mdats, mem_keys_insertSt id s a.mdats⟩

/-- **The accumulator never reorders or duplicates mdats**: whatever the order of the calls, the
ids it iterates over when the maps are built are strictly ascending (the defect repaired in
fixes/C17-bmff-hash-mdat-maps.patch was a `HashMap` iteration order on the validator's side of
this pairing). -/
theorem Acc.run_sorted (a a' : Acc β) (calls : List (Nat × Bool × List β))
    (h : a.run calls = .ok a') (hs : (keys a.mdats).Pairwise (· < ·)) :
    (keys a'.mdats).Pairwise (· < ·) := by
  induction calls generalizing a with
  | nil => cases h; exact hs
  | cons c rest ih =>
    obtain ⟨a1, h1, h⟩ := Acc.run_cons_ok h
    exact ih a1 h ((Acc.add_keys a a1 _ _ _ h1).1 hs)

/-- The ids the accumulator holds after `calls` are those it started with and those the caller used. -/
theorem Acc.run_keys (a a' : Acc β) (calls : List (Nat × Bool × List β))
    (h : a.run calls = .ok a') (k : Nat) :
    k ∈ keys a'.mdats ↔ k ∈ keys a.mdats ∨ ∃ c ∈ calls, c.1 = k := by
  induction calls generalizing a with
  | nil => cases h; simp
  | cons c rest ih =>
    obtain ⟨a1, h1, h⟩ := Acc.run_cons_ok h
    rw [ih a1 h, (Acc.add_keys a a1 _ _ _ h1).2 k]
    simp only [List.mem_cons, or_and_right, exists_or, exists_eq_left]
    rw [or_assoc, or_left_comm, eq_comm]

/-! ### assets with several mdat boxes -/

inductive All2 {α γ : Type} (R : α → γ → Prop) : List α → List γ → Prop
  | nil : All2 R [] []
  | cons {a : α} {c : γ} {as : List α} {cs : List γ} : R a c → All2 R as cs → All2 R (a :: as) (c :: cs)

theorem All2.length_eq {α γ : Type} {R : α → γ → Prop} {l₁ : List α} {l₂ : List γ}
    (h : All2 R l₁ l₂) : l₁.length = l₂.length := by
  induction h with
  | nil => rfl
  | cons _ _ ih => simp [ih]

theorem All2.of_index {α γ : Type} {R : α → γ → Prop} (l₁ : List α) (l₂ : List γ)
    (hl : l₁.length = l₂.length)
    (hr : ∀ (i : Nat) (a : α) (c : γ), l₁[i]? = some a → l₂[i]? = some c → R a c) :
    All2 R l₁ l₂ := by
  induction l₁ generalizing l₂ with
  | nil =>
    cases l₂ with
    | nil => exact All2.nil
    | cons _ _ => cases hl
  | cons a as ih =>
    cases l₂ with
    | nil => cases hl
    | cons c cs =>
      exact All2.cons (hr 0 a c rfl rfl)
        (ih cs (Nat.succ.inj hl) fun i a' c' h1 h2 => hr (i + 1) a' c' h1 h2)

theorem All2.exists_left {α γ : Type} {R : α → γ → Prop} {l₁ : List α} {l₂ : List γ}
    (h : All2 R l₁ l₂) (c : γ) (hc : c ∈ l₂) : ∃ a ∈ l₁, R a c := by
  induction h with
  | nil => simp at hc
  | @cons a0 c0 as cs hd _ ih =>
    simp only [List.mem_cons] at hc
    rcases hc with rfl | hc
    · exact ⟨a0, by simp, hd⟩
    · obtain ⟨a, ha, hr⟩ := ih hc
      exact ⟨a, by simp [ha], hr⟩

theorem validateMaps_of_good [DecidableEq β] (mms : List (MMap β)) (boxes : List (List β))
    (h : All2 GoodMap mms boxes) : validateMaps mms boxes = true := by
  have hall : mms.any (fun mm => mm.fixedBlock.isSome && mm.varSizes.isSome) = false
      ∧ ((List.zip boxes mms).all fun (box, mm) =>
        match mdatRanges mm box with
        | .ok ranges => checkMap mm ranges
        | .error _ => false) = true := by
    induction h with
    | nil => exact ⟨rfl, rfl⟩
    | cons hd _ ih =>
      obtain ⟨hone, ranges, hr, hc⟩ := hd
      simp only [List.any_cons, hone, ih.1, Bool.or_self, List.zip_cons_cons, List.all_cons, hr, hc,
        ih.2, Bool.and_self, and_self]
  simp only [validateMaps, hall.1, Bool.false_eq_true, if_false, h.length_eq.symm, ne_eq,
    not_true_eq_false]
  exact hall.2

/-- one mdat of an asset: how it was delivered and how it lies in the file -/
structure MdatRun (β : Type) where
  large : Bool
  cs : List (List β)
  hdr : List β
  box : List β

/-- one mdat was delivered completely (state `st` = result of its own chunk sequence), lies in
the file as header ‖ payload, has a covered byte and respects the leaf budget -/
def Delivered (fixed : Option Nat) (hsz : Nat) (st : MdatState β) (r : MdatRun β) : Prop :=
  runMdat fixed r.large {} r.cs = .ok st
    ∧ IsBox r.large r.hdr r.cs.flatten r.box ∧ covered r.large r.cs.flatten ≠ []
    ∧ Budget fixed hsz r.large r.cs

/-- **Several mdats, from per-mdat states.** If every mdat of the asset was delivered completely
(in any chunking — see `interleaving_irrelevant`), then the MerkleMaps `update_hash_from_stream`
stores verify against the asset's mdat boxes; one map per mdat, in the order of the states. -/
theorem multi_mdat_asset_verifies [DecidableEq β] (fixed : Option Nat)
    (hF : ∀ F, fixed = some F → 1 < F) (hsz : Nat) (sts : List (Nat × MdatState β))
    (runs : List (MdatRun β))
    (h : All2 (fun p r => Delivered fixed hsz p.2 r) sts runs) :
    ∃ mms, createMms fixed hsz sts = .ok mms ∧ validateMaps mms (runs.map (·.box)) = true
      ∧ mms.map (·.id) = sts.map (·.1) := by
  suffices hs : ∃ mms, createMms fixed hsz sts = .ok mms ∧ All2 GoodMap mms (runs.map (·.box))
      ∧ mms.map (·.id) = sts.map (·.1) by
    obtain ⟨mms, h1, h2, h3⟩ := hs
    exact ⟨mms, h1, validateMaps_of_good mms _ h2, h3⟩
  induction h with
  | nil => exact ⟨[], rfl, All2.nil, rfl⟩
  | @cons p r ps rs hd _ ih =>
    obtain ⟨mms, hm, hg, hi⟩ := ih
    obtain ⟨id, st⟩ := p
    obtain ⟨hrun, hbox, hne, hcap⟩ := hd
    obtain ⟨leaves, mm, h1, hne2, h2, hid, hgood⟩ :=
      accumulated_good fixed hF hsz r.large r.cs r.hdr r.box id hbox hne hcap
    cases (finalLeaves_of_run hrun).symm.trans h1
    refine ⟨mm :: mms, ?_, All2.cons hgood hg, by simp [hid, hi]⟩
    simp only [createMms, hne2, Bool.false_eq_true, if_false, h2, hm]

/-- An asset with a single mdat: `validate_merkle_maps_mdat_boxes` succeeds for every chunking
and both leaf-size modes, for a fixed leaf size above 1, a covered byte and a payload within the leaf
budget (`Budget`). -/
theorem single_mdat_asset_verifies [DecidableEq β] (fixed : Option Nat) (hF : ∀ F, fixed = some F → 1 < F)
    (hsz : Nat) (large : Bool) (cs : List (List β)) (hdr box : List β)
    (hbox : IsBox large hdr cs.flatten box) (hne : covered large cs.flatten ≠ [])
    (hcap : Budget fixed hsz large cs) :
    ∃ leaves mm, finalLeaves fixed large cs = .ok leaves ∧ mkMap fixed hsz 0 leaves = .ok mm
      ∧ validateMaps [mm] [box] = true := by
  obtain ⟨leaves, mm, h1, _, h2, _, hgood⟩ :=
    accumulated_good fixed hF hsz large cs hdr box 0 hbox hne hcap
  exact ⟨leaves, mm, h1, h2, validateMaps_of_good [mm] [box] (.cons hgood .nil)⟩

/-- **The whole history, from the caller's calls to the verdict.**  A fresh accumulator receives
an arbitrary interleaving `calls` of chunks for the mdats `0 … n-1` (the ids used are exactly the
positions of the mdat boxes in the file: `hids`), each mdat's chunks concatenating, in call
order, to the payload that lies in its box.  Then `update_hash_from_stream` stores one
MerkleMap per mdat, with ids `0 … n-1` in file order, and they verify against the asset's mdat
boxes. -/
theorem run_then_verify [DecidableEq β] (fixed : Option Nat) (hF : ∀ F, fixed = some F → 1 < F)
    (hsz : Nat) (calls : List (Nat × Bool × List β)) (a' : Acc β)
    (h : ({ fixed := fixed } : Acc β).run calls = .ok a') (runs : List (MdatRun β))
    (hids : ∀ i, i < runs.length ↔ ∃ c ∈ calls, c.1 = i)
    (hr : ∀ i r, runs[i]? = some r →
      (calls.filter (fun c => c.1 = i)).map (·.2.2) = r.cs
        ∧ (∀ c ∈ calls, c.1 = i → c.2.1 = r.large)
        ∧ IsBox r.large r.hdr r.cs.flatten r.box ∧ covered r.large r.cs.flatten ≠ []
        ∧ Budget fixed hsz r.large r.cs) :
    ∃ mms, createMms fixed hsz a'.mdats = .ok mms
      ∧ validateMaps mms (runs.map (·.box)) = true
      ∧ mms.map (·.id) = List.range runs.length := by
  -- 1. the ids of the final state are `0 … n-1`, ascending
  have hsorted : (keys a'.mdats).Pairwise (· < ·) :=
    Acc.run_sorted _ a' calls h (by simp [keys])
  have hkeys : keys a'.mdats = List.range runs.length := by
    apply sorted_eq_range _ _ hsorted
    intro k
    rw [Acc.run_keys _ a' calls h k, hids k]
    simp [keys]
  -- 2. so the state list is the table `i ↦ state of mdat i`
  have htab := sorted_lookup a'.mdats hsorted
  rw [hkeys] at htab
  -- 3. and entry `i` is what mdat `i`'s own chunks give, whatever was interleaved
  have hall : All2 (fun p r => Delivered fixed hsz p.2 r) a'.mdats runs := by
    apply All2.of_index
    · have : (keys a'.mdats).length = runs.length := by rw [hkeys]; simp
      simpa [keys] using this
    · intro i p r hp hri
      obtain ⟨hcs, hlarge, hbox, hne, hcap⟩ := hr i r hri
      rw [htab, List.getElem?_map, List.getElem?_range (List.getElem?_eq_some_iff.mp hri).1] at hp
      cases hp
      have hint := interleaving_irrelevant _ a' calls h i r.large hlarge
      rw [hcs] at hint
      exact ⟨hint, hbox, hne, hcap⟩
  obtain ⟨mms, h1, h2, h3⟩ := multi_mdat_asset_verifies fixed hF hsz a'.mdats runs hall
  refine ⟨mms, h1, h2, ?_⟩
  rw [h3]; exact hkeys

/-! ### mdats without a covered byte -/

theorem flush_leaves_nil_of_uncovered (fixed : Option Nat) (hF : ∀ F, fixed = some F → 0 < F)
    (large : Bool) (cs : List (List β)) (st : MdatState β)
    (hrun : runMdat fixed large {} cs = .ok st) (h : covered large cs.flatten = []) :
    (flush st).leaves = [] :=
  Except.ok.inj ((finalLeaves_of_run hrun).symm.trans ((finalLeaves_nil_iff fixed hF large cs).mpr h))

/-- No mdat has a byte outside the 16-byte exclusion ⇒ `update_hash_from_stream` stores no
Merkle map at all (the BMFF hash is then the flat hash with its ordinary exclusions, outside this
model). -/
theorem all_uncovered_no_maps (fixed : Option Nat) (hF : ∀ F, fixed = some F → 0 < F) (hsz : Nat)
    (sts : List (Nat × MdatState β)) (runs : List (MdatRun β))
    (h : All2 (fun p r => runMdat fixed r.large {} r.cs = .ok p.2
      ∧ covered r.large r.cs.flatten = []) sts runs) :
    createMms fixed hsz sts = .ok [] := by
  induction h with
  | nil => rfl
  | @cons p r ps rs hd _ ih =>
    obtain ⟨id, st⟩ := p
    obtain ⟨hrun, hunc⟩ := hd
    simp only [createMms, flush_leaves_nil_of_uncovered fixed hF r.large r.cs st hrun hunc,
      List.isEmpty_nil, if_true, ih]

theorem createMms_length (fixed : Option Nat) (hsz : Nat) (sts : List (Nat × MdatState β))
    (mms : List (MMap β)) (h : createMms fixed hsz sts = .ok mms) :
    mms.length = (sts.filter fun p => !(flush p.2).leaves.isEmpty).length := by
  fun_induction createMms fixed hsz sts generalizing mms with
  | case1 => cases h; rfl
  | case2 id s r fl hemp ih => rw [List.filter_cons_of_neg (by simpa using hemp)]; exact ih mms h
  | case3 id s r fl hnemp m ms hms _ ih =>
    cases h
    rw [List.filter_cons_of_pos (by simpa using hnemp), List.length_cons, List.length_cons, ih ms hms]
  | case4 => cases h
  | case5 => cases h

/-- **The open finding `multi-mdat-with-uncovered-mdat`, as a theorem about the code**: when one
mdat of the asset has no covered byte while some other has, fewer maps are stored than there are
mdat boxes and the validator rejects the asset — for every chunking.  (The full statement
"every asset reads back Valid" is false for these inputs; `run_then_verify` therefore asks for a
covered byte in every mdat.) -/
theorem uncovered_mdat_rejected [DecidableEq β] (fixed : Option Nat)
    (hF : ∀ F, fixed = some F → 0 < F) (hsz : Nat) (sts : List (Nat × MdatState β))
    (runs : List (MdatRun β)) (mms : List (MMap β))
    (h : All2 (fun p r => runMdat fixed r.large {} r.cs = .ok p.2) sts runs)
    (hunc : ∃ r ∈ runs, covered r.large r.cs.flatten = [])
    (hm : createMms fixed hsz sts = .ok mms) :
    mms.length < runs.length ∧ validateMaps mms (runs.map (·.box)) = false := by
  obtain ⟨r, hr, hcov⟩ := hunc
  obtain ⟨p, hp, hrun⟩ := h.exists_left r hr
  have hl := flush_leaves_nil_of_uncovered fixed hF r.large r.cs p.2 hrun hcov
  have hlt : mms.length < runs.length := by
    rw [createMms_length fixed hsz sts mms hm, ← h.length_eq]
    exact List.length_filter_lt_length_iff_exists.mpr ⟨p, hp, by simp [hl]⟩
  refine ⟨hlt, ?_⟩
  have hne : (runs.map (·.box)).length ≠ mms.length := by simp; omega
  simp only [validateMaps, if_pos hne]
  split <;> rfl

/-! ### histories: a second `update_hash_from_stream`, and the leaf-size setter -/

theorem createMms_flushed (fixed : Option Nat) (hsz : Nat) (sts : List (Nat × MdatState β)) :
    createMms fixed hsz (sts.map fun p => (p.1, flush p.2)) = createMms fixed hsz sts := by
  induction sts with
  | nil => rfl
  | cons p ps ih =>
    obtain ⟨id, st⟩ := p
    simp only [List.map_cons, createMms, flush_idempotent, ih]

/-- **Calling `update_hash_from_stream` again changes nothing**: the remainders were drained by
the first call, so the second one stores the same maps and leaves the same state. -/
theorem update_hash_twice (a a1 : Acc β) (hsz : Nat) (mms : List (MMap β))
    (h : a.updateHash hsz = .ok (a1, mms)) : a1.updateHash hsz = .ok (a1, mms) := by
  simp only [Acc.updateHash] at h
  split at h
  · rename_i mms' hm
    simp only [Except.ok.injEq, Prod.mk.injEq] at h
    obtain ⟨rfl, rfl⟩ := h
    simp only [Acc.updateHash, createMms_flushed, hm, List.map_map]
    congr 3
    apply List.map_congr_left
    intro p _
    simp [flush_idempotent]
  · simp at h

/-- **The defect repaired in the flush**: the old flush kept the
remainder, so a second `update_hash_from_stream` (a retry after an I/O error, say) appended the
same partial leaf again and the stored leaves no longer matched the payload. -/
theorem pre_fix_flush_twice (st : MdatState β) (h : st.rem ≠ none) :
    (flushPre (flushPre st)).leaves ≠ (flushPre st).leaves := by
  cases hr : st.rem with
  | none => exact absurd hr h
  | some b =>
    intro e
    have := congrArg List.length e
    simp [flushPre, hr] at this

/-- the first flush is the same before and after the repair, only the state it leaves differs -/
theorem flushPre_leaves (st : MdatState β) : (flushPre st).leaves = (flush st).leaves := by
  unfold flushPre flush
  cases st.rem <;> rfl

theorem runOps_adds (a : Acc β) (calls : List (Nat × Bool × List β)) :
    a.runOps (calls.map fun c => Op.add c.1 c.2.1 c.2.2) = a.run calls := by
  induction calls generalizing a with
  | nil => rfl
  | cons c rest ih =>
    obtain ⟨id, large, data⟩ := c
    simp only [List.map_cons, Acc.runOps, Acc.step, Acc.run]
    cases a.add id large data with
    | ok a1 => exact ih a1
    | error e => rfl

/-- the documented use of `set_bmff_hash_fixed_leaf_size`: before the first chunk it is the same
as an accumulator created with that leaf size, so every theorem above applies -/
theorem setFixed_first (bytes : Nat) (ops : List (Op β)) :
    ({} : Acc β).runOps (.setFixed bytes :: ops) = ({ fixed := some bytes } : Acc β).runOps ops := rfl

/-! ### non-vacuity and the repaired inputs -/

-- first chunk of 3 bytes, then the rest: same leaves as the payload in one piece (F = 4)
example :
    (finalLeaves (some 4) false [[0, 1, 2], [3, 4, 5, 6, 7, 8, 9, 10, 11, 12, 13]]).toOption
      = (finalLeaves (some 4) false [[0, 1, 2, 3, 4, 5, 6, 7, 8, 9, 10, 11, 12, 13]]).toOption := by
  decide +kernel

example :
    (finalLeaves (some 4) false [[0, 1, 2], [], [3, 4, 5, 6, 7, 8, 9, 10, 11, 12, 13]]).toOption
      = some [⟨4, .sha [8, 9, 10, 11]⟩, ⟨2, .sha [12, 13]⟩] := by
  decide +kernel

-- variable sizes: header split over three chunks, an empty chunk in between; no empty leaf
example :
    (finalLeaves none false [[0, 1, 2], [3, 4, 5], [], [6, 7, 8, 9], [10, 11]]).toOption
      = some [⟨2, .sha [8, 9]⟩, ⟨2, .sha [10, 11]⟩] := by
  decide +kernel

-- the hypotheses of `accumulated_verifies_fixed`, and the covered byte `accumulated_good` asks for
-- in addition, are satisfiable
example : IsBox false [100, 101, 102, 103, 104, 105, 106, 107] [0, 1, 2, 3, 4, 5, 6, 7, 8, 9]
    [100, 101, 102, 103, 104, 105, 106, 107, 0, 1, 2, 3, 4, 5, 6, 7, 8, 9] ∧
    covered false [0, 1, 2, 3, 4, 5, 6, 7, 8, 9] ≠ ([] : List Nat) ∧
    Budget (some 4) 32 false [[0, 1, 2], [3, 4, 5, 6, 7, 8, 9]] := by
  refine ⟨⟨rfl, rfl⟩, ?_, ?_⟩
  · decide
  · decide

-- the budget really excludes something: 2^20 + 1 leaves of SHA-256 are refused, 2^20 are not
example : capOk 32 1048577 = false ∧ capOk 32 1048576 = true := by decide

/-- two mdats (a standard one and a large-size one) delivered interleaved -/
def exCalls : List (Nat × Bool × List Nat) :=
  [(0, false, [0, 1, 2]), (1, true, [50, 51, 52]), (0, false, [3, 4, 5, 6, 7, 8, 9, 10]),
   (1, true, [53, 54]), (0, false, [11, 12])]

def exRuns : List (MdatRun Nat) :=
  [{ large := false, cs := [[0, 1, 2], [3, 4, 5, 6, 7, 8, 9, 10], [11, 12]],
     hdr := [100, 101, 102, 103, 104, 105, 106, 107],
     box := [100, 101, 102, 103, 104, 105, 106, 107, 0, 1, 2, 3, 4, 5, 6, 7, 8, 9, 10, 11, 12] },
   { large := true, cs := [[50, 51, 52], [53, 54]],
     hdr := [200, 201, 202, 203, 204, 205, 206, 207, 208, 209, 210, 211, 212, 213, 214, 215],
     box := [200, 201, 202, 203, 204, 205, 206, 207, 208, 209, 210, 211, 212, 213, 214, 215,
             50, 51, 52, 53, 54] }]

-- the hypotheses of `run_then_verify` hold for this two-mdat history (fixed leaf size 2) …
example :
    (∀ i, i < exRuns.length ↔ ∃ c ∈ exCalls, c.1 = i)
    ∧ ∀ i r, exRuns[i]? = some r →
      (exCalls.filter (fun c => c.1 = i)).map (·.2.2) = r.cs
        ∧ (∀ c ∈ exCalls, c.1 = i → c.2.1 = r.large)
        ∧ IsBox r.large r.hdr r.cs.flatten r.box ∧ covered r.large r.cs.flatten ≠ []
        ∧ Budget (some 2) 32 r.large r.cs := by
  constructor
  · intro i
    constructor
    · intro hi
      rcases i with _ | _ | i
      · exact ⟨(0, false, [0, 1, 2]), List.mem_cons_self, rfl⟩
      · exact ⟨(1, true, [50, 51, 52]), List.mem_cons_of_mem _ List.mem_cons_self, rfl⟩
      · exact absurd hi (by simp [exRuns])
    · rintro ⟨c, hc, rfl⟩
      exact (by decide +kernel : ∀ c ∈ exCalls, c.1 < exRuns.length) c hc
  · intro i r hr
    rcases i with _ | _ | i
    · cases hr
      exact ⟨by decide +kernel, by decide +kernel, ⟨rfl, rfl⟩, by decide +kernel, by decide +kernel⟩
    · cases hr
      exact ⟨by decide +kernel, by decide +kernel, ⟨rfl, rfl⟩, by decide +kernel, by decide +kernel⟩
    · cases hr

-- … and its conclusion can be observed directly: two maps, ids 0 and 1, verifying
example :
    (match ({ fixed := some 2 } : Acc Nat).run exCalls with
     | .ok a' =>
       match createMms (some 2) 32 a'.mdats with
       | .ok mms => mms.map (·.id) == [0, 1] && validateMaps mms (exRuns.map (·.box))
       | .error _ => false
     | .error _ => false) = true := by
  decide +kernel

-- second mdat delivered first: the maps still come out in id (= file) order
example :
    (match ({ fixed := none } : Acc Nat).run
        [(1, true, [50, 51, 52]), (0, false, [0, 1, 2, 3, 4, 5, 6, 7, 8, 9]), (1, true, [53])] with
     | .ok a' => keys a'.mdats == [0, 1]
     | .error _ => false) = true := by
  decide +kernel

-- lowering the leaf size below a buffered partial leaf is refused (it used to underflow:
-- a panic in debug builds, a wrapped length and a lost chunk boundary in release builds)
example :
    (match ({ fixed := some 8 } : Acc Nat).runOps
        [.add 0 true [0, 1, 2, 3, 4], .setFixed 4, .add 0 true [5]] with
     | .error .badParam => true
     | _ => false) = true := by
  decide +kernel

-- changing the leaf size between chunks otherwise records leaves of mixed sizes under one
-- `fixed_block_size`; the validator rejects that map (this is why the setter is documented to
-- be called before the first chunk, and why `leaves_depend_on_concat` fixes `F` for the history)
example :
    (match ({ fixed := some 4 } : Acc Nat).runOps
        [.add 0 true [0, 1, 2, 3, 4, 5], .setFixed 2, .add 0 true [6, 7, 8]] with
     | .ok a' =>
       match createMms a'.fixed 32 a'.mdats with
       | .ok mms =>
         mms.map (·.count) == [4]
           && !validateMaps mms [(List.range 16).map (· + 100) ++ [0, 1, 2, 3, 4, 5, 6, 7, 8]]
       | .error _ => false
     | .error _ => false) = true := by
  decide +kernel

-- the old flush on a concrete state: the 2-byte remainder is recorded twice
example :
    ((flushPre (flushPre ({ leaves := [], rem := some [7, 8] } : MdatState Nat))).leaves.length,
     (flush (flush ({ leaves := [], rem := some [7, 8] } : MdatState Nat))).leaves.length) = (2, 1) := by
  decide

end C2pa.C17
