import C2paModel.Model.C26
import C2paModel.Lemmas.C27Loop
import C2paModel.Lemmas.C27Net
import C2paModel.Gen.C28HttpSites
import C2paModel.Lemmas.DecideRun
/-
C27 — property theorems. The statement (properties.jsonl):

  When following redirects, the SDK never sends a request to a host that is localhost, loopback,
  private (including IPv6 unique-local), link-local, unspecified, multicast, broadcast, IPv4
  documentation or IPv4 shared address space, whether written as a name, as an IPv4 literal in any
  notation the URL parser accepts, as an IPv6 literal, or as an IPv4-mapped IPv6 literal. It never
  follows more than ten redirects, refuses every redirect when redirects are disabled, and never
  forwards Authorization, Cookie, Proxy-Authorization or Host headers to a redirect target.

Address blocks are written as numeric ranges on the 32-bit value / the first 16-bit segment,
independently of the predicates of the code. The stack theorems (`redirects_never_reach_listed`,
`hop_limit`, `disabled_refuses_all`, `headers_stripped`) hold for every transport, every
behaviour of `Url::join`, every allow-list configuration (including none), every request and
every redirect history. Over all request sites of the SDK two clauses are false
(`site_never_internal_iff`, `site_honours_disabled_iff`).
-/
namespace C2pa.C27

open C2pa.C26

def v4Num (a b c d : Nat) : Nat := a * 0x1000000 + b * 0x10000 + c * 0x100 + d

/-- The IPv4 blocks named by the statement, as inclusive ranges of the 32-bit address. -/
def BlockedV4 (n : Nat) : Prop :=
  n = 0                                        -- unspecified 0.0.0.0
  ∨ (0x7f000000 ≤ n ∧ n ≤ 0x7fffffff)         -- loopback 127.0.0.0/8
  ∨ (0x0a000000 ≤ n ∧ n ≤ 0x0affffff)         -- private 10.0.0.0/8
  ∨ (0xac100000 ≤ n ∧ n ≤ 0xac1fffff)         -- private 172.16.0.0/12
  ∨ (0xc0a80000 ≤ n ∧ n ≤ 0xc0a8ffff)         -- private 192.168.0.0/16
  ∨ (0xa9fe0000 ≤ n ∧ n ≤ 0xa9feffff)         -- link-local 169.254.0.0/16
  ∨ (0xe0000000 ≤ n ∧ n ≤ 0xefffffff)         -- multicast 224.0.0.0/4
  ∨ n = 0xffffffff                             -- broadcast
  ∨ (0xc0000200 ≤ n ∧ n ≤ 0xc00002ff)         -- documentation 192.0.2.0/24
  ∨ (0xc6336400 ≤ n ∧ n ≤ 0xc63364ff)         -- documentation 198.51.100.0/24
  ∨ (0xcb007100 ≤ n ∧ n ≤ 0xcb0071ff)         -- documentation 203.0.113.0/24
  ∨ (0x64400000 ≤ n ∧ n ≤ 0x647fffff)         -- shared address space 100.64.0.0/10

/-- The thirteen tests of the code (`z` unspecified, `a0` first octet 0, `lb` loopback, `p10` `p172`
`p192` private, `ll` link-local, `bc` broadcast, `d1` `d2` `d3` documentation, `mc` multicast, `sh`
shared) are the twelve blocks of `BlockedV4` and `a0`, in another order. -/
theorem code_order_iff {z a0 lb p10 p172 p192 ll bc d1 d2 d3 mc sh : Prop} :
    (z ∨ a0 ∨ lb ∨ p10 ∨ p172 ∨ p192 ∨ ll ∨ bc ∨ d1 ∨ d2 ∨ d3 ∨ mc ∨ sh) ↔
      ((z ∨ lb ∨ p10 ∨ p172 ∨ p192 ∨ ll ∨ mc ∨ bc ∨ d1 ∨ d2 ∨ d3 ∨ sh) ∨ a0) := by
  simp only [or_comm, or_left_comm]

/-- The classification blocks exactly the listed blocks plus the rest of `0.0.0.0/8`. -/
theorem v4_exact (a b c d : Nat) (ha : a < 256) (hb : b < 256) (hc : c < 256) (hd : d < 256) :
    ipv4IsNonGlobal a b c d = true ↔ (BlockedV4 (v4Num a b c d) ∨ v4Num a b c d ≤ 0x00ffffff) := by
  have hm := mask_c0 b hb
  unfold BlockedV4 v4Num
  -- the ranges are brought into the order of the code's tests, and then each test is compared with
  -- its range: an aligned range is a condition on the leading octets
  refine Iff.trans ?_ code_order_iff
  simp only [ipv4IsNonGlobal, Bool.or_eq_true, Bool.and_eq_true, beq_iff_eq, decide_eq_true_eq, hm,
    or_assoc, and_assoc]
  repeat' apply or_congr
  all_goals omega

/-- **Every IPv4 address of a listed block is classified non-global.** -/
theorem v4_sound (a b c d : Nat) (ha : a < 256) (hb : b < 256) (hc : c < 256) (hd : d < 256)
    (h : BlockedV4 (v4Num a b c d)) : ipv4IsNonGlobal a b c d = true :=
  (v4_exact a b c d ha hb hc hd).2 (Or.inl h)

example : BlockedV4 (v4Num 169 254 169 254) := by unfold BlockedV4 v4Num; omega
example : ¬ BlockedV4 (v4Num 93 184 216 34) := by unfold BlockedV4 v4Num; omega

/-- The IPv6 blocks named by the statement, on the eight 16-bit segments. -/
def BlockedV6 (s0 s1 s2 s3 s4 s5 s6 s7 : Nat) : Prop :=
  (s0 = 0 ∧ s1 = 0 ∧ s2 = 0 ∧ s3 = 0 ∧ s4 = 0 ∧ s5 = 0 ∧ s6 = 0 ∧ s7 = 0)      -- unspecified ::
  ∨ (s0 = 0 ∧ s1 = 0 ∧ s2 = 0 ∧ s3 = 0 ∧ s4 = 0 ∧ s5 = 0 ∧ s6 = 0 ∧ s7 = 1)    -- loopback ::1
  ∨ 0xff00 ≤ s0                                                                   -- multicast ff00::/8
  ∨ (0xfc00 ≤ s0 ∧ s0 ≤ 0xfdff)                                                  -- unique local fc00::/7
  ∨ (0xfe80 ≤ s0 ∧ s0 ≤ 0xfebf)                                                  -- link-local fe80::/10
  ∨ (s0 = 0 ∧ s1 = 0 ∧ s2 = 0 ∧ s3 = 0 ∧ s4 = 0 ∧ s5 = 0xffff ∧
      BlockedV4 (s6 * 0x10000 + s7))                                              -- ::ffff:a.b.c.d

theorem toIpv4Mapped_none (s0 s1 s2 s3 s4 s5 s6 s7 : Nat)
    (h : ¬ (s0 = 0 ∧ s1 = 0 ∧ s2 = 0 ∧ s3 = 0 ∧ s4 = 0 ∧ s5 = 0xffff)) :
    toIpv4Mapped [s0, s1, s2, s3, s4, s5, s6, s7] = none := by
  unfold toIpv4Mapped
  split
  · rename_i heq
    simp only [List.cons.injEq, and_true] at heq
    obtain ⟨e0, e1, e2, e3, e4, e5, _⟩ := heq
    exact absurd ⟨e0, e1, e2, e3, e4, e5⟩ h
  · rfl

theorem ipv6IsNonGlobal_mapped (ab cd : Nat) :
    ipv6IsNonGlobal [0, 0, 0, 0, 0, 0xffff, ab, cd] =
      ipv4IsNonGlobal (ab / 256) (ab % 256) (cd / 256) (cd % 256) := rfl

/-- The IPv4-mapped rest of `0.0.0.0/8` (blocked through the IPv4 rule `a == 0`). -/
def MappedThisNetwork (s0 s1 s2 s3 s4 s5 s6 s7 : Nat) : Prop :=
  s0 = 0 ∧ s1 = 0 ∧ s2 = 0 ∧ s3 = 0 ∧ s4 = 0 ∧ s5 = 0xffff ∧ s6 * 0x10000 + s7 ≤ 0x00ffffff

/-- **The IPv6 classification blocks exactly the listed blocks (incl. IPv4-mapped listed blocks)
plus the IPv4-mapped rest of `0.0.0.0/8`** — nothing else. In particular IPv4-compatible
(`::a.b.c.d`), NAT64 (`64:ff9b::/96`), 6to4 (`2002::/16`) and `::ffff:0:a.b.c.d` forms of an
internal IPv4 address are *not* unwrapped (see `v4_in_v6_not_unwrapped`). -/
theorem v6_exact (s0 s1 s2 s3 s4 s5 s6 s7 : Nat)
    (h0 : s0 < 65536) (h6 : s6 < 65536) (h7 : s7 < 65536) :
    ipv6IsNonGlobal [s0, s1, s2, s3, s4, s5, s6, s7] = true ↔
      (BlockedV6 s0 s1 s2 s3 s4 s5 s6 s7 ∨ MappedThisNetwork s0 s1 s2 s3 s4 s5 s6 s7) := by
  by_cases hm : s0 = 0 ∧ s1 = 0 ∧ s2 = 0 ∧ s3 = 0 ∧ s4 = 0 ∧ s5 = 0xffff
  · -- IPv4-mapped: the IPv4 classification of the embedded address decides
    obtain ⟨rfl, rfl, rfl, rfl, rfl, rfl⟩ := hm
    have hv : v4Num (s6 / 256) (s6 % 256) (s7 / 256) (s7 % 256) = s6 * 0x10000 + s7 := by
      unfold v4Num; omega
    rw [ipv6IsNonGlobal_mapped, v4_exact _ _ _ _ (by omega) (by omega) (by omega) (by omega), hv]
    simp [BlockedV6, MappedThisNetwork]
  · -- both the mapped clause of `BlockedV6` and `MappedThisNetwork` start with the six equations
    -- that `hm` denies, whatever follows them
    have hn : ∀ X : Prop,
        ¬ (s0 = 0 ∧ s1 = 0 ∧ s2 = 0 ∧ s3 = 0 ∧ s4 = 0 ∧ s5 = 0xffff ∧ X) :=
      fun X h => hm ⟨h.1, h.2.1, h.2.2.1, h.2.2.2.1, h.2.2.2.2.1, h.2.2.2.2.2.1⟩
    unfold ipv6IsNonGlobal
    rw [toIpv4Mapped_none _ _ _ _ _ _ _ _ hm]
    simp only [BlockedV6, MappedThisNetwork, hn, or_false, List.headD_cons, Bool.or_eq_true,
      beq_iff_eq, List.cons.injEq, and_true, mask_ff00 s0 h0, mask_fe00 s0 h0, mask_ffc0 s0 h0,
      or_assoc]

/-- **Every IPv6 address of a listed block (including IPv4-mapped addresses of a listed IPv4
block) is classified non-global.** -/
theorem v6_sound (s0 s1 s2 s3 s4 s5 s6 s7 : Nat)
    (h0 : s0 < 65536) (h6 : s6 < 65536) (h7 : s7 < 65536)
    (h : BlockedV6 s0 s1 s2 s3 s4 s5 s6 s7) :
    ipv6IsNonGlobal [s0, s1, s2, s3, s4, s5, s6, s7] = true :=
  (v6_exact s0 s1 s2 s3 s4 s5 s6 s7 h0 h6 h7).2 (Or.inl h)

example : BlockedV6 0xfe80 0 0 0 0 0 0 1 := by unfold BlockedV6; omega
example : BlockedV6 0 0 0 0 0 0xffff 0xa9fe 0xa9fe := by unfold BlockedV6 BlockedV4; omega
example : ¬ BlockedV6 0x2606 0x2800 0x220 1 0x248 0x1893 0x25c8 0x1946 := by
  unfold BlockedV6 BlockedV4; omega

/-- Recorded as facts, not violations (the statement names IPv4-*mapped* literals only): an internal IPv4
address embedded in another IPv6 form is classified by the IPv6 rules alone. -/
theorem v4_in_v6_not_unwrapped :
    hostStrIsNonGlobal (bytesOf "[::127.0.0.1]") = false ∧          -- IPv4-compatible
    hostStrIsNonGlobal (bytesOf "[64:ff9b::169.254.169.254]") = false ∧  -- NAT64
    hostStrIsNonGlobal (bytesOf "[2002:7f00:1::1]") = false ∧       -- 6to4
    hostStrIsNonGlobal (bytesOf "[::ffff:0:10.0.0.1]") = false := by   -- SIIT
  unfold bytesOf; decide_run

/-! ### literals and names as they appear in a URI host -/

theorem parsed_host_verdict (h : Bytes) (ip : Ip) (hp : parseIp (normalizeHost h) = some ip) :
    hostStrIsNonGlobal h = ipIsNonGlobal ip := by
  simp [hostStrIsNonGlobal, hp]

/-- **A standard dotted-decimal literal of a listed block is refused**, plain, with a trailing dot
or in brackets. -/
theorem literal_v4_blocked (a b c d : Nat) (ha : a < 256) (hb : b < 256) (hc : c < 256) (hd : d < 256)
    (h : BlockedV4 (v4Num a b c d)) :
    hostStrIsNonGlobal (dotted a b c d) = true ∧
    hostStrIsNonGlobal (dotted a b c d ++ [46]) = true ∧
    hostStrIsNonGlobal (91 :: (dotted a b c d ++ [93])) = true := by
  -- each of the three spellings normalises to the dotted text, which parses to the four octets
  have refused_of_normalizes : ∀ x, normalizeHost x = dotted a b c d → hostStrIsNonGlobal x = true :=
      fun x e => by
    rw [parsed_host_verdict x (.v4 a b c d) (e ▸ parseIp_dotted a b c d ha hb hc hd)]
    exact v4_sound a b c d ha hb hc hd h
  have hn := normalizeHost_clean (dotted_clean a b c d ha hb hc hd)
  exact ⟨refused_of_normalizes _ hn.1, refused_of_normalizes _ hn.2.1, refused_of_normalizes _ hn.2.2⟩

/-- `[::ffff:a.b.c.d]` -/
def mappedLiteral (a b c d : Nat) : Bytes :=
  91 :: ((bytesOf "::ffff:" ++ dotted a b c d) ++ [93])

theorem normalizeHost_mapped (a b c d : Nat) (ha : a < 256) (hb : b < 256) (hc : c < 256)
    (hd : d < 256) :
    normalizeHost (mappedLiteral a b c d) = bytesOf "::ffff:" ++ dotted a b c d := by
  obtain ⟨y, hy, hyd⟩ := dotted_last a b c d hd
  refine normalizeHost_brackets _ ?_ ?_
  · exact (List.map_append ..).trans
      (congrArg (bytesOf "::ffff:" ++ ·) (dotted_clean a b c d ha hb hc hd).1)
  · rw [List.getLast?_append, hy]
    intro e; cases e; exact absurd hyd (by decide)

/-- **Any host that parses as an IPv6 literal of a listed block is refused** (whatever its text
form: compressed, expanded, upper case, embedded dotted quad, with or without brackets / trailing
dot). No hypothesis on the segments: `parseIp_v6_shape` shows the parser only returns eight
16-bit segments. -/
theorem literal_v6_blocked (h : Bytes) (s0 s1 s2 s3 s4 s5 s6 s7 : Nat)
    (hp : parseIp (normalizeHost h) = some (.v6 [s0, s1, s2, s3, s4, s5, s6, s7]))
    (hb : BlockedV6 s0 s1 s2 s3 s4 s5 s6 s7) : hostStrIsNonGlobal h = true := by
  rw [parsed_host_verdict h _ hp]
  have hs := (parseIp_v6_shape _ _ hp).2
  exact v6_sound _ _ _ _ _ _ _ _ (hs s0 (by simp)) (hs s6 (by simp)) (hs s7 (by simp)) hb

/-- **An IPv4-mapped IPv6 literal of a listed IPv4 block is refused.** -/
theorem literal_mapped_blocked (a b c d : Nat) (ha : a < 256) (hb : b < 256) (hc : c < 256)
    (hd : d < 256) (h : BlockedV4 (v4Num a b c d)) :
    hostStrIsNonGlobal (mappedLiteral a b c d) = true := by
  refine literal_v6_blocked _ 0 0 0 0 0 0xffff (a * 256 + b) (c * 256 + d)
    (by rw [normalizeHost_mapped a b c d ha hb hc hd]; exact parseIp_mapped a b c d ha hb hc hd)
    (.inr (.inr (.inr (.inr (.inr ⟨rfl, rfl, rfl, rfl, rfl, rfl, ?_⟩)))))
  rwa [show (a * 256 + b) * 0x10000 + (c * 256 + d) = v4Num a b c d by unfold v4Num; omega]

/-- **Exact verdict for every host text that parses as an IPv6 address**: the parse result has
exactly eight segments, and the host is refused iff they form a listed block or the IPv4-mapped
rest of `0.0.0.0/8`. Covers every spelling of an IPv4-mapped literal (`::ffff:a.b.c.d`,
`::ffff:hhhh:hhhh`, expanded, upper case), not only the one of `literal_mapped_blocked`. -/
theorem literal_v6_exact (h : Bytes) (g : List Nat)
    (hp : parseIp (normalizeHost h) = some (.v6 g)) :
    ∃ s0 s1 s2 s3 s4 s5 s6 s7, g = [s0, s1, s2, s3, s4, s5, s6, s7] ∧
      (hostStrIsNonGlobal h = true ↔
        (BlockedV6 s0 s1 s2 s3 s4 s5 s6 s7 ∨ MappedThisNetwork s0 s1 s2 s3 s4 s5 s6 s7)) := by
  obtain ⟨hlen, hs⟩ := parseIp_v6_shape _ _ hp
  obtain ⟨s0, s1, s2, s3, s4, s5, s6, s7, rfl⟩ := eight_of_length g hlen
  refine ⟨s0, s1, s2, s3, s4, s5, s6, s7, rfl, ?_⟩
  rw [parsed_host_verdict h _ hp]
  exact v6_exact _ _ _ _ _ _ _ _ (hs s0 (by simp)) (hs s6 (by simp)) (hs s7 (by simp))

/-- Exact verdict for every host text that parses as an IPv4 address (no hypothesis on the octets:
`parseIp_v4_le`). -/
theorem literal_v4_exact (h : Bytes) (a b c d : Nat)
    (hp : parseIp (normalizeHost h) = some (.v4 a b c d)) :
    hostStrIsNonGlobal h = true ↔ (BlockedV4 (v4Num a b c d) ∨ v4Num a b c d ≤ 0x00ffffff) := by
  obtain ⟨ha, hb, hc, hd⟩ := parseIp_v4_le _ _ _ _ _ hp
  rw [parsed_host_verdict h _ hp]
  exact v4_exact a b c d (by omega) (by omega) (by omega) (by omega)

example : parseIp (normalizeHost (bytesOf "[0:0:0:0:0:FFFF:A9FE:A9FE]")) =
    some (.v6 [0, 0, 0, 0, 0, 0xffff, 0xa9fe, 0xa9fe]) := by
  unfold bytesOf; decide_run

example : hostStrIsNonGlobal (bytesOf "[::1]") = true := by
  unfold bytesOf; decide_run
example : hostStrIsNonGlobal (bytesOf "[FE80::1]") = true := by
  unfold bytesOf; decide_run
example : hostStrIsNonGlobal (bytesOf "[fd00:1:2::3]") = true := by
  unfold bytesOf; decide_run
example : hostStrIsNonGlobal (bytesOf "[::ffff:7f00:1]") = true := by
  unfold bytesOf; decide_run
example : hostStrIsNonGlobal (bytesOf "[0:0:0:0:0:ffff:169.254.169.254]") = true := by
  unfold bytesOf; decide_run
example : hostStrIsNonGlobal (bytesOf "[2606:2800:220:1:248:1893:25c8:1946]") = false := by
  unfold bytesOf; decide_run
example : parseIp (bytesOf "fe80::1") = some (.v6 [0xfe80, 0, 0, 0, 0, 0, 0, 1]) := by
  unfold bytesOf; decide_run

/-! #### numeric hosts fail closed -/

/-- The number forms of inet_aton / the WHATWG host parser: dot-separated labels, each all
decimal digits (decimal or octal) or starting with `0x`/`0X`. -/
def NumericForm (s : Bytes) : Prop :=
  s ≠ [] ∧ ∀ l ∈ splitOn 46 s, l.all isDigit = true ∨ starts0x l = true

theorem numeric_form_looks_obfuscated (s : Bytes) (h : NumericForm s) : looksObfuscated s = true := by
  obtain ⟨hne, hl⟩ := h
  unfold looksObfuscated
  have he : s.isEmpty = false := by cases s <;> simp at hne ⊢
  simp only [he, Bool.false_eq_true, if_false]
  -- some piece starts with `0x`, or all pieces are digits and so the text is digits and dots
  by_cases hx : (splitOn 46 s).any starts0x = true
  · simp [hx]
  · have hall := splitOn_all_digits s fun l hmem =>
      (hl l hmem).resolve_right fun h1 => hx (List.any_eq_true.2 ⟨l, hmem, h1⟩)
    simp [hall]

/-- **Numeric hosts fail closed**: a host in any inet_aton number form (decimal, octal, hex, one to
four parts, trailing dot, brackets, any case) is refused, unless it is a standard IP literal, in
which case the address classification decides. -/
theorem numeric_host_fail_closed (h : Bytes) (hn : NumericForm (normalizeHost h)) :
    hostStrIsNonGlobal h = true ∨
    ∃ ip, parseIp (normalizeHost h) = some ip ∧ hostStrIsNonGlobal h = ipIsNonGlobal ip := by
  cases hp : parseIp (normalizeHost h) with
  | some ip => right; exact ⟨ip, rfl, parsed_host_verdict h ip hp⟩
  | none =>
    left
    simp [hostStrIsNonGlobal, hp, numeric_form_looks_obfuscated _ hn]

example : NumericForm (normalizeHost (bytesOf "0x7F.1")) := by
  refine ⟨by unfold bytesOf; decide_run, ?_⟩
  intro l hl
  have : l = bytesOf "0x7f" ∨ l = bytesOf "1" := by
    have : l ∈ [bytesOf "0x7f", bytesOf "1"] := hl
    simpa using this
  rcases this with rfl | rfl <;> (unfold bytesOf; decide_run)
example : hostStrIsNonGlobal (bytesOf "2130706433") = true := by
  unfold bytesOf; decide_run
example : hostStrIsNonGlobal (bytesOf "0177.0.0.1") = true := by
  unfold bytesOf; decide_run
example : hostStrIsNonGlobal (bytesOf "127.0x1") = true := by
  unfold bytesOf; decide_run
example : hostStrIsNonGlobal (bytesOf "134744072") = true := by
  unfold bytesOf; decide_run  -- 8.8.8.8, still refused

/-! #### the loopback name -/

/-- **`localhost` and every name under `.localhost` is refused**, in any case, with or without a
trailing dot. -/
theorem localhost_blocked (h : Bytes)
    (hl : normalizeHost h = localhost ∨ endsWith (normalizeHost h) dotLocalhost = true) :
    hostStrIsNonGlobal h = true := by
  -- `t` (116) is a byte of `localhost` that no address contains (`l`, `o`, `s` would do; `a`, `c` are
  -- hex digits), so the text does not parse as an address
  have ht : (116 : Nat) ∈ normalizeHost h := by
    rcases hl with hl | hl
    · rw [hl]; decide
    · exact (List.isSuffixOf_iff_suffix.1 hl).subset (by decide)
  have hp := parseIp_none_of_mem (normalizeHost h) 116 ht (by decide)
  unfold hostStrIsNonGlobal
  simp only [hp]
  cases looksObfuscated (normalizeHost h)
  · simpa using hl
  · rfl

example : normalizeHost (bytesOf "LocalHost.") = localhost := by
  unfold localhost bytesOf; decide_run
example : endsWith (normalizeHost (bytesOf "api.LOCALHOST")) dotLocalhost = true := by
  unfold dotLocalhost bytesOf; decide_run
example : hostStrIsNonGlobal (bytesOf "notlocalhost.example.com") = false := by
  unfold bytesOf; decide_run

/-- A URI without a host is refused as a redirect target. -/
theorem no_host_blocked (u : Uri) (h : u.host = none) : hostIsNonGlobal u = true := by
  simp [hostIsNonGlobal, h]

/-! ### the redirect follower: every hop, every history -/

theorem redirectTarget_ok (join : JoinFn) (a : Bool) (hop : Nat) (u : Uri) (resp : Response)
    (t : Uri) (h : redirectTarget join a hop u resp = .ok (some t)) :
    a = true ∧ hostIsNonGlobal t = false ∧ ∃ loc, redirectLocation resp = some loc ∧ join hop u loc = .ok t := by
  unfold redirectTarget at h
  split at h
  · cases h
  · rename_i loc hl
    split at h
    · cases h
    · rename_i ha
      split at h
      · cases h
      · cases h
      · rename_i target hj
        split at h
        · cases h
        · rename_i hg
          cases h
          exact ⟨by simpa using ha, by simpa using hg, loc, hl, hj⟩

/-- **No redirect hop goes to a host the classification refuses**: every request that reaches the
transport after the first one has a host, and `host_is_non_global` is false for it. With the
soundness theorems above: never a listed IPv4/IPv6/mapped literal, a numeric form, or a
localhost name. -/
theorem redirects_never_reach_internal (t : Transport) (join : JoinFn)
    (allowed : Option (List Pattern)) (redirects : Bool) (req : Request) :
    ∀ r ∈ (stack t join allowed redirects req).1.trace.tail, hostIsNonGlobal r.uri = false :=
  stack_hops t join allowed redirects req _ fun hop rq resp tg h =>
    (redirectTarget_ok join redirects hop rq.uri resp tg h).2.1

/-- `redirects_never_reach_internal` for dotted-decimal literals: no request after the first goes to
a listed block. -/
theorem redirect_hop_not_listed_v4 (t : Transport) (join : JoinFn)
    (allowed : Option (List Pattern)) (redirects : Bool) (req : Request)
    (a b c d : Nat) (ha : a < 256) (hb : b < 256) (hc : c < 256) (hd : d < 256)
    (r : Request) (hr : r ∈ (stack t join allowed redirects req).1.trace.tail)
    (hhost : r.uri.host = some (dotted a b c d)) : ¬ BlockedV4 (v4Num a b c d) := by
  intro hbl
  have h1 := redirects_never_reach_internal t join allowed redirects req r hr
  have h2 := (literal_v4_blocked a b c d ha hb hc hd hbl).1
  simp [hostIsNonGlobal, hhost, h2] at h1

/-- **At most ten redirects are followed**: the transport is called at most eleven times. -/
theorem hop_limit (t : Transport) (join : JoinFn) (allowed : Option (List Pattern))
    (redirects : Bool) (req : Request) :
    (stack t join allowed redirects req).1.trace.length ≤ maxRedirects + 1 := by
  rw [stack_eq]
  unfold redirectResolver
  have := loop_trace_length _ join redirects (stackInner_innerOK t allowed) (maxRedirects + 1) 0 req {}
  simpa using this

/-- A transport that always redirects: with it the bound of `hop_limit` is attained and the run ends
in `TooManyRedirects` (the `example` below). -/
def loopTransport : Transport := fun _ _ => .ok { status := 302, location := .str (bytesOf "/again") }
def loopUri : Uri :=
  { text := bytesOf "https://example.com/again", scheme := some (bytesOf "https"),
    host := some (bytesOf "example.com"), port := none }
def loopJoin : JoinFn := fun _ _ _ => .ok loopUri
def loopReq : Request := { method := bytesOf "GET", uri := loopUri, headers := [], body := [] }
def isTooMany : Except Err Response → Bool
  | .error .tooManyRedirects => true
  | _ => false

example : (stack loopTransport loopJoin none true loopReq).1.trace.length = 11 ∧
    isTooMany (stack loopTransport loopJoin none true loopReq).2 = true := by
  unfold loopTransport loopJoin loopReq loopUri bytesOf; decide_run

/-- **With redirects disabled no redirect is followed**: at most one transport call, and a
redirect response ends the run in `RedirectDisallowed`. -/
theorem disabled_refuses_all (t : Transport) (join : JoinFn) (allowed : Option (List Pattern))
    (req : Request) :
    (stack t join allowed false req).1.trace.length ≤ 1 ∧
    ∀ resp loc, (stackInner t allowed 0 req {}).2 = .ok resp → redirectLocation resp = some loc →
      (stack t join allowed false req).2 = .error .redirectDisallowed := by
  rw [stack_eq]
  unfold redirectResolver
  rw [show maxRedirects + 1 = 10 + 1 from rfl, loop_disabled]
  exact ⟨(stackInner_innerOK t allowed).length_le 0 req {}, fun resp loc h hl => by simp only [h, hl]; rfl⟩

/-- The four header names `build_redirected_request` drops. -/
def Sensitive (name : Bytes) : Prop :=
  name = hHost ∨ name = hAuthorization ∨ name = hCookie ∨ name = hProxyAuthorization

theorem dropHeader_iff (name : Bytes) : dropHeader name = true ↔ Sensitive name := by
  simp [dropHeader, Sensitive, or_assoc]

/-- **Authorization, Cookie, Proxy-Authorization and Host never reach a redirect target**: no
request after the first carries any of them (header names as `http::HeaderName` holds them, i.e.
lower case), on every hop, whether or not the origin changes. -/
theorem headers_stripped (t : Transport) (join : JoinFn) (allowed : Option (List Pattern))
    (redirects : Bool) (req : Request) :
    ∀ r ∈ (stack t join allowed redirects req).1.trace.tail, ∀ h ∈ r.headers, ¬ Sensitive h.name := by
  refine stack_hops t join allowed redirects req _ fun hop rq resp tg _ h hh => ?_
  simp only [buildRedirected, List.mem_filter, Bool.not_eq_true'] at hh
  intro hs
  have := (dropHeader_iff h.name).2 hs
  rw [hh.2] at this; cases this

/-- Method and body of every request that reaches the transport are those of the original
request. -/
theorem method_body_preserved (t : Transport) (join : JoinFn) (allowed : Option (List Pattern))
    (redirects : Bool) (req : Request) :
    ∀ r ∈ (stack t join allowed redirects req).1.trace, r.method = req.method ∧ r.body = req.body := by
  rw [stack_eq]
  exact loop_all _ join redirects (fun r => r.method = req.method ∧ r.body = req.body)
    (stackInner_innerOK t allowed) (fun _ _ h => h) _ _ _ _ ⟨rfl, rfl⟩ (fun _ hr => nomatch hr)

/-! ### non-vacuity of the stack theorems: a chain that is followed, then refused -/

def exHeaders : List Header :=
  [{ name := hAuthorization, value := bytesOf "Bearer x" }, { name := bytesOf "accept", value := bytesOf "*/*" },
   { name := hCookie, value := bytesOf "sid=1" }]
def exReq : Request :=
  { method := bytesOf "POST", uri := loopUri, headers := exHeaders, body := [1, 2, 3] }
def metaUri : Uri :=
  { text := bytesOf "http://169.254.169.254/latest/", scheme := some (bytesOf "http"),
    host := some (bytesOf "169.254.169.254"), port := none }
def exT : Transport := fun _ _ => .ok { status := 307, location := .str (bytesOf "x") }
def exJ : JoinFn := fun hop _ _ => if hop = 0 then .ok loopUri else .ok metaUri
def isTargetDisallowed : Except Err Response → Bool
  | .error .targetDisallowed => true
  | _ => false

example :
    let r := stack exT exJ none true exReq
    isTargetDisallowed r.2 = true ∧ r.1.trace.length = 2 ∧
    (r.1.trace.tail.map (·.headers)) = [[{ name := bytesOf "accept", value := bytesOf "*/*" }]] := by
  -- the literals of this run are short and sit inside definitions: unfolding them for `decide_run`
  -- costs more than the kernel spends decoding them (likewise in `site_honours_disabled_iff`)
  decide +kernel

/-! ### the statement in one piece: no redirect hop goes to a host the statement names -/

/-- The host texts the statement names: a listed IPv4 block as dotted-decimal literal (plain,
trailing dot, bracketed) or as `[::ffff:a.b.c.d]`; any text that parses as an IPv6 address of a
listed block (incl. every spelling of an IPv4-mapped listed address); any inet_aton number form
that is not a standard literal (fail closed, whatever address it denotes); `localhost` and names
under `.localhost`. Written without the classification predicates of the code (`ipv4IsNonGlobal`,
`ipv6IsNonGlobal`, `looksObfuscated`); which text is which address is read with the model's
`normalizeHost` and `parseIp`. -/
def ListedHost (h : Bytes) : Prop :=
  (∃ a b c d, a < 256 ∧ b < 256 ∧ c < 256 ∧ d < 256 ∧ BlockedV4 (v4Num a b c d) ∧
      (h = dotted a b c d ∨ h = dotted a b c d ++ [46] ∨ h = 91 :: (dotted a b c d ++ [93]) ∨
       h = mappedLiteral a b c d)) ∨
  (∃ s0 s1 s2 s3 s4 s5 s6 s7, parseIp (normalizeHost h) = some (.v6 [s0, s1, s2, s3, s4, s5, s6, s7]) ∧
      BlockedV6 s0 s1 s2 s3 s4 s5 s6 s7) ∨
  (NumericForm (normalizeHost h) ∧ parseIp (normalizeHost h) = none) ∨
  (normalizeHost h = localhost ∨ endsWith (normalizeHost h) dotLocalhost = true)

theorem listed_host_refused (h : Bytes) (hl : ListedHost h) : hostStrIsNonGlobal h = true := by
  rcases hl with ⟨a, b, c, d, ha, hb, hc, hd, hbl, (rfl | rfl | rfl | rfl)⟩ | ⟨s0, s1, s2, s3, s4, s5, s6, s7, hp, hbl⟩ |
    ⟨hn, hp⟩ | hl
  · exact (literal_v4_blocked a b c d ha hb hc hd hbl).1
  · exact (literal_v4_blocked a b c d ha hb hc hd hbl).2.1
  · exact (literal_v4_blocked a b c d ha hb hc hd hbl).2.2
  · exact literal_mapped_blocked a b c d ha hb hc hd hbl
  · exact literal_v6_blocked h _ _ _ _ _ _ _ _ hp hbl
  · rcases numeric_host_fail_closed h hn with h1 | ⟨ip, hip, _⟩
    · exact h1
    · rw [hp] at hip; cases hip
  · exact localhost_blocked h hl

/-- **No request after the first goes to a host the statement names**, for every transport, every
`Url::join` behaviour, every allow-list configuration, both redirect settings, every request and
redirect history: each later request has a host, and that host is not a listed one. -/
theorem redirects_never_reach_listed (t : Transport) (join : JoinFn)
    (allowed : Option (List Pattern)) (redirects : Bool) (req : Request) :
    ∀ r ∈ (stack t join allowed redirects req).1.trace.tail,
      ∃ h, r.uri.host = some h ∧ ¬ ListedHost h := by
  intro r hr
  have h1 := redirects_never_reach_internal t join allowed redirects req r hr
  cases hh : r.uri.host with
  | none => simp [hostIsNonGlobal, hh] at h1
  | some h =>
    refine ⟨h, rfl, fun hl => ?_⟩
    have := listed_host_refused h hl
    simp [hostIsNonGlobal, hh, this] at h1

example : ListedHost (bytesOf "169.254.169.254") :=
  Or.inl ⟨169, 254, 169, 254, by omega, by omega, by omega, by omega, by unfold BlockedV4 v4Num; omega,
    Or.inl (by unfold bytesOf; decide_run)⟩
example : ListedHost (bytesOf "[FE80::1]") :=
  Or.inr (Or.inl ⟨0xfe80, 0, 0, 0, 0, 0, 0, 1, by unfold bytesOf; decide_run, by unfold BlockedV6; omega⟩)

/-! ### "the SDK": the request sites

The redirect guarantees above are those of `RedirectResolver` inside `Context::resolver()`. Two
request sites of sdk/src do not use the caller's Context (`Model/C26.lean`, `Site`): for them parts
of the statement are **false**; the witnesses are replayed on the real code over a loopback
listener (known findings `remote-signer-follows-redirect-to-internal-host`,
`remote-signer-follows-redirect-while-disabled`, `signer-timestamp-request-ignores-allow-redirects`). -/

/-- no redirect hop issued at `site` goes to a host the classification refuses -/
def SiteNeverRedirectsToInternal (site : Site) : Prop :=
  ∀ (t : Transport) (join : JoinFn) (allowed : Option (List Pattern)) (redirects : Bool) (req : Request),
    ∀ r ∈ (siteStack site t join allowed redirects req).1.trace.tail, hostIsNonGlobal r.uri = false

/-- with `core.allow_redirects = false` in the caller's configuration no redirect is followed at `site` -/
def SiteHonoursDisabled (site : Site) : Prop :=
  ∀ (t : Transport) (join : JoinFn) (allowed : Option (List Pattern)) (req : Request),
    (siteStack site t join allowed false req).1.trace.length ≤ 1

/-- The two clauses of the statement over every request site. False of the current code. -/
def EverySiteGuardsRedirects : Prop :=
  ∀ site, SiteNeverRedirectsToInternal site ∧ SiteHonoursDisabled site

/-- a transport whose first answer redirects to the metadata address -/
def metaT : Transport := fun hop _ =>
  if hop = 0 then .ok { status := 302, location := .str (bytesOf "http://169.254.169.254/latest/") }
  else .ok { status := 200, location := .absent }
def metaJ : JoinFn := fun _ _ _ => .ok metaUri

/-- **Redirect targets are classified at every site except the remote signer**, whose HTTP client
follows redirects by itself. -/
theorem site_never_internal_iff (site : Site) :
    SiteNeverRedirectsToInternal site ↔ site ≠ .remoteSigner := by
  constructor
  · intro h hs
    subst hs
    have := h metaT metaJ none true loopReq { loopReq with uri := metaUri }
      (by unfold metaT metaJ loopReq loopUri metaUri bytesOf; decide_run)
    revert this; unfold metaUri bytesOf; decide_run
  · intro hs t join allowed redirects req
    cases site with
    | contextResolver => exact redirects_never_reach_internal t join allowed redirects req
    | signerTimestamp => exact redirects_never_reach_internal t join none true req
    | remoteSigner => exact absurd rfl hs

/-- **`allow_redirects = false` is honoured only through the Context resolver**: the signer's
default time-stamp request runs under a default-settings Context (redirects on), the remote signer
under a client that follows by itself. -/
theorem site_honours_disabled_iff (site : Site) : SiteHonoursDisabled site ↔ site = .contextResolver := by
  constructor
  · intro h
    cases site with
    | contextResolver => rfl
    | signerTimestamp =>
      have := h loopTransport loopJoin none loopReq
      revert this; decide +kernel
    | remoteSigner =>
      have := h loopTransport loopJoin none loopReq
      revert this; decide +kernel
  · rintro rfl t join allowed req
    exact (disabled_refuses_all t join allowed req).1

theorem every_site_guards_redirects_false : ¬ EverySiteGuardsRedirects := by
  intro h
  have := (site_honours_disabled_iff .signerTimestamp).1 (h .signerTimestamp).2
  cases this

/-- What remains true of the full statement `EverySiteGuardsRedirects`: the Context-resolver site
satisfies both clauses, and the signer's time-stamp site the first. -/
theorem every_site_guards_redirects_partial :
    (SiteNeverRedirectsToInternal .contextResolver ∧ SiteHonoursDisabled .contextResolver) ∧
    SiteNeverRedirectsToInternal .signerTimestamp :=
  ⟨⟨(site_never_internal_iff _).2 (by decide), (site_honours_disabled_iff _).2 rfl⟩,
   (site_never_internal_iff _).2 (by decide)⟩

/-- The one client that follows redirects natively is the remote signer's: generated from sdk/src on
every run (`with_redirects()` outside sdk/src/http) and compared here; the default-settings Contexts
are listed in `C2pa.C26.request_sites_pinned`. -/
theorem native_redirect_clients_pinned :
    C28.Gen.nativeRedirectClients = [("settings/signer.rs", "sign")] := by decide +kernel

end C2pa.C27
