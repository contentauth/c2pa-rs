import C2paModel.Model.C02
import C2paModel.Lemmas.C02A
import C2paModel.Lemmas.C02Walk
import C2paModel.Lemmas.C18Base
/-
C02 — tamper evidence of the manifest store. The statement (properties.jsonl):

  For any signed asset or manifest store, any modification of the embedded manifest store bytes
  (claim, assertions, signature, databoxes, and every ingredient/parent manifest in the same
  store) either makes reading fail, makes the validation state Invalid, or leaves the reported
  manifest content, signature information and validation codes exactly as before. A changed
  claim, assertion payload or signature is never reported Valid or Trusted.

Layer A theorems are about the model of the comparisons of `verify_claim` / `verify_internal` /
`ingredient_checks` (Model/C02.lean), which the correspondence run ties to the code at function
level (`verify` requests: a real, possibly tampered store is described to the model and the
model's failure list is compared with the log of the real `Store::verify_store`). Idealisations:
**Sig-free** (`Sig`), **H-free** (`pre` fields, `Pre`).

* `verifyClaim_nil_iff` (Lemmas/C02A) — a claim verification logs nothing **iff** the signature
  was made over exactly these claim bytes, every hashed URI is in this manifest and is either
  redacted (same manifest, label *and* instance) or equals the first box of its key, and the
  tracking multiset is used up.
* `every_assertion_bound` — under distinct (label, instance) of the hashed URIs of the (signed)
  claim, *every* assertion box present is bound to one of them. `duplicate_uri_unbound` is the
  counter-example without the hypothesis; `duplicate_box_detected` says a box is reported as soon
  as its key has more boxes than hashed URIs.
* `changed_assertion_detected` / `sibling_instance_still_bound` — a changed body of a declared,
  not redacted (label, instance) is always reported, whatever is redacted for *other* instances
  of the same label.
* `claim_binds`, `assertions_determined`, `ref_binds` — two manifests that verify under the same
  signature value have equal claims, equal assertion boxes (up to redacted keys), and their
  ingredient references pin the referenced claims (under the three provisos of `ref_binds`).
* `walk_sound` + `chain_binds` — store level, reference paths of any length.

Layer B theorems (`uncovered_fields_enumerated`, `boxSegs_contig`, `classify_total`,
`sigPad_only_in_active_signature`, `sigSpan_in_active`) are about the byte classifier that the correspondence run
compares with the reader on every byte of real stores.

`order_not_covered` records what the code does *not* bind: the order of assertion boxes inside
the active manifest (known finding `edit-accepted-changed-report:assertion-swap`).
-/
namespace C2pa.C02
open C2pa.C18

/-! ### layer A: one claim -/

/-- If the verification of a claim logs nothing and the hashed URIs
of the claim (decoded from the signed claim bytes) have distinct (label, instance), then every
assertion box present in the assertion store has a hashed URI of its own (label, instance), and
either exactly that (label, instance) of this manifest is redacted or the box body equals the
preimage of the URI's digest. -/
theorem every_assertion_bound (dec : Dec) (reds : List Redaction) (m : Manifest)
    (h : (verifyClaim dec reds m).log = [])
    (hnd : ((dec.decl m.claim).map (·.key)).Nodup) :
    ∀ a ∈ m.assertions, ∃ hu ∈ dec.decl m.claim, hu.key = a.key ∧
      (redactedBy reds m.label a.key = true ∨ a.body = hu.pre) := by
  obtain ⟨_, huri, htrack⟩ := (verifyClaim_nil_iff dec reds m).1 h
  intro a ha
  -- counting boxes and URIs of the key of `a`: the tracking list ends empty, so there are at most as
  -- many boxes as URIs (`cnt_track_eq`), and at most one URI (`hnd`): `a` is the only box of its key,
  -- hence the first one, which is the one the URI was compared with
  have h1 : 1 ≤ cnt a.key m.assertions := cnt_pos_iff.2 ⟨a, ha, rfl⟩
  have h2 : cnt a.key m.assertions ≤ ucnt a.key (dec.decl m.claim) := by
    have := cnt_track_eq a.key (dec.decl m.claim) m.assertions
    rw [htrack, cnt] at this
    omega
  have h3 : ucnt a.key (dec.decl m.claim) ≤ 1 := ucnt_le_one hnd
  have h4 : 1 ≤ ucnt a.key (dec.decl m.claim) := by omega
  obtain ⟨hu, hmem, hk, _⟩ := ucnt_pos_iff.1 h4
  refine ⟨hu, hmem, hk, ?_⟩
  obtain ⟨_, _, hor⟩ := huri hu hmem
  rcases hor with hr | ⟨a', hf, hb⟩
  · left; rw [← hk]; exact hr
  · right
    have hc : cnt hu.key m.assertions ≤ 1 := by rw [hk]; omega
    have : a = a' := eq_findBox_of_cnt_le_one hf ha hk.symm hc
    rw [this]; exact hb

/-- a box is reported as undeclared as soon as there are more boxes of its (label, instance)
than hashed URIs of that (label, instance): the multiset reading of `ca_tracking_list` -/
theorem duplicate_box_detected (dec : Dec) (reds : List Redaction) (m : Manifest) (k : Key)
    (hc : ucnt k (dec.decl m.claim) < cnt k m.assertions) :
    Failure.assertionUndeclared m.label k ∈ (verifyClaim dec reds m).log ∧
      (verifyClaim dec reds m).stop = true := by
  have h2 := cnt_track_eq k (dec.decl m.claim) m.assertions
  obtain ⟨a, ha, hk⟩ := cnt_pos_iff.1 (show 1 ≤ cnt k (track (dec.decl m.claim) m.assertions) by omega)
  constructor
  · unfold verifyClaim
    apply List.mem_append_right
    exact List.mem_map.2 ⟨a, ha, by rw [hk]⟩
  · rw [verifyClaim_stop_iff]
    intro h0; rw [h0] at ha; cases ha

/-- an assertion box whose (label, instance) no hashed URI declares is always reported -/
theorem undeclared_detected (dec : Dec) (reds : List Redaction) (m : Manifest) (a : AssertionBox)
    (ha : a ∈ m.assertions) (hn : ∀ hu ∈ dec.decl m.claim, hu.key ≠ a.key) :
    Failure.assertionUndeclared m.label a.key ∈ (verifyClaim dec reds m).log := by
  apply (duplicate_box_detected dec reds m a.key _).1
  have h0 : ¬ 1 ≤ ucnt a.key (dec.decl m.claim) := fun h => by
    obtain ⟨u, hu, hk, _⟩ := ucnt_pos_iff.1 h
    exact hn u hu hk
  have := cnt_pos_iff.2 ⟨a, ha, rfl⟩
  omega

/-- The signature check — and with it the whole claim
verification — never depends on a payload embedded in the COSE_Sign1 of the signature box: two
decoders that agree on everything except the payload slot of the signature give the same result,
and a claim that differs from the signed bytes is reported whatever the payload slot holds (in
particular when it holds exactly the signed bytes). -/
theorem sig_check_ignores_embedded_payload (dec dec' : Dec) (reds : List Redaction) (m : Manifest)
    (hk : ∀ b, (dec.sigOf b).key = (dec'.sigOf b).key ∧ (dec.sigOf b).signed = (dec'.sigOf b).signed)
    (hd : dec.decl = dec'.decl) :
    verifyClaim dec reds m = verifyClaim dec' reds m ∧
    ((dec.sigOf m.sigBox).signed ≠ m.claim → Failure.sigMismatch m.label ∈ (verifyClaim dec reds m).log) := by
  constructor
  · unfold verifyClaim checkSig payloadUsed
    rw [(hk m.sigBox).2, hd]
  · intro h
    unfold verifyClaim checkSig payloadUsed
    simp [h]

/-- the forged store of the statement: payload slot = the signed bytes, claim changed -/
example : (verifyClaim ⟨fun _ => ⟨1, [7], some [7]⟩, fun _ => [], fun _ => [], fun _ => []⟩ []
    ⟨"m", 2, [8], [], [], []⟩).log = [.sigMismatch "m"] := by decide +kernel

/-- a changed claim under the same signature value is always reported -/
theorem claim_change_detected (dec : Dec) (reds : List Redaction) (m : Manifest)
    (h : (dec.sigOf m.sigBox).signed ≠ m.claim) : (verifyClaim dec reds m).log ≠ [] := by
  intro h0
  exact h ((verifyClaim_nil_iff dec reds m).1 h0).1

/-- A hashed URI of the claim whose exact (label, instance) is
not redacted for this manifest, and whose first box of that key has a body different from the
signed preimage (or is missing), always produces a failure. -/
theorem changed_assertion_detected (dec : Dec) (reds : List Redaction) (m : Manifest) (hu : HashedUri)
    (hmem : hu ∈ dec.decl m.claim) (hr : redactedBy reds m.label hu.key = false)
    (hb : ∀ a, findBox hu.key m.assertions = some a → a.body ≠ hu.pre) :
    (verifyClaim dec reds m).log ≠ [] := by
  intro h0
  obtain ⟨_, _, hor⟩ := ((verifyClaim_nil_iff dec reds m).1 h0).2.1 hu hmem
  rcases hor with h | ⟨a, hf, hbody⟩
  · rw [hr] at h; cases h
  · exact hb a hf hbody

theorem redactedBy_iff (reds : List Redaction) (ml : String) (k : Key) :
    redactedBy reds ml k = true ↔ ∃ r ∈ reds, r.manifest = ml ∧ r.key = k := by
  simp [redactedBy]

/-- Redactions that name *other* instances of a label (or
other manifests) do not switch off the comparison of this instance: if no redaction names this
manifest with this label and this instance, a changed body of `label__inst` is reported. -/
theorem sibling_instance_still_bound (dec : Dec) (reds : List Redaction) (m : Manifest) (hu : HashedUri)
    (hmem : hu ∈ dec.decl m.claim)
    (hother : ∀ r ∈ reds, r.manifest = m.label → r.key.label = hu.key.label → r.key.inst ≠ hu.key.inst)
    (hb : ∀ a, findBox hu.key m.assertions = some a → a.body ≠ hu.pre) :
    (verifyClaim dec reds m).log ≠ [] := by
  apply changed_assertion_detected dec reds m hu hmem _ hb
  cases hr : redactedBy reds m.label hu.key with
  | false => rfl
  | true =>
    obtain ⟨r, hrm, h1, h2⟩ := (redactedBy_iff reds m.label hu.key).1 hr
    exact absurd (congrArg Key.inst h2) (hother r hrm h1 (congrArg Key.label h2))

/-- Two manifests (in any two stores, under any redaction lists) that verify
without failure and carry the same signature value have equal claim bytes. -/
theorem claim_binds (dec : Dec) (reds reds' : List Redaction) (m m' : Manifest)
    (hv : (verifyClaim dec reds m).log = []) (hv' : (verifyClaim dec reds' m').log = [])
    (hsig : dec.sigOf m.sigBox = dec.sigOf m'.sigBox) : m.claim = m'.claim := by
  have h1 := ((verifyClaim_nil_iff dec reds m).1 hv).1
  have h1' := ((verifyClaim_nil_iff dec reds' m').1 hv').1
  rw [← h1, ← h1', hsig]

/-- Two manifests as in `claim_binds`: when the hashed URIs of their claim have distinct
(label, instance), every assertion box of the one whose key is redacted on neither side is an
assertion box of the other (same key, same body): the assertion stores agree except for redacted
keys. -/
theorem assertions_determined (dec : Dec) (reds reds' : List Redaction) (m m' : Manifest)
    (hv : (verifyClaim dec reds m).log = []) (hv' : (verifyClaim dec reds' m').log = [])
    (hsig : dec.sigOf m.sigBox = dec.sigOf m'.sigBox)
    (hnd : ((dec.decl m.claim).map (·.key)).Nodup) :
    ∀ a ∈ m.assertions, redactedBy reds m.label a.key = false →
      redactedBy reds' m'.label a.key = false → a ∈ m'.assertions := by
  intro a ha hr hr'
  have hc := claim_binds dec reds reds' m m' hv hv' hsig
  obtain ⟨hu, hmem, hk, hor⟩ := every_assertion_bound dec reds m hv hnd a ha
  have hbody : a.body = hu.pre := by
    rcases hor with h | h
    · rw [hr] at h; cases h
    · exact h
  obtain ⟨_, _, hor'⟩ := ((verifyClaim_nil_iff dec reds' m').1 hv').2.1 hu (by rw [← hc]; exact hmem)
  rcases hor' with h | ⟨a', hf, hb⟩
  · rw [hk, hr'] at h; cases h
  · obtain ⟨hm', hk'⟩ := findBox_some hf
    have : a = a' := by
      cases a; cases a'
      simp only [AssertionBox.mk.injEq]
      exact ⟨by simpa using (hk.symm.trans hk'.symm), by simpa using (hbody.trans hb.symm)⟩
    rw [this]; exact hm'

/-! #### witnesses: the hypotheses of the theorems above are met -/

/-- the claim bytes `[7]`, signed as they are, declare `a__0` with preimage `[1]` and `b__0` with `[2]` -/
def exDec : Dec :=
  ⟨fun _ => ⟨1, [7], none⟩, fun _ => [⟨.relative, ⟨"a", 0⟩, [1]⟩, ⟨.relative, ⟨"b", 0⟩, [2]⟩], fun _ => [], fun _ => []⟩
def exM (as : List AssertionBox) : Manifest := ⟨"m", 2, [7], [], as, []⟩

/-- non-vacuity of `every_assertion_bound` / `assertions_determined` / `claim_binds` -/
example : (verifyClaim exDec [] (exM [⟨⟨"a", 0⟩, [1]⟩, ⟨⟨"b", 0⟩, [2]⟩])).log = [] ∧
    ((exDec.decl (exM []).claim).map (·.key)).Nodup := by decide +kernel

/-- redaction of instance 1 of a label, and a changed instance 2 of the same label: reported
(non-vacuity of `sibling_instance_still_bound`) -/
example : (verifyClaim
    ⟨fun _ => ⟨1, [7], none⟩, fun _ => [⟨.relative, ⟨"n", 1⟩, [1]⟩, ⟨.relative, ⟨"n", 2⟩, [2]⟩], fun _ => [], fun _ => []⟩
    [⟨"self#jumbf=/c2pa/m/c2pa.assertions/n__1", "m", ⟨"n", 1⟩⟩]
    (exM [⟨⟨"n", 1⟩, [0]⟩, ⟨⟨"n", 2⟩, [9]⟩])).log = [.assertionMismatch "m" ⟨"n", 2⟩] := by decide +kernel
/-- the redacted instance `n__1` itself may carry anything -/
example : (verifyClaim
    ⟨fun _ => ⟨1, [7], none⟩, fun _ => [⟨.relative, ⟨"n", 1⟩, [1]⟩, ⟨.relative, ⟨"n", 2⟩, [2]⟩], fun _ => [], fun _ => []⟩
    [⟨"self#jumbf=/c2pa/m/c2pa.assertions/n__1", "m", ⟨"n", 1⟩⟩]
    (exM [⟨⟨"n", 1⟩, [0]⟩, ⟨⟨"n", 2⟩, [2]⟩])).log = [] := by decide +kernel

/-! ### layer A: one ingredient reference -/

/-- a reference is *consistent* when its two digests were taken from the same manifest: the
`claimSignature` preimage is the signature box of the `activeManifest` preimage. (Both are
written by the signer of the referencing claim and covered by that claim's signature.) -/
def IngRef.Consistent (r : IngRef) : Prop :=
  ∀ b sg, r.manifestPre = .box b → r.sigPre = some sg → b.sigBox = sg

/-- One reference `r` (a value decoded from a bound assertion body), followed in
two stores to manifests `t` and `t'` that pass the hash comparisons of `ingredient_checks` and
verify themselves: the two manifests have equal claims — provided `r` is consistent, no v1
claim is mentioned by a redaction (for those nothing is compared: `v1_redacted_unbound`), and a
legacy (claim-hash) `r` is looked at under the same "mentioned by a redaction" flag in both stores
(`hmix`). -/
theorem ref_binds (dec : Dec) (reds reds' : List Redaction) (r : IngRef) (t t' : Manifest)
    (hc : r.Consistent)
    (h : (refFailures reds r t).log = []) (h' : (refFailures reds' r t').log = [])
    (hv : (verifyClaim dec reds t).log = []) (hv' : (verifyClaim dec reds' t').log = [])
    (h1 : hasRed reds r.target = true → t.version > 1)
    (h1' : hasRed reds' r.target = true → t'.version > 1)
    (hmix : hasRed reds r.target = hasRed reds' r.target ∨ ∃ b, r.manifestPre = .box b) :
    t.claim = t'.claim := by
  obtain ⟨hA, hB⟩ := refFailures_log_nil h
  obtain ⟨hA', hB'⟩ := refFailures_log_nil h'
  -- compared by manifest hash in the one store and by signature hash in the other: `hmix` says the
  -- manifest hash is that of a manifest box, and a consistent reference pins its signature box
  have mixed : ∀ {u u' : Manifest}, (r.manifestPre = .box u.body ∨ r.manifestPre = .claim u.claim) →
      r.sigPre = some u'.sigBox → (∃ b, r.manifestPre = .box b) → u.sigBox = u'.sigBox := by
    rintro u u' (e | e) e' ⟨b, hb⟩
    · exact hc u.body _ e e'
    · rw [hb] at e; cases e
  have claim_or_sig : t.claim = t'.claim ∨ t.sigBox = t'.sigBox := by
    cases hr : hasRed reds r.target <;> cases hr' : hasRed reds' r.target
    · left
      rcases hA hr with e | e <;> rcases hA' hr' with e' | e' <;> rw [e] at e'
      · exact congrArg Body.claim (Pre.box.inj e')
      · cases e'
      · cases e'
      · exact Pre.claim.inj e'
    · exact .inr (mixed (hA hr) (hB' hr' (h1' hr')) (hmix.resolve_left (by rw [hr, hr']; decide)))
    · exact .inr (mixed (hA' hr') (hB hr (h1 hr)) (hmix.resolve_left (by rw [hr, hr']; decide))).symm
    · exact .inr (Option.some.inj ((hB hr (h1 hr)).symm.trans (hB' hr' (h1' hr'))))
  exact claim_or_sig.elim id fun hs => claim_binds dec reds reds' t t' hv hv' (by rw [hs])

/-! ### layer A: the whole store, reference paths of any length -/

/-- pairs of manifests reached from the two active manifests along the same references (the
reference sits in an assertion box present in both) -/
inductive Linked (dec : Dec) (s s' : List Manifest) (root root' : Manifest) : Manifest → Manifest → Prop
  | root : Linked dec s s' root root' root root'
  | step {m m' t t' : Manifest} {a : AssertionBox} {r : IngRef} :
      Linked dec s s' root root' m m' → a ∈ m.assertions → a ∈ m'.assertions →
      r ∈ dec.refs a.body → r.zero = false →
      findManifest r.target s = some t → findManifest r.target s' = some t' →
      Linked dec s s' root root' t t'

theorem mem_allRefs {dec : Dec} {m : Manifest} {a : AssertionBox} {r : IngRef}
    (ha : a ∈ m.assertions) (hr : r ∈ dec.refs a.body) (hz : r.zero = false) : r ∈ allRefs dec m := by
  unfold allRefs
  rw [List.mem_filter]
  exact ⟨List.mem_flatMap.2 ⟨a, ha, hr⟩, by simp [hz]⟩

/-- Two stores whose verification logs nothing and does not stop, with the
same signature value on the active manifests: along every path of ingredient references, of any
length, the manifests reached in the two stores are reachable (`Reach`; so, by `walk_sound`, they
have been verified) and have equal claim bytes (hence, by `assertions_determined`, equal assertion
boxes up to redacted keys, which is what the next step of the path needs). Hypotheses on the signed
data: references are consistent (`IngRef.Consistent`); no v1 claim is mentioned by a redaction
(`v1_redacted_unbound` shows that nothing is compared for those); a legacy (claim-hash) reference is
looked at under the same "mentioned by a redaction" flag in both stores. -/
theorem chain_binds (dec : Dec) (s s' : List Manifest) (reds reds' : List Redaction)
    (root root' : Manifest)
    (hroot : findManifest root.label s = some root) (hroot' : findManifest root'.label s' = some root')
    (hok : verifyStoreWith dec s reds root = ⟨[], false⟩)
    (hok' : verifyStoreWith dec s' reds' root' = ⟨[], false⟩)
    (hsig : dec.sigOf root.sigBox = dec.sigOf root'.sigBox)
    (hcons : ∀ b, ∀ r ∈ dec.refs b, r.Consistent)
    (hv1 : ∀ t ∈ s, hasRed reds t.label = true → t.version > 1)
    (hv1' : ∀ t ∈ s', hasRed reds' t.label = true → t.version > 1)
    (hmix : ∀ b, ∀ r ∈ dec.refs b,
      hasRed reds r.target = hasRed reds' r.target ∨ ∃ bx, r.manifestPre = .box bx) :
    ∀ t t', Linked dec s s' root root' t t' →
      Reach dec s root t ∧ Reach dec s' root' t' ∧ t.claim = t'.claim := by
  have ws := walk_sound dec s reds root hroot hok
  have ws' := walk_sound dec s' reds' root' hroot' hok'
  intro t t' hl
  induction hl with
  | root =>
    exact ⟨.root, .root, claim_binds dec reds reds' root root' (ws root .root).1 (ws' root' .root).1 hsig⟩
  | @step m m' t t' a r _ ha ha' hr hz hf hf' ih =>
    obtain ⟨hm, hm', _⟩ := ih
    have hr1 := mem_allRefs (dec := dec) ha hr hz
    have hr2 := mem_allRefs (dec := dec) ha' hr hz
    have rt : Reach dec s root t := .step hm hr1 hf
    have rt' : Reach dec s' root' t' := .step hm' hr2 hf'
    have hrf := (((ws m hm).2 r hr1).of_found hf).1
    have hrf' := (((ws' m' hm').2 r hr2).of_found hf').1
    obtain ⟨hin, hlab⟩ := findManifest_some hf
    obtain ⟨hin', hlab'⟩ := findManifest_some hf'
    refine ⟨rt, rt', ?_⟩
    exact ref_binds dec reds reds' r t t' (hcons _ r hr) hrf hrf' (ws t rt).1 (ws' t' rt').1
      (fun h => hv1 t hin (by rw [hlab]; exact h)) (fun h => hv1' t' hin' (by rw [hlab']; exact h))
      (hmix _ r hr)

/-- `chain_binds` for `verifyStore` (redactions collected from the reachable claims, as the code does) -/
theorem chain_binds_store (dec : Dec) (s s' : List Manifest) (root root' : Manifest)
    (hroot : findManifest root.label s = some root) (hroot' : findManifest root'.label s' = some root')
    (hok : verifyStore dec s root = ⟨[], false⟩) (hok' : verifyStore dec s' root' = ⟨[], false⟩)
    (hsig : dec.sigOf root.sigBox = dec.sigOf root'.sigBox)
    (hcons : ∀ b, ∀ r ∈ dec.refs b, r.Consistent)
    (hv1 : ∀ t ∈ s, hasRed (storeReds dec s root) t.label = true → t.version > 1)
    (hv1' : ∀ t ∈ s', hasRed (storeReds dec s' root') t.label = true → t.version > 1)
    (hmix : ∀ b, ∀ r ∈ dec.refs b,
      hasRed (storeReds dec s root) r.target = hasRed (storeReds dec s' root') r.target ∨
        ∃ bx, r.manifestPre = .box bx) :
    ∀ t t', Linked dec s s' root root' t t' → t.claim = t'.claim :=
  fun t t' hl => (chain_binds dec s s' _ _ root root' hroot hroot' hok hok' hsig hcons hv1 hv1' hmix t t' hl).2.2

/-! ### what layer A does not bind -/

/-- For a referenced v1 claim whose label is mentioned by a redaction
the hash comparisons of `ingredient_checks` compare nothing: any manifest passes them. -/
theorem v1_redacted_unbound (reds : List Redaction) (r : IngRef) (t : Manifest)
    (hr : hasRed reds r.target = true) (hv : t.version ≤ 1) : refFailures reds r t = ⟨[], false⟩ := by
  unfold refFailures
  have : ¬ t.version > 1 := by omega
  simp [hr, this]

/-- the same boxes in a different order verify just as well (the reader
reports ingredients in box order: known finding). -/
theorem order_not_covered :
    verifyClaim exDec [] (exM [⟨⟨"a", 0⟩, [1]⟩, ⟨⟨"b", 0⟩, [2]⟩]) = ⟨[], false⟩ ∧
    verifyClaim exDec [] (exM [⟨⟨"b", 0⟩, [2]⟩, ⟨⟨"a", 0⟩, [1]⟩]) = ⟨[], false⟩ := by
  constructor <;> decide +kernel

example : verifyClaim exDec [] (exM [⟨⟨"a", 0⟩, [1]⟩, ⟨⟨"b", 0⟩, [3]⟩]) =
    ⟨[.assertionMismatch "m" ⟨"b", 0⟩], false⟩ := by decide +kernel
example : verifyClaim exDec [] (exM [⟨⟨"a", 0⟩, [1]⟩, ⟨⟨"b", 0⟩, [2]⟩, ⟨⟨"c", 0⟩, [2]⟩]) =
    ⟨[.assertionUndeclared "m" ⟨"c", 0⟩], true⟩ := by decide +kernel
/-- a second box with a declared key and another body: reported (the code's multiset tracking) -/
example : verifyClaim exDec [] (exM [⟨⟨"a", 0⟩, [1]⟩, ⟨⟨"b", 0⟩, [2]⟩, ⟨⟨"b", 0⟩, [9]⟩]) =
    ⟨[.assertionUndeclared "m" ⟨"b", 0⟩], true⟩ := by decide +kernel

/-- hashed URIs with a repeated (label, instance) -/
def dupDec : Dec :=
  ⟨fun _ => ⟨1, [7], none⟩, fun _ => [⟨.relative, ⟨"a", 0⟩, [1]⟩, ⟨.relative, ⟨"a", 0⟩, [1]⟩], fun _ => [], fun _ => []⟩

/-- without the distinctness hypothesis `every_assertion_bound`
fails — a claim that lists the same (label, instance) twice lets a second box of that key with
any body pass (each URI takes one box off the tracking list, both compare the *first* box). The
claim is signed, so this needs a signer that emits such a claim; the SDK's builder never does. -/
theorem duplicate_uri_unbound :
    verifyClaim dupDec [] (exM [⟨⟨"a", 0⟩, [1]⟩, ⟨⟨"a", 0⟩, [9]⟩]) = ⟨[], false⟩ ∧
    ¬ ∃ hu ∈ dupDec.decl [7], hu.key = ⟨"a", 0⟩ ∧ ([9] : Bytes) = hu.pre := by
  constructor
  · decide +kernel
  · decide +kernel

/-! ### layer B: the classifier -/

/-- the classes for which an accepted read with an unchanged
report is a permitted outcome are exactly these nine; for every other class the only permitted
outcome of a change is detection. -/
theorem uncovered_fields_enumerated (c : Cls) :
    (c.free = true ↔ c = .lbox ∨ c = .toggles ∨ c = .rootLabel ∨ c = .claimVersion ∨ c = .sigPad ∨
      c = .dataUuid ∨ c = .credLabel ∨ c = .bfdbToggles ∨ c = .cborStrHead) ∧
    (c.free = false → ∀ o, allowed c o = true → o = 'd' ∨ o = '-') := by
  constructor
  · cases c <;> simp [Cls.free]
  · intro hf o ha
    unfold allowed at ha
    rw [hf] at ha
    simp at ha
    rcases ha with h | h
    · exact Or.inr h
    · exact Or.inl h

/-- the segments follow one another from `a` to `b` without gap or overlap -/
def Contig : List Seg → Nat → Nat → Prop
  | [], a, b => a = b
  | s :: ss, a, b => s.start = a ∧ Contig ss (a + s.len) b

/-- `Contig` together with a property of every class handed out, so that one walk of the segment
functions gives both -/
def Tiles (P : Cls → Prop) : List Seg → Nat → Nat → Prop
  | [], a, b => a = b
  | s :: ss, a, b => s.start = a ∧ P s.cls ∧ Tiles P ss (a + s.len) b

theorem Tiles.append {P : Cls → Prop} : ∀ {l l' : List Seg} {a m b : Nat}, Tiles P l a m → Tiles P l' m b →
    Tiles P (l ++ l') a b
  | [], _, _, _, _, h, h' => by cases h; exact h'
  | _ :: _, _, _, _, _, ⟨h1, h2, h3⟩, h' => ⟨h1, h2, h3.append h'⟩

theorem Tiles.contig {P : Cls → Prop} : ∀ {l : List Seg} {a b : Nat}, Tiles P l a b → Contig l a b
  | [], _, _, h => h
  | _ :: _, _, _, ⟨h1, _, h3⟩ => ⟨h1, h3.contig⟩

theorem Tiles.all {P : Cls → Prop} : ∀ {l : List Seg} {a b : Nat}, Tiles P l a b → ∀ s ∈ l, P s.cls
  | _ :: _, _, _, ⟨_, h2, h3⟩, s, hs => by
    rcases List.mem_cons.1 hs with rfl | h
    · exact h2
    · exact h3.all s h

/-- the classes the tree layout hands out: `sigPad` is given by `classifyWith` only -/
abbrev NotSigPad (c : Cls) : Prop := c ≠ .sigPad

theorem labelSegs_tiles (root cred : Bool) (off : Nat) (label : Bytes) :
    Tiles NotSigPad (labelSegs root cred off label) off (off + labelLen label) := by
  unfold labelSegs labelLen
  by_cases h : strNonEmpty label = true
  · rw [if_pos h, if_pos h]
    refine Tiles.append (m := off + label.length) ?_ ⟨rfl, nofun, rfl⟩
    by_cases hr : root = true
    · rw [if_pos hr]; exact ⟨rfl, nofun, rfl⟩
    · rw [if_neg hr]
      by_cases hd : cred = true
      · rw [if_pos hd]; exact ⟨rfl, nofun, rfl⟩
      · rw [if_neg hd]
        by_cases hc : claimPrefix.isPrefixOf label = true
        · have := (List.isPrefixOf_iff_prefix.1 hc).length_le
          rw [if_pos hc]
          -- `dsimp only` reduces the projections of the `Seg` literals, which `omega` takes for atoms
          exact ⟨rfl, nofun, rfl, nofun, by show _ + _ + _ = _; dsimp only; omega⟩
        · rw [if_neg hc]; exact ⟨rfl, nofun, rfl⟩
  · rw [if_neg h, if_neg h]; rfl

theorem descSegs_tiles (ctx : Ctx) (off : Nat) (d : Desc) :
    Tiles NotSigPad (descSegs ctx off d) off (off + (8 + (descPayload d).length)) := by
  unfold descSegs
  refine ⟨rfl, nofun, rfl, by dsimp only; split <;> nofun, rfl, nofun, ?_⟩
  refine (labelSegs_tiles _ _ _ d.label).append ?_
  rw [descPayload_length, ← labelLen]
  cases d.boxId <;> cases d.salt <;>
    simp only [Tiles, NotSigPad, ne_eq, reduceCtorEq, not_false_eq_true, idBytes, saltBytes, serSalt,
      List.length_append, be32_length, List.length_nil, true_and] <;> omega

mutual
theorem boxSegs_tiles (ctx : Ctx) (off : Nat) : (b : Box) →
    Tiles NotSigPad (boxSegs ctx off b) off (off + b.size)
  | .super d cs => by
    unfold boxSegs Box.size
    refine ⟨rfl, nofun, rfl, nofun, ((descSegs_tiles ctx (off + 8) d).append ?_)⟩
    have := listSegs_tiles (childCtx ctx d.label) (off + 8 + (8 + (descPayload d).length)) cs
    rwa [show off + 8 + (8 + (descPayload d).length) + sizeList cs =
      off + (8 + (8 + (descPayload d).length) + sizeList cs) by omega] at this
  | .leaf _ data => by
    unfold boxSegs Box.size
    refine ⟨rfl, nofun, rfl, nofun, rfl, by dsimp only; split <;> nofun, ?_⟩
    show _ = _; dsimp only; omega
  | .uuid u data => by
    unfold boxSegs Box.size
    refine ⟨rfl, nofun, rfl, nofun, rfl, nofun, ?_⟩
    show _ = _; dsimp only; omega
  | .bfdb t m _ => by
    unfold boxSegs Box.size
    have : (bfdbPayload t m).length ≥ 1 := by simp [bfdbPayload]
    refine ⟨rfl, nofun, rfl, nofun, rfl, nofun, rfl, nofun, ?_⟩
    show _ = _; dsimp only; omega
theorem listSegs_tiles (ctx : Ctx) (off : Nat) : (bs : List Box) →
    Tiles NotSigPad (listSegs ctx off bs) off (off + sizeList bs)
  | [] => rfl
  | b :: bs => by
    unfold listSegs sizeList
    refine (boxSegs_tiles ctx off b).append ?_
    have := listSegs_tiles ctx (off + b.size) bs
    rwa [Nat.add_assoc] at this
end

theorem boxSegs_contig (ctx : Ctx) (off : Nat) : (b : Box) →
    Contig (boxSegs ctx off b) off (off + b.size)
  := fun b => (boxSegs_tiles ctx off b).contig
theorem listSegs_contig (ctx : Ctx) (off : Nat) : (bs : List Box) →
    Contig (listSegs ctx off bs) off (off + sizeList bs)
  := fun bs => (listSegs_tiles ctx off bs).contig
theorem listSegs_no_sigPad (ctx : Ctx) (off : Nat) : (bs : List Box) →
    ∀ s ∈ listSegs ctx off bs, s.cls ≠ .sigPad
  := fun bs => (listSegs_tiles ctx off bs).all

theorem contig_cover : ∀ {l : List Seg} {a b : Nat}, Contig l a b → ∀ p, a ≤ p → p < b →
    ∃ s ∈ l, s.start ≤ p ∧ p < s.start + s.len
  | [], a, b, h, p, h1, h2 => by
    have : a = b := h
    omega
  | s :: ss, a, b, h, p, h1, h2 => by
    obtain ⟨hs, hr⟩ := h
    by_cases hp : p < a + s.len
    · exact ⟨s, List.mem_cons_self .., by omega, by omega⟩
    · obtain ⟨t, ht, h3⟩ := contig_cover hr p (by omega) h2
      exact ⟨t, List.mem_cons_of_mem _ ht, h3⟩

theorem clsAt_eq_find? (segs : List Seg) (p : Nat) :
    clsAt segs p = (segs.find? fun s => decide (s.start ≤ p) && decide (p < s.start + s.len)).map (·.cls) := by
  unfold clsAt
  cases segs.find? _ <;> rfl

/-- the tree layout `boxSegs .root 0 t` gives every byte position of the serialised store a class
(`clsAt`; `classify` only refines the content classes on top of it, `other => other`) -/
theorem classify_total (t : Box) (p : Nat) (hp : p < t.size) :
    (clsAt (boxSegs .root 0 t) p).isSome = true := by
  obtain ⟨s, hs, h1, h2⟩ := contig_cover (boxSegs_contig .root 0 t) p (Nat.zero_le _) (by omega)
  rw [clsAt_eq_find?, Option.isSome_map, List.find?_isSome]
  exact ⟨s, hs, by simp [h1, h2]⟩

/-! #### the pad locator cannot widen the free bytes beyond the active signature box -/

/-- stated over any segment list that hands out no `sigPad`: the tree's, or the filtered one `coverReply` uses -/
theorem sigPad_only_in_span (segs : List Seg) (sp : Option (Nat × Nat)) (pads : List (Nat × Nat))
    (heads : List Nat) (p : Nat) (hseg : ∀ s ∈ segs, s.cls ≠ .sigPad)
    (h : classifyWith segs sp pads heads p = some .sigPad) :
    inSpan sp p = true ∧ clsAt segs p = some .content ∧ inRanges pads p = true := by
  have hne : clsAt segs p ≠ some .sigPad := by
    rw [clsAt_eq_find?]
    intro h
    obtain ⟨s, hf, hc⟩ := Option.map_eq_some_iff.1 h
    exact hseg s (List.mem_of_find?_eq_some hf) hc
  unfold classifyWith at h
  split at h
  · split at h
    · rename_i hc hi
      rw [Bool.and_eq_true] at hi
      exact ⟨hi.1, hc, hi.2⟩
    · cases h
  · split at h <;> cases h
  · exact absurd h hne

/-- a byte is classified `sigPad` only if it is a content
byte, lies in a pad range handed in by the harness *and* lies inside the `c2pa.signature` box of
the active manifest (`sigSpan`, located by the model on the parsed tree). -/
theorem sigPad_only_in_active_signature (t : Box) (pads : List (Nat × Nat)) (heads : List Nat) (p : Nat)
    (h : classify t pads heads p = some .sigPad) :
    ∃ o n, sigSpan t = some (o, n) ∧ o ≤ p ∧ p < o + n ∧
      clsAt (boxSegs .root 0 t) p = some .content ∧ inRanges pads p = true := by
  obtain ⟨h1, h2, h3⟩ := sigPad_only_in_span _ _ pads heads p (boxSegs_tiles .root 0 t).all h
  unfold inSpan at h1
  split at h1
  · rename_i o n hs
    rw [Bool.and_eq_true, decide_eq_true_eq, decide_eq_true_eq] at h1
    exact ⟨o, n, hs, h1.1, h1.2, h2, h3⟩
  · cases h1

theorem lastChildSpan_eq : ∀ (off : Nat) (cs : List Box),
    lastChildSpan off cs = (lastChild cs).map fun b => (off + sizeList cs.dropLast, b.size)
  | _, [] => rfl
  | _, [_] => rfl
  | off, x :: y :: ys => by
    simp only [lastChildSpan, lastChild, List.dropLast, sizeList, lastChildSpan_eq (off + x.size) (y :: ys),
      Nat.add_assoc]

theorem labelledSpan_bound (l : Bytes) : ∀ {bs : List Box} {off o n : Nat},
    labelledSpan l off bs = some (o, n) → off ≤ o ∧ o + n ≤ off + sizeList bs
  | b :: bs, off, o, n, h => by
    cases b with
    | super d cs =>
      simp only [labelledSpan] at h
      by_cases hl : d.label = l
      · simp only [hl, if_true, Option.some.injEq, Prod.mk.injEq] at h
        simp only [sizeList]
        omega
      · simp only [hl, if_false] at h
        have := labelledSpan_bound l h
        simp only [sizeList]
        omega
    | _ =>
      simp only [labelledSpan] at h
      have := labelledSpan_bound l h
      simp only [sizeList]
      omega

/-- the located signature box lies inside the active manifest -/
theorem sigSpan_in_active (t : Box) (o n : Nat) (h : sigSpan t = some (o, n)) :
    ∃ ao an, activeSpan t = some (ao, an) ∧ ao ≤ o ∧ o + n ≤ ao + an := by
  cases t with
  | super d cs =>
    rw [sigSpan] at h
    split at h
    · next ao an dm parts hs hb =>
      have h2 := labelledSpan_bound signatureLabel h
      refine ⟨ao, an, hs, by omega, ?_⟩
      rw [lastChildSpan_eq, hb] at hs
      obtain ⟨-, rfl⟩ := Prod.mk.inj (Option.some.inj hs)
      simp only [Box.size]
      omega
    · cases h
  | _ => simp [sigSpan] at h

end C2pa.C02
