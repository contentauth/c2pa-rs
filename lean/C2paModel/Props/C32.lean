import C2paModel.Lemmas.C32
/-
C32 — property theorems. The statement (properties.jsonl):

  c2patool never modifies, replaces or deletes an existing file or directory it writes to
  (output file, output folder, sidecar manifest) unless force is requested. Every file it
  reports as signed reads back with a Valid manifest.

The theorems quantify over every configuration (all flag combinations, all paths, all
"facts" about the world: parseable or not, signing succeeds or not, …) and every initial
file system — and over every `Cfg.rho`, the map from path spellings to locations, i.e. over
every aliasing between PATH, `-o` and the sidecar path (`./x`, `sub/../x`, absolute paths,
directory links …). `WF` (an existing entry has an existing parent directory) is the only
assumption on the file system and is needed only for files written *into* a fresh report
folder. "Refusal implies no action" is *not* a theorem: see the section on refusals for the
exact characterisation and the proved counter-example. The second sentence of the statement
is about the SDK's signing and validation and is checked on the implementation by the harness
(read-back of every output); `signed_ok_output_present` is its model-level part: an `ok` outcome
of a signing run means the output (and the sidecar, when asked for) was written by this run.
-/
namespace C2pa.C32

/-- an existing entry below the working directory lies in an existing directory -/
def WF (fs : FS) : Prop := ∀ p, p ≠ [] → fs p ≠ .absent → fs p.dropLast = .dir

/-- the location held nothing before the run -/
def Fresh (fs : FS) (p : Loc) : Prop := fs p = .absent

/-- the output names a folder that the run fills: report / ingredient folder (no manifest
definition) or the destination of the `fragment` sub-command -/
def FolderMode (cfg : Cfg) : Prop := cfg.msrc = .none ∨ ∃ g r, cfg.cmd = .fragment g r

/-- What a run may change. There must *be* a declared output (`-o`); then: the location the
output string leads to; anything inside it when the output is a folder the run fills
(`FolderMode`) — and only then; the sidecar next to the output when `--sidecar` is given;
missing parent directories of the output (which can only be created).
Without `-o` nothing is declared, and in signing mode `-o .` declares the working directory
entry itself, not its content. -/
def Declared (cfg : Cfg) (fs : FS) (p : Loc) : Prop :=
  ∃ output, cfg.output = some output ∧
    (p = cfg.rho output
      ∨ (FolderMode cfg ∧ cfg.rho output <+: p)
      ∨ (cfg.sidecar = true ∧ p = cfg.rho (withExtension output "c2pa"))
      ∨ (p <+: cfg.rho output ∧ fs p = .absent))

theorem fresh_child {fs : FS} (hwf : WF fs) {out : Loc} (n : String) (h : fs out = .absent) :
    fs (out ++ [n]) = .absent := by
  apply Classical.byContradiction
  intro hne
  have := hwf (out ++ [n]) (by simp) hne
  rw [List.dropLast_concat] at this
  rw [h] at this
  cases this

/-- Without `--force` the decision tree keeps `Inv` for "held nothing before the run": every write it
does is behind an existence check of the very location, or goes into a folder that was itself absent
(`fresh_child`, the one place `WF` is needed). -/
theorem runSt_fresh (cfg : Cfg) (fs : FS) (hwf : WF fs) (hf : cfg.force = false) (st : St)
    (h : Inv fs (Fresh fs) st) : Inv fs (Fresh fs) (runSt cfg st).st := by
  have hfne : ¬ cfg.force = true := by rw [hf]; exact Bool.false_ne_true
  have fresh_of : ∀ q, (cfg.force = true ∨ st.fs q = .absent) → Fresh fs q := fun q hq =>
    hq.elim (fun hq => absurd hq hfne) (h.absent_of id)
  rcases runSt_run (rfl : runSt cfg st = _) with
    hs | ⟨path, output, _, _, ⟨_, ⟨g, rs, _, hr⟩ | hr⟩ | ⟨_, hr⟩⟩
  · rw [hs]; exact h
  · rw [hr]; exact (fragBranch_run rfl).inv h (fun _ _ hq => hq) (fun _ _ d _ hd => fresh_of d hd)
  · rw [hr]; exact (signBranch_run rfl).inv h (fresh_of _) (fun _ hs => fresh_of _ hs) (fun _ _ hq => hq)
  · rw [hr]; exact (folderBranch_run rfl).inv h (fun _ _ hq => hq) (fun hh => absurd hh hfne)
      (fun n hq => fresh_child hwf n (fresh_of _ hq))

/-- Forced or not, the decision tree keeps `Inv` for `Declared`: each arm writes to the location of
the output string, below it only when it fills the output as a folder, to the sidecar only with
`--sidecar`, and creates missing ancestors only. -/
theorem runSt_declared (cfg : Cfg) (fs : FS) (st : St)
    (h : Inv fs (Declared cfg fs) st) : Inv fs (Declared cfg fs) (runSt cfg st).st := by
  rcases runSt_run (rfl : runSt cfg st = _) with
    hs | ⟨path, output, _, ho, hr⟩
  · rw [hs]; exact h
  have isOut : Declared cfg fs (cfg.rho output) := ⟨output, ho, .inl rfl⟩
  have inside : FolderMode cfg → ∀ q, cfg.rho output <+: q → Declared cfg fs q :=
    fun hfm q hq => ⟨output, ho, .inr (.inl ⟨hfm, hq⟩)⟩
  have above : ∀ q, q <+: cfg.rho output → fs q = .absent → Declared cfg fs q :=
    fun q hq ha => ⟨output, ho, .inr (.inr (.inr ⟨hq, ha⟩))⟩
  have near : FolderMode cfg → ∀ q, (q <+: cfg.rho output ∨ cfg.rho output <+: q) →
      fs q = .absent → Declared cfg fs q :=
    fun hfm q hq ha => hq.elim (above q · ha) (inside hfm q)
  rcases hr with ⟨_, ⟨g, rs, hcmd, hr⟩ | hr⟩ | ⟨hm, hr⟩
  · have hfm : FolderMode cfg := .inr ⟨g, rs, hcmd⟩
    rw [hr]
    refine (fragBranch_run rfl).inv h (near hfm) fun r _ d hd _ => ?_
    unfold initDest at hd
    split at hd
    · cases hd
    · cases hd
      exact inside hfm _ ⟨_, rfl⟩
  · rw [hr]
    exact (signBranch_run rfl).inv h (fun _ => isOut)
      (fun hs _ => ⟨output, ho, .inr (.inr (.inl ⟨hs, rfl⟩))⟩)
      (fun q hq => above q ((prefixes_prefix _ _ hq).trans (List.dropLast_prefix _)))
  · have hfm : FolderMode cfg := .inl hm
    rw [hr]
    exact (folderBranch_run rfl).inv h (near hfm) (fun _ => inside hfm)
      (fun n _ => inside hfm _ ⟨[n], rfl⟩)

/-- **No clobbering without `--force`**, action form: for every configuration without
`--force` and every file system in which an existing entry has an existing parent (`WF`), every
location touched by any action of the run (file created, overwritten, removed; directory created;
tree removed) held nothing before the run. In particular no pre-existing file or directory is overwritten, removed or replaced —
output file, output folder, sidecar manifest, fragment destinations, the input, bystanders. -/
theorem no_clobber_without_force (cfg : Cfg) (fs : FS) (hwf : WF fs) (hf : cfg.force = false) :
    ∀ a ∈ (run cfg fs).st.acts, ∀ p, a.touches p = true → fs p = .absent :=
  (runSt_fresh cfg fs hwf hf _ (Inv.init fs _)).conf

/-- No clobbering without `--force`, state form (same hypotheses): whatever existed before the run
is still there, unchanged. -/
theorem no_clobber_state (cfg : Cfg) (fs : FS) (hwf : WF fs) (hf : cfg.force = false) :
    ∀ p, fs p ≠ .absent → (run cfg fs).st.fs p = fs p :=
  fun p hp => (runSt_fresh cfg fs hwf hf _ (Inv.init fs _)).agree p hp

/-- The action list is the whole story: the final file system is the initial one with the
actions applied in order (so the theorems about the actions speak about everything the run
did). -/
theorem acts_explain_state (cfg : Cfg) (fs : FS) :
    (run cfg fs).st.fs = applyAll (run cfg fs).st.acts fs :=
  (runSt_declared cfg fs _ (Inv.init fs _)).explain

/-- **`--force` only touches the declared outputs** (and so does a run without it): every
location touched by any action is the output path or inside the output folder, the sidecar
path when `--sidecar` is given, or a missing parent directory of the output. -/
theorem force_only_touches_output (cfg : Cfg) (fs : FS) :
    ∀ a ∈ (run cfg fs).st.acts, ∀ p, a.touches p = true → Declared cfg fs p :=
  (runSt_declared cfg fs _ (Inv.init fs _)).conf

theorem undeclared_untouched (cfg : Cfg) (fs : FS) :
    ∀ p, ¬ Declared cfg fs p → (run cfg fs).st.fs p = fs p :=
  (runSt_declared cfg fs _ (Inv.init fs _)).agree

/-! ### no vacuity through a missing or degenerate `-o` -/

theorem runSt_no_output (cfg : Cfg) (st : St) (h : cfg.output = none) : (runSt cfg st).st = st := by
  rcases runSt_run (rfl : runSt cfg st = _) with hs | ⟨_, _, _, ho, _⟩
  · exact hs
  · rw [h] at ho; cases ho

/-- **A run without `-o` performs no action at all**, whatever the other options and facts
(so `Declared`, which asks for a declared output, is not satisfied by accident). -/
theorem no_output_no_acts (cfg : Cfg) (fs : FS) (h : cfg.output = none) :
    (run cfg fs).st.acts = [] := by
  unfold run
  rw [runSt_no_output cfg _ h]

theorem no_output_state (cfg : Cfg) (fs : FS) (h : cfg.output = none) :
    (run cfg fs).st.fs = fs := by
  unfold run
  rw [runSt_no_output cfg _ h]

/-- **In signing mode only three kinds of location are ever touched** (forced or not): the
location of the output string itself, the requested sidecar, a missing ancestor directory of
the output. In particular `-o .` (location `[]`) does not make the content of the working
directory fair game. -/
theorem sign_mode_touches (cfg : Cfg) (fs : FS) (hfm : ¬ FolderMode cfg) :
    ∀ a ∈ (run cfg fs).st.acts, ∀ p, a.touches p = true →
      cfg.output.isSome = true ∧
      (p = outLoc cfg ∨ (cfg.sidecar = true ∧ p = sidecarLoc cfg)
        ∨ (p <+: outLoc cfg ∧ fs p = .absent)) := by
  intro a ha p hp
  obtain ⟨output, ho, hd⟩ := force_only_touches_output cfg fs a ha p hp
  refine ⟨by simp [ho], ?_⟩
  simp only [outLoc, sidecarLoc, ho, Option.getD_some]
  rcases hd with hd | ⟨hf, _⟩ | hd | hd
  · exact Or.inl hd
  · exact absurd hf hfm
  · exact Or.inr (Or.inl hd)
  · exact Or.inr (Or.inr hd)

/-- never the input, never siblings: an existing entry that is not the location of the output
string, not inside the output folder (folder modes), and not the requested sidecar survives
every run, forced or not — under every aliasing `rho`. -/
theorem bystander_untouched (cfg : Cfg) (fs : FS) (p : Loc) (hex : fs p ≠ .absent)
    (hout : p ≠ outLoc cfg) (hin : FolderMode cfg → ¬ outLoc cfg <+: p)
    (hsc : ¬ (cfg.sidecar = true ∧ p = sidecarLoc cfg)) :
    (run cfg fs).st.fs p = fs p := by
  apply undeclared_untouched
  rintro ⟨output, ho, hd⟩
  simp only [outLoc, sidecarLoc, ho, Option.getD_some] at hout hin hsc
  rcases hd with h | ⟨hf, h⟩ | h | ⟨_, h⟩
  · exact hout h
  · exact hin hf h
  · exact hsc h
  · exact hex h

/-- the input in particular: it survives unless the output string (or the sidecar string)
leads to the very same location, or the input lies inside the output folder. -/
theorem input_untouched (cfg : Cfg) (fs : FS) (path : RawPath) (_hp : cfg.path = some path)
    (hex : fs (cfg.rho path) ≠ .absent) (hout : cfg.rho path ≠ outLoc cfg)
    (hin : FolderMode cfg → ¬ outLoc cfg <+: cfg.rho path)
    (hsc : ¬ (cfg.sidecar = true ∧ cfg.rho path = sidecarLoc cfg)) :
    (run cfg fs).st.fs (cfg.rho path) = fs (cfg.rho path) :=
  bystander_untouched cfg fs _ hex hout hin hsc

/-- An existing output needs `--force`: in signing mode (manifest definition, no `fragment`
sub-command), whatever the state `st` the decision tree is entered in, an output string that
leads to a location holding anything makes the run without `--force` refuse ("Output already
exists", or "Output type must match" when the extensions differ) with the state as it was. -/
theorem existing_output_needs_force (cfg : Cfg) (st : St) (path output : RawPath)
    (hp : cfg.path = some path) (ho : cfg.output = some output) (hm : cfg.msrc ≠ .none)
    (hcmd : ∀ g r, cfg.cmd ≠ .fragment g r) (hearly : cfg.early = false)
    (hsetup : cfg.setupOk = true) (hex : st.fs (cfg.rho output) ≠ .absent)
    (hf : cfg.force = false) :
    ((runSt cfg st).outcome = .exists ∨ (runSt cfg st).outcome = .typeMismatch)
      ∧ (runSt cfg st).st = st := by
  have hpe : pExists cfg st output = true := by
    simp only [pExists, locExists]
    simpa using hex
  have hchk : outputCheck cfg path output st = none := by
    unfold outputCheck
    simp [hpe, hf]
  have hsb : signBranch cfg path output st = ⟨.exists, st⟩
      ∨ signBranch cfg path output st = ⟨.typeMismatch, st⟩ := by
    unfold signBranch
    by_cases hext : extNormal output = extNormal path
    · left; simp [hext, hchk]
    · right; simp [hext]
  have hmne : (cfg.msrc != MSrc.none) = true := by simpa using hm
  have hrun : runSt cfg st = signBranch cfg path output st := by
    unfold runSt
    simp only [hp, ho, hearly, hsetup, hmne]
    cases hc : cfg.cmd with
    | none => simp
    | trust => simp
    | fragment g r => exact absurd hc (hcmd g r)
  rw [hrun]
  rcases hsb with hsb | hsb <;> rw [hsb]
  · exact ⟨Or.inl rfl, rfl⟩
  · exact ⟨Or.inr rfl, rfl⟩

/-- **Signing onto the input needs `--force`, under every alias**: with a manifest
definition, an output string that leads to the location of the input (same spelling,
`./in.jpg`, `sub/../in.jpg`, an absolute path, a path through a directory link, … — any
`rho`) and no `--force`, the run refuses ("Output already exists", or "Output type must
match" when the two spellings differ in their extension) before doing anything — in a signing run
proper: no `fragment` sub-command, none of `--info`/`--certs`/`--tree`, manifest and signer set up. -/
theorem same_path_needs_force (cfg : Cfg) (fs : FS) (path output : RawPath)
    (hp : cfg.path = some path) (ho : cfg.output = some output) (hm : cfg.msrc ≠ .none)
    (hcmd : ∀ g r, cfg.cmd ≠ .fragment g r) (hearly : cfg.early = false)
    (hsetup : cfg.setupOk = true)
    (hsame : cfg.rho output = cfg.rho path) (hex : fs (cfg.rho path) ≠ .absent)
    (hf : cfg.force = false) :
    ((run cfg fs).outcome = .exists ∨ (run cfg fs).outcome = .typeMismatch)
      ∧ (run cfg fs).st.acts = [] := by
  obtain ⟨hout, hst⟩ := existing_output_needs_force cfg { fs := fs, acts := [] } path output hp ho hm
    hcmd hearly hsetup (hsame ▸ hex) hf
  exact ⟨hout, congrArg St.acts hst⟩

/-- corollary of `no_clobber_without_force`: whenever a run touches the (existing) input,
`--force` was given. -/
theorem touching_input_needs_force (cfg : Cfg) (fs : FS) (hwf : WF fs) (path : RawPath)
    (hex : fs (cfg.rho path) ≠ .absent) (a : Action) (ha : a ∈ (run cfg fs).st.acts)
    (ht : a.touches (cfg.rho path) = true) : cfg.force = true := by
  cases hf : cfg.force with
  | true => rfl
  | false => exact absurd (no_clobber_without_force cfg fs hwf hf a ha _ ht) hex

/-! ### refusals

"Refusal" = the tool stops at one of its own argument / existence checks (as opposed to an
operation failing). The natural reading "a refusal has done nothing" is *false* for the code:
with `--force` the existing output is removed *before* the "Missing filename" / "Missing
extension" checks (main.rs: `remove_file(&output)?` precedes `output.extension().is_none()`).
The property statement permits this (force was requested and the removed file is the declared
output), so it is recorded as a proved witness, replayed on the binary by the harness
(`witness-force-refusal`), and the true part is proved in full. -/

def Outcome.refusal : Outcome → Bool
  | .usage | .needPath | .exists | .typeMismatch | .noFilename | .noExtension
  | .needManifest | .needOutput | .notFolder | .fragFile | .fragGlob => true
  | .ok | .readonly | .fail => false

/-- full statement (false for the code, see `not_refusalClean`) -/
def RefusalClean : Prop :=
  ∀ (cfg : Cfg) (fs : FS), WF fs → (run cfg fs).outcome.refusal = true → (run cfg fs).st.acts = []

theorem SignRun.not_refusal {out : Loc} {c : Content} {st : St} {r : Outcome × St}
    (hr : SignRun out c st r) : r.1.refusal = false := by
  cases hr <;> rfl

theorem TailRun.not_refusal {cfg : Cfg} {sc : Loc} {r0 : Outcome × St} {r : Res}
    (hr : TailRun cfg sc r0 r) (h : r0.1.refusal = false) : r.outcome.refusal = false := by
  cases hr with
  | handed => exact h
  | unwritten => rfl
  | closed _ _ ho => rcases ho with rfl | rfl <;> rfl

/-- **What a refusing run has done — exact characterisation.** Either nothing at all, or:
`--force` was given, the output string differs from the PATH string, the output location held
a file, the refusal is "Missing filename"/"Missing extension", and the run consists of
exactly one action, the removal of that file. -/
theorem refusal_acts (cfg : Cfg) (fs : FS) (hr : (run cfg fs).outcome.refusal = true) :
    (run cfg fs).st.acts = []
    ∨ (cfg.force = true
        ∧ ((run cfg fs).outcome = .noFilename ∨ (run cfg fs).outcome = .noExtension)
        ∧ ∃ path output, cfg.path = some path ∧ cfg.output = some output
            ∧ pathEq output path = false
            ∧ (∃ c, fs (cfg.rho output) = .file c)
            ∧ (run cfg fs).st.acts = [.remove (cfg.rho output)]) := by
  unfold run at hr ⊢
  generalize hrun : runSt cfg ⟨fs, []⟩ = r at hr ⊢
  rcases runSt_run hrun with hs | ⟨path, output, hp, ho, ⟨_, ⟨g, rs, _, h⟩ | h⟩ | ⟨_, h⟩⟩
  · exact .inl (congrArg St.acts hs)
  · cases fragBranch_run h.symm with
    | stopped => exact .inl rfl
    | copied => cases hr
    | placed _ _ _ _ ho => rcases ho with rfl | ⟨rfl, _⟩ <;> cases hr
  · cases signBranch_run h.symm with
    | stopped => exact .inl rfl
    | unnamed hc ho' =>
      cases hc with
      | kept => exact .inl rfl
      | removed hf hpe hfile =>
        exact .inr ⟨hf, ho', path, output, hp, ho, hpe, isFile_iff.mp hfile, rfl⟩
    | signed =>
      rw [(signTail_run rfl).not_refusal (signStep_run rfl).not_refusal] at hr
      cases hr
  · cases folderBranch_run h.symm with
    | stopped => exact .inl rfl
    | failed | reported => cases hr

/-- `RefusalClean` restricted to what is true: every refusal without `--force`, and every
refusal other than "Missing filename"/"Missing extension", has performed no action. -/
theorem refusal_clean_partial (cfg : Cfg) (fs : FS) (hr : (run cfg fs).outcome.refusal = true)
    (h : cfg.force = false
      ∨ ((run cfg fs).outcome ≠ .noFilename ∧ (run cfg fs).outcome ≠ .noExtension)) :
    (run cfg fs).st.acts = [] := by
  rcases refusal_acts cfg fs hr with h0 | ⟨hf, ho, _⟩
  · exact h0
  · rcases h with h | ⟨h1, h2⟩
    · rw [hf] at h; cases h
    · rcases ho with ho | ho
      · exact absurd ho h1
      · exact absurd ho h2

/-- witness: `c2patool in -m m.json -o out -f` with existing files `in` and `out` -/
def fsW : FS := fun p =>
  if p = [] then .dir else if p = ["in"] then .file .pre else if p = ["out"] then .file .pre
  else .absent

theorem fsW_wf : WF fsW := by
  intro p hne hp
  unfold fsW at hp ⊢
  by_cases h1 : p = ["in"]
  · subst h1; simp
  by_cases h2 : p = ["out"]
  · subst h2; simp
  simp [hne, h1, h2] at hp

def cfgW : Cfg := { path := some ["in"], output := some ["out"], msrc := .file, force := true }

/-- the forced run refuses with "Missing extension" *after* deleting the output -/
theorem force_refusal_destroys_output :
    (run cfgW fsW).outcome = .noExtension ∧ (run cfgW fsW).st.acts = [.remove ["out"]]
      ∧ (run cfgW fsW).st.fs ["out"] = .absent := by
  decide +kernel

/-- The model falsifies `RefusalClean`. (The witness is replayed on the binary by the harness:
obligation `witness-force-refusal`.) -/
theorem not_refusalClean : ¬ RefusalClean := by
  intro h
  obtain ⟨ho, ha, _⟩ := force_refusal_destroys_output
  have := h cfgW fsW fsW_wf (by rw [ho]; rfl)
  rw [ha] at this
  cases this

/-! ### "reported as signed" at model level -/

theorem TailRun.ok {cfg : Cfg} {sc : Loc} {r0 : Outcome × St} {r : Res}
    (hr : TailRun cfg sc r0 r) (hok : r.outcome = .ok) :
    r0.1 = .ok ∧ (cfg.sidecar = true → r.st.fs sc = .file .c2pa)
      ∧ ∀ q, (cfg.sidecar = true → q ≠ sc) → r.st.fs q = r0.2.fs q := by
  cases hr with
  | handed hne => exact absurd hok hne
  | unwritten => cases hok
  | closed h1 e3 =>
    refine ⟨h1, fun hs => ?_, fun q hq => ?_⟩
    · rcases e3 with ⟨_, e3⟩ | ⟨hns, _⟩
      · exact writeFile_post e3
      · exact absurd hs hns
    · rcases e3 with ⟨hs, e3⟩ | ⟨_, rfl⟩
      · exact writeFile_frame e3 (hq hs)
      · rfl

/-- A signing run (manifest definition, no `fragment` sub-command) that ends `ok` — the
tool printed the report of the signed output — has left, at the location of the output
string, the signed asset written by this run (embedded manifest; with `--sidecar` the
untouched copy or the copy with the remote reference), and, with `--sidecar`, the manifest
store at the sidecar location. The first part is stated for a sidecar string that does not lead to the
output's own location (it does for an output named `*.c2pa`, which then holds the manifest store). -/
theorem signed_ok_output_present (cfg : Cfg) (path output : RawPath) (st : St)
    (hok : (signBranch cfg path output st).outcome = .ok) :
    (cfg.sidecar = true →
      (signBranch cfg path output st).st.fs (cfg.rho (withExtension output "c2pa")) = .file .c2pa)
    ∧ ((cfg.sidecar = true → cfg.rho output ≠ cfg.rho (withExtension output "c2pa")) →
      (signBranch cfg path output st).st.fs (cfg.rho output) = .file (signContent cfg)) := by
  generalize hr : signBranch cfg path output st = r at hok ⊢
  cases signBranch_run hr with
  | stopped hne => exact absurd hok hne
  | unnamed _ ho => rcases ho with rfl | rfl <;> cases hok
  | signed =>
    obtain ⟨hstep, hsc, hframe⟩ := (signTail_run rfl).ok hok
    exact ⟨hsc, fun hne => hframe _ hne ▸ (signStep_run rfl).ok hstep⟩

theorem initLoop_ok {out : Loc} (rs : List Rend) : ∀ (st st' : St),
    initLoop out rs st = (true, st') →
    (∀ r ∈ rs, ∃ d, initDest out r = some d ∧ st'.fs d = .file .init)
      ∧ (∀ q, st.fs q = .file .init → st'.fs q = .file .init) := by
  induction rs with
  | nil =>
    intro st st' h
    unfold initLoop at h
    cases h
    exact ⟨fun _ hr => (nomatch hr), fun _ hq => hq⟩
  | cons r rs ih =>
    intro st st' h
    unfold initLoop at h
    split at h
    · simp at h
    · rename_i d hd
      split at h
      · simp at h
      · rename_i st1 e1
        obtain ⟨hA, hB⟩ := ih st1 st' h
        have hstep : ∀ q, st.fs q = .file .init → st1.fs q = .file .init := by
          intro q hq
          by_cases hqd : q = d
          · subst hqd; exact writeFile_post e1
          · rw [writeFile_frame e1 hqd]; exact hq
        refine ⟨?_, fun q hq => hB q (hstep q hq)⟩
        intro r' hr'
        rcases List.mem_cons.mp hr' with rfl | hr'
        · exact ⟨d, hd, hB d (writeFile_post e1)⟩
        · exact hA r' hr'

/-- **`fragment` run reported as signed**: an `ok` outcome with at least one matched init
segment means that for *every* matched init segment the destination
`<output>/<init folder>/<init name>` holds the signed init segment written by this run. -/
theorem frag_ok_inits_present (cfg : Cfg) (output : RawPath) (glob : Bool) (rends : List Rend)
    (st : St) (hok : (fragBranch cfg output glob rends st).outcome = .ok) (hne : rends ≠ []) :
    ∀ r ∈ rends, ∃ d, initDest (cfg.rho output) r = some d
      ∧ (fragBranch cfg output glob rends st).st.fs d = .file .init := by
  generalize hr : fragBranch cfg output glob rends st = r at hok ⊢
  cases fragBranch_run hr with
  | stopped h => exact absurd (h hok) hne
  | copied => cases hok
  | placed _ _ _ e3 ho =>
    obtain ⟨_, rfl⟩ := ho.resolve_left fun h => nomatch h.symm.trans hok
    exact (initLoop_ok rends _ _ e3).1

/-- **report / ingredient folder run that ends `ok`** has written the report file into the
output folder -/
theorem folder_ok_report_present (cfg : Cfg) (path output : RawPath) (st : St)
    (hok : (folderBranch cfg path output st).outcome = .ok) :
    (folderBranch cfg path output st).st.fs
      (cfg.rho output ++ [if cfg.ingredient = true then "ingredient.json" else "manifest_store.json"])
      = .file .report := by
  generalize hr : folderBranch cfg path output st = r at hok ⊢
  cases folderBranch_run hr with
  | stopped hne => exact absurd hok hne
  | failed => cases hok
  | reported _ _ e => exact writeFile_post e

/-- a small well-formed file system: `in.jpg`, `out.jpg`, `out.c2pa` and a folder `rep` with a file -/
def fsEx : FS := fun p =>
  if p = [] then .dir
  else if p = ["in.jpg"] then .file .pre
  else if p = ["out.jpg"] then .file .pre
  else if p = ["out.c2pa"] then .file .pre
  else if p = ["rep"] then .dir
  else if p = ["rep", "old.txt"] then .file .pre
  else .absent

theorem fsEx_wf : WF fsEx := by
  intro p hne hp
  unfold fsEx at hp ⊢
  by_cases h1 : p = ["in.jpg"]
  · subst h1; simp
  by_cases h2 : p = ["out.jpg"]
  · subst h2; simp
  by_cases h3 : p = ["out.c2pa"]
  · subst h3; simp
  by_cases h4 : p = ["rep"]
  · subst h4; simp
  by_cases h5 : p = ["rep", "old.txt"]
  · subst h5; simp
  simp [hne, h1, h2, h3, h4, h5] at hp

def cfgSign (out : String) (sidecar force : Bool) : Cfg :=
  { path := some ["in.jpg"], output := some [out], msrc := .file, sidecar := sidecar, force := force }

/-- without `--force` a fresh output and sidecar are created: the hypotheses of
`no_clobber_without_force` are met by a run that does write -/
example : (run (cfgSign "new.jpg" true false) fsEx).outcome = .ok
    ∧ (run (cfgSign "new.jpg" true false) fsEx).st.acts
      = [.create ["new.jpg"] .copy, .create ["new.c2pa"] .c2pa] := by
  decide +kernel

/-- an existing output stops the run -/
example : (run { cfgSign "fresh.jpg" true false with output := some ["out.jpg"] } fsEx).outcome = .exists := by
  decide +kernel

/-- an existing sidecar next to a fresh output stops the run before anything is written (the
repaired F10: before the repair the run created the output and overwrote the sidecar) -/
example : (run { path := some ["in.jpg"], output := some ["out2.jpg"], msrc := .file, sidecar := true }
    (fun p => if p = ["out2.c2pa"] then .file .pre else fsEx p)).outcome = .exists
    ∧ (run { path := some ["in.jpg"], output := some ["out2.jpg"], msrc := .file, sidecar := true }
    (fun p => if p = ["out2.c2pa"] then .file .pre else fsEx p)).st.acts = [] := by
  decide +kernel

/-- with `--force` exactly the output and the sidecar are replaced -/
example : (run (cfgSign "out.jpg" true true) fsEx).st.acts
    = [.remove ["out.jpg"], .create ["out.jpg"] .copy, .overwrite ["out.c2pa"] .c2pa] := by
  decide +kernel

/-- report folder with `--force`: the tree is removed and rebuilt -/
example : (run { path := some ["in.jpg"], output := some ["rep"], msrc := .none, force := true } fsEx).st.acts
    = [.rmtree ["rep"], .mkdir ["rep"], .create ["rep", "*"] .res,
       .create ["rep", "manifest_store.json"] .report] := by
  decide +kernel

/-- `same_path_needs_force` applies to the alias spelling -/
example : resolve [".", "in.jpg"] = resolve ["in.jpg"] ∧ pathEq [".", "in.jpg"] ["in.jpg"] = false := by
  decide +kernel

/-- an aliasing `rho`: `sub/../in.jpg`, an absolute spelling and a path through a directory
link all lead to `[in.jpg]` -/
def rhoEx : RawPath → Loc :=
  rhoOf [(["sub", "..", "in.jpg"], ["in.jpg"]), (["@", "in.jpg"], ["in.jpg"]),
         (["ln", "in.jpg"], ["in.jpg"]), (["sub", "..", "in.c2pa"], ["in.c2pa"])]

/-- `same_path_needs_force` under the aliases of `rhoEx`: refused, nothing done -/
example : (run { cfgSign "x" false false with output := some ["sub", "..", "in.jpg"], rho := rhoEx } fsEx).outcome = .exists
    ∧ (run { cfgSign "x" false false with output := some ["@", "in.jpg"], rho := rhoEx } fsEx).outcome = .exists
    ∧ (run { cfgSign "x" false false with output := some ["ln", "in.jpg"], rho := rhoEx } fsEx).st.acts = [] := by
  decide +kernel

/-- forced alias run: the model (like the tool) removes the input and then fails — the
declared output *is* the input here; `force_only_touches_output` is not violated. The same
happens through any other alias. -/
example : (run { path := some ["in.jpg"], output := some [".", "in.jpg"], msrc := .file, force := true } fsEx).outcome = .fail
    ∧ (run { path := some ["in.jpg"], output := some [".", "in.jpg"], msrc := .file, force := true } fsEx).st.acts
      = [.remove ["in.jpg"]]
    ∧ (run { cfgSign "x" false true with output := some ["sub", "..", "in.jpg"], rho := rhoEx } fsEx).st.acts
      = [.remove ["in.jpg"]] := by
  decide +kernel

/-- `-o .` in signing mode does nothing: forced, `remove_file(".")` fails on a directory; unforced,
"Output already exists". `sign_mode_touches` is not vacuous for that: the signing runs of the
examples above do act. -/
example : (run { path := some ["in"], output := some ["."], msrc := .file, force := true } fsW).st.acts = []
    ∧ (run { path := some ["in"], output := some ["."], msrc := .file } fsW).outcome = .exists := by
  decide +kernel

def cfgFrag : Cfg :=
  { path := some ["rend", "init.mp4"], output := some ["fo"], msrc := .file,
    cmd := .fragment true [⟨some "rend", "init.mp4", ["s1.m4s"]⟩] }

/-- `frag_ok_inits_present` is met by a run that writes -/
example : (run cfgFrag fsEx).outcome = .ok
    ∧ (run cfgFrag fsEx).st.fs ["fo", "rend", "init.mp4"] = .file .init := by
  decide +kernel

end C2pa.C32
