import C2paModel.Model.C21
import C2paModel.Props.C20
import C2paModel.Lemmas.Sel
/-
C21 — property theorems. The statement (properties.jsonl):

  An update manifest is reported Valid only if it has exactly one parentOf ingredient, no
  hard-binding assertion and only the actions allowed for update manifests, and the asset
  content bound by its parent manifest is unchanged. Any content change after an update
  manifest was added is detected.

`update_valid_iff_rules` characterises the rule block of `verify_internal` (with the hard-binding
test where update manifests are actually seen and by label: `fixes/C21-update-manifest-hard-binding.patch`,
`fixes/C21-update-manifest-hard-binding-by-label.patch`); `update_violation_invalid` and
`active_update_violation_never_valid` close a violation with `from_store` and C04.
`update_preserves_binding`: the re-based exclusions (`rebase`) select exactly the bytes the parent
manifest signed; `content_change_detected` (injective hash) and
`update_binding_iff_content` turn it into "the data hash matches iff the content outside the store
is unchanged"; `content_mismatch_never_valid` closes a mismatch at store level with C04.
-/
namespace C2pa.C21
open C2pa.C34 C2pa.C20

/-! ### the rule block of `verify_internal` on an update manifest -/

/-- the rules of the statement for an update manifest, as the code tests them -/
def UpdateRulesHold (c : C20.Claim) : Prop :=
  (∀ acts ∈ actionAssertions c, ∀ a ∈ acts, a.name ∈ allowedUpdateActions) ∧
  thumbCount c ≤ 1 ∧ hasBindingLabel c = false ∧ parentCount c = 1

/-- the rule is by label (`has_assertion_type` over `HASH_LABELS`), which covers everything
`hash_assertions()` returns — those are the created assertions whose label root is
`c2pa.hash.data`, `c2pa.hash.bmff` or `c2pa.hash.boxes` — and also collection data hashes,
multi-part hashes and gathered hash assertions -/
theorem hasBindingLabel_of_hasHash (c : C20.Claim)
    (hwl : ∀ a ∈ c.store, a.isHash = true → ∃ h ∈ hashLabels, h.isPrefixOf a.label = true)
    (h : hasHash c = true) : hasBindingLabel c = true := by
  unfold hasHash at h
  unfold hasBindingLabel
  obtain ⟨a, ha, hh⟩ := List.any_eq_true.1 h
  obtain ⟨l, hl, hp⟩ := hwl a ha hh
  exact List.any_eq_true.2 ⟨a, ha, List.any_eq_true.2 ⟨l, hl, hp⟩⟩

theorem disallowedActionEvents_nil_iff (c : C20.Claim) (ing : Bool) :
    disallowedActionEvents c ing = [] ↔
      ∀ acts ∈ actionAssertions c, ∀ a ∈ acts, a.name ∈ allowedUpdateActions := by
  unfold disallowedActionEvents
  simp only [List.flatMap_eq_nil_iff, List.any_beq', List.contains_iff_mem, ite_eq_left_iff,
    reduceCtorEq, imp_false, Decidable.not_not]

theorem updateParentEvents_nil_iff (n : Nat) (ing : Bool) : updateParentEvents n ing = [] ↔ n = 1 := by
  unfold updateParentEvents
  match n with
  | 0 => simp
  | 1 => simp
  | n + 2 => simp

/-- **rule block** — for an update manifest the rule block of
`verify_internal` is silent iff every action is an allowed one, there is at most one claim
thumbnail (as coded), no hard-binding assertion and exactly one `parentOf` ingredient. -/
theorem update_valid_iff_rules (c : C20.Claim) (ing : Bool) (hu : c.update = true) :
    manifestRules c ing = [] ↔ UpdateRulesHold c := by
  unfold manifestRules UpdateRulesHold
  simp only [hu, if_true, List.append_eq_nil_iff, disallowedActionEvents_nil_iff,
    updateParentEvents_nil_iff, ite_eq_right_iff, reduceCtorEq, imp_false, gt_iff_lt, Nat.not_lt,
    Bool.not_eq_true, and_assoc]

/-- an ordinary manifest: at most one `parentOf` -/
theorem nonupdate_rules_iff (c : C20.Claim) (ing : Bool) (hu : c.update = false) :
    manifestRules c ing = [] ↔ parentCount c ≤ 1 := by
  unfold manifestRules
  simp only [hu, Bool.false_eq_true, if_false, ite_eq_right_iff, reduceCtorEq, imp_false, gt_iff_lt,
    Nat.not_lt]

/-! ### a violated rule is never reported Valid -/

def cUpdInvalid : Str := "manifest.update.invalid".toList
def cWrongParents : Str := "manifest.update.wrongParents".toList
def cMultipleParents : Str := "manifest.multipleParents".toList

theorem updInvalid_not_tolerated : C04.tolerated cUpdInvalid = false := by
  unfold cUpdInvalid C04.tolerated C04.cUntrusted C04.cawgX509Prefix
  decide_run
theorem wrongParents_not_tolerated : C04.tolerated cWrongParents = false := by
  unfold cWrongParents C04.tolerated C04.cUntrusted C04.cawgX509Prefix
  decide_run
theorem multipleParents_not_tolerated : C04.tolerated cMultipleParents = false := by
  unfold cMultipleParents C04.tolerated C04.cUntrusted C04.cawgX509Prefix
  decide_run
theorem bmffHashMismatch_not_tolerated : C04.tolerated "assertion.bmffHash.mismatch".toList = false := by
  unfold C04.tolerated C04.cUntrusted C04.cawgX509Prefix
  decide_run
theorem boxHashMismatch_not_tolerated : C04.tolerated "assertion.boxesHash.mismatch".toList = false := by
  unfold C04.tolerated C04.cUntrusted C04.cawgX509Prefix
  decide_run

theorem eq_of_mem_ite_singleton {α : Type} {p : Prop} [Decidable p] {x e : α}
    (h : e ∈ if p then [x] else []) : e = x :=
  List.mem_singleton.1 (List.mem_ite_nil_right.1 h).2

theorem manifestRules_mem (c : C20.Claim) (ing : Bool) : ∀ e ∈ manifestRules c ing,
    e = C20.fail "manifest.update.invalid" ing ∨ e = C20.fail "manifest.update.wrongParents" ing ∨
      e = C20.fail "manifest.multipleParents" ing := by
  intro e he
  unfold manifestRules at he
  split at he
  · simp only [List.mem_append] at he
    rcases he with ((he | he) | he) | he
    · unfold disallowedActionEvents at he
      simp only [List.mem_flatMap] at he
      obtain ⟨_, _, a, _, ha⟩ := he
      split at ha
      · cases ha
      · exact Or.inl (List.mem_singleton.1 ha)
    · exact Or.inl (eq_of_mem_ite_singleton he)
    · exact Or.inl (eq_of_mem_ite_singleton he)
    · unfold updateParentEvents at he
      split at he
      · exact Or.inr (Or.inl (List.mem_singleton.1 he))
      · cases he
      · exact Or.inl (List.mem_singleton.1 he)
  · exact Or.inr (Or.inr (eq_of_mem_ite_singleton he))

theorem update_violation_logged (c : C20.Claim) (reds : List Str) (map : List C20.Claim) (ing : Bool)
    (o : C20.Out) (h : verifyClaim c reds map ing = some o)
    (hu : c.update = true) (hv : ¬ UpdateRulesHold c) :
    ∃ e ∈ o.log, e.isFailure = true ∧ e.ing = ing ∧ C04.tolerated e.code = false ∧
      (e.code = cUpdInvalid ∨ e.code = cWrongParents ∨ e.code = cMultipleParents) := by
  have hne : manifestRules c ing ≠ [] := fun hnil => hv ((update_valid_iff_rules c ing hu).1 hnil)
  obtain ⟨e, he⟩ := List.exists_mem_of_ne_nil _ hne
  refine ⟨e, head_sub_log c reds map ing o h e (List.mem_append_right _ he), ?_⟩
  rcases manifestRules_mem c ing e he with rfl | rfl | rfl
  · exact ⟨rfl, rfl, fail_not_tolerated ing updInvalid_not_tolerated, Or.inl (fail_code _ _)⟩
  · exact ⟨rfl, rfl, fail_not_tolerated ing wrongParents_not_tolerated, Or.inr (Or.inl (fail_code _ _))⟩
  · exact ⟨rfl, rfl, fail_not_tolerated ing multipleParents_not_tolerated, Or.inr (Or.inr (fail_code _ _))⟩

/-- **verdict** — an update manifest on which `verify_claim` runs and
which violates a rule is never reported Valid: the reported state (C04) is `Invalid` for every
log before and after, unless, in ingredient scope, that very status was already recorded in an
ingredient assertion (`hrec`). -/
theorem update_violation_invalid (c : C20.Claim) (reds : List Str) (map : List C20.Claim) (ing : Bool)
    (o : C20.Out) (h : verifyClaim c reds map ing = some o)
    (hu : c.update = true) (hv : ¬ UpdateRulesHold c)
    (pre post : List C20.Ev) (sts : List St) (hdec : Decorates sts (pre ++ o.log ++ post))
    (active : Str) (recs : List Rec) (uriOf : St → List Char) (r0 res : C04.Results)
    (hrep : reportS active recs uriOf r0 sts = some res)
    (hrec : ing = true → ∀ s ∈ sts, s.ing = true →
      (s.code = cUpdInvalid ∨ s.code = cWrongParents ∨ s.code = cMultipleParents) →
        recordedIn recs s = false) :
    C04.state res = .invalid := by
  obtain ⟨e, he, hf, hing, ht, hc⟩ := update_violation_logged c reds map ing o h hu hv
  refine failure_invalid _ e (List.mem_append_left _ (List.mem_append_right _ he)) hf ht sts hdec
    active recs uriOf r0 res ?_ hrep
  intro hi s hs hcode hsi
  exact hrec (by rw [← hing, hi]) s hs hsi (by rw [hcode]; exact hc)

/-- **store level** — `verify_store` on a store whose active manifest is an update manifest that
violates a rule either returns `Err` (the Reader fails) or reports `Invalid`. -/
theorem active_update_violation_never_valid (s : C20.Store) (o : C20.Out)
    (h : verifyStore s = some o) (root : C20.Claim) (hroot : s.getLast? = some root)
    (hu : root.update = true) (hv : ¬ UpdateRulesHold root)
    (sts : List St) (hdec : Decorates sts o.log)
    (active : Str) (recs : List Rec) (uriOf : St → List Char) (r0 res : C04.Results)
    (hrep : reportS active recs uriOf r0 sts = some res) :
    o.err = true ∨ C04.state res = .invalid := by
  refine active_failure_never_valid s o h root hroot (fun g vc _ hvc => ?_)
    sts hdec active recs uriOf r0 res hrep
  obtain ⟨e, he, hf, hi, ht, _⟩ := update_violation_logged root _ _ false vc hvc hu hv
  exact ⟨e, he, hf, hi, ht⟩

/-! ### exclusion ranges: `sel` as a selection by positions, and the re-basing after the store moved -/

/-- what `covered` (Model/C21) tests for one range: `covered_eq_any` -/
def cov (e : Rng) (i : Nat) : Bool := decide (e.start ≤ i) && decide (i < e.start + e.len)

theorem cov_iff (e : Rng) (i : Nat) : cov e i = true ↔ e.start ≤ i ∧ i < e.start + e.len := by
  simp [cov]

theorem cov_congr {e e' : Rng} {i j : Nat}
    (h : e.start ≤ i ∧ i < e.start + e.len ↔ e'.start ≤ j ∧ j < e'.start + e'.len) :
    cov e i = cov e' j := by
  rw [Bool.eq_iff_iff, cov_iff, cov_iff]; exact h

theorem covered_eq_any (l : List Rng) (i : Nat) : covered l i = l.any fun e => cov e i := rfl

theorem covered_append (a b : List Rng) (i : Nat) : covered (a ++ b) i = (covered a i || covered b i) := by
  simp [covered_eq_any, List.any_append]

theorem covered_cons (e : Rng) (l : List Rng) (i : Nat) : covered (e :: l) i = (cov e i || covered l i) := by
  simp [covered_eq_any]

theorem covered_map_congr (f : Rng → Rng) (l : List Rng) (i j : Nat)
    (h : ∀ e ∈ l, cov (f e) i = cov e j) : covered (l.map f) i = covered l j := by
  induction l with
  | nil => rfl
  | cons x xs ih =>
    simp only [List.map_cons, covered_cons]
    rw [h x (List.mem_cons_self ..), ih fun e he => h e (List.mem_cons_of_mem _ he)]

theorem sel_eq_selBy {α : Type} (excl : List Rng) :
    ∀ (l : List α) (off : Nat), sel excl off l = Data.selBy (fun x => covered excl (off + x)) l
  | [], _ => rfl
  | b :: bs, off => by
    rw [sel, sel_eq_selBy excl bs, ← List.singleton_append (l := bs), Data.selBy_append]
    simp [Data.selBy, Nat.add_assoc]

theorem sel_append {α : Type} (excl : List Rng) (xs ys : List α) (off : Nat) :
    sel excl off (xs ++ ys) = sel excl off xs ++ sel excl (off + xs.length) ys := by
  simp only [sel_eq_selBy, Data.selBy_append, Nat.add_assoc]

theorem sel_congr {α : Type} (e1 e2 : List Rng) (xs : List α) (o1 o2 : Nat)
    (h : ∀ j < xs.length, covered e1 (o1 + j) = covered e2 (o2 + j)) : sel e1 o1 xs = sel e2 o2 xs := by
  rw [sel_eq_selBy, sel_eq_selBy]; exact Data.selBy_congr h

theorem sel_all_covered {α : Type} (e : List Rng) (xs : List α) (o : Nat)
    (h : ∀ j < xs.length, covered e (o + j) = true) : sel e o xs = [] := by
  rw [sel_eq_selBy]; exact Data.selBy_eq_nil h

theorem sel_none {α : Type} : ∀ (l : List α) (off : Nat), sel [] off l = l
  | [], _ => rfl
  | b :: bs, off => by
    simp only [sel, covered, List.any_nil, Bool.false_eq_true, if_false, List.singleton_append,
      sel_none bs]

theorem sel_uncovered {α : Type} (excl : List Rng) (l : List α) (off : Nat)
    (h : ∀ j, j < l.length → covered excl (off + j) = false) : sel excl off l = l := by
  rw [sel_congr excl [] l off off h, sel_none]

theorem covered_store (A B : List Rng) (s m j : Nat) (hj : j < m) :
    covered (A ++ ⟨s, m⟩ :: B) (s + j) = true := by
  have : cov ⟨s, m⟩ (s + j) = true := by rw [cov_iff]; simp only []; omega
  simp [covered_append, covered_cons, this]

theorem sel_range_nil {α : Type} (A B : List Rng) (s m : Nat) (X : List α) (hX : X.length = m) :
    sel (A ++ ⟨s, m⟩ :: B) s X = [] :=
  sel_all_covered _ _ _ fun j hj => covered_store A B s m j (hX ▸ hj)

theorem covered_map_mid (f : Rng → Rng) (A B : List Rng) (x y : Rng) (i j : Nat)
    (h : ∀ e ∈ A ++ B, cov (f e) i = cov e j) (hxy : cov x i = cov y j) :
    covered (A.map f ++ x :: B.map f) i = covered (A ++ y :: B) j := by
  simp only [covered_append, covered_cons]
  rw [covered_map_congr f A i j fun e he => h e (List.mem_append_left _ he),
    covered_map_congr f B i j fun e he => h e (List.mem_append_right _ he), hxy]

theorem splitAtStart_decomp (s : Nat) (x : Rng) (hx : x.start = s) :
    ∀ (E1 E2 : List Rng), (∀ e ∈ E1, e.start ≠ s) →
      splitAtStart s (E1 ++ x :: E2) = some (E1, x, E2) := by
  intro E1
  induction E1 with
  | nil => intro E2 _; simp [splitAtStart, hx]
  | cons e es ih =>
    intro E2 h
    have he : (e.start == s) = false := by
      have := h e (List.mem_cons_self ..); simpa using this
    simp only [List.cons_append, splitAtStart, he, Bool.false_eq_true, if_false]
    rw [ih E2 fun y hy => h y (List.mem_cons_of_mem _ hy)]

theorem rebase_decomp (E1 E2 : List Rng) (s m m' : Nat) (hs : 0 < s)
    (hE1 : ∀ e ∈ E1, e.start ≠ s) :
    rebase (E1 ++ ⟨s, m⟩ :: E2) (some ⟨s, m'⟩) =
      E1.map (shift s (m' - m)) ++ ⟨s, m'⟩ :: E2.map (shift s (m' - m)) := by
  unfold rebase
  simp only []
  rw [splitAtStart_decomp s ⟨s, m⟩ rfl E1 E2 hE1]
  simp only [hs, if_true, List.map_append, List.map_cons]
  congr 2
  simp [shift]

/-- the parent manifest's data hash excludes the manifest store
`(s, m)` (first exclusion starting at `s`) and possibly other ranges that do not touch it.
After an update manifest was added the store occupies `(s, m')` and everything behind it moved
by `m' - m`. If the store did not shrink (or nothing is excluded behind it) the re-based
exclusions select, in the new asset `pre ++ M' ++ post`, exactly the bytes the original
exclusions select in the original asset `pre ++ M ++ post`: the same content is bound. -/
theorem update_preserves_binding {α : Type} (E1 E2 : List Rng) (s m m' : Nat)
    (pre M M' post : List α)
    (hpre : pre.length = s) (hM : M.length = m) (hM' : M'.length = m')
    (hs : 0 < s) (hm : 0 < m)
    (hE1 : ∀ e ∈ E1, e.start ≠ s)
    (hdisj : ∀ e ∈ E1 ++ E2, e.start + e.len ≤ s ∨ s + m ≤ e.start)
    (hgrow : m ≤ m' ∨ ∀ e ∈ E1 ++ E2, e.start + e.len ≤ s) :
    sel (rebase (E1 ++ ⟨s, m⟩ :: E2) (some ⟨s, m'⟩)) 0 (pre ++ M' ++ post) =
      sel (E1 ++ ⟨s, m⟩ :: E2) 0 (pre ++ M ++ post) := by
  rw [rebase_decomp E1 E2 s m m' hs hE1]
  have hshift_lo : ∀ e ∈ E1 ++ E2, ∀ j, j < s → cov (shift s (m' - m) e) j = cov e j := by
    intro e _ j hj
    unfold shift
    by_cases hgt : e.start > s
    · simp only [hgt, if_true]
      exact cov_congr (by simp only []; omega)
    · simp [hgt]
  have hshift_hi : ∀ e ∈ E1 ++ E2, ∀ j, cov (shift s (m' - m) e) (s + m' + j) = cov e (s + m + j) := by
    intro e he j
    have hd := hdisj e he
    unfold shift
    by_cases hgt : e.start > s
    · simp only [hgt, if_true]
      rcases hgrow with hg | hg
      · exact cov_congr (by simp only []; omega)
      · have := hg e he
        exact cov_congr (by simp only []; omega)
    · simp only [hgt, if_false]
      exact cov_congr (by omega)
  -- the three regions: before the store (unmoved), the store itself (excluded on both sides),
  -- behind the store (shifted)
  rw [sel_eq_selBy, sel_eq_selBy]
  subst hpre hM hM'
  simp only [Nat.zero_add]
  exact Data.selBy_splice _ _ pre M M' post
    (fun j hj => covered_map_mid _ E1 E2 _ _ j j (fun e he => hshift_lo e he j hj)
      (cov_congr (by simp only []; omega)))
    (fun j hj => covered_store _ _ _ _ j hj) (fun j hj => covered_store _ _ _ _ j hj)
    (fun j _ => covered_map_mid _ E1 E2 _ _ _ _ (fun e he => hshift_hi e he j)
      (cov_congr (by simp only []; omega)))

/-- both directions, for an arbitrary new prefix `pre'` of the
same length and an arbitrary new tail `post'` (any length: truncation, insertion and append are
covered): the binding of the parent manifest, evaluated with the re-based exclusions on the
updated asset `pre' ++ M' ++ post'`, matches what was signed (`pre ++ M ++ post` under the
original exclusions) **iff** the content outside the manifest store is what was signed — i.e. iff
the asset with the *old* store put back selects the same bytes. -/
theorem content_bound_after_update {α : Type} (E1 E2 : List Rng) (s m m' : Nat)
    (pre pre' M M' post post' : List α)
    (hpre' : pre'.length = s) (hM : M.length = m) (hM' : M'.length = m')
    (hs : 0 < s) (hm : 0 < m)
    (hE1 : ∀ e ∈ E1, e.start ≠ s)
    (hdisj : ∀ e ∈ E1 ++ E2, e.start + e.len ≤ s ∨ s + m ≤ e.start)
    (hgrow : m ≤ m' ∨ ∀ e ∈ E1 ++ E2, e.start + e.len ≤ s) :
    sel (rebase (E1 ++ ⟨s, m⟩ :: E2) (some ⟨s, m'⟩)) 0 (pre' ++ M' ++ post') =
        sel (E1 ++ ⟨s, m⟩ :: E2) 0 (pre ++ M ++ post) ↔
      sel (E1 ++ ⟨s, m⟩ :: E2) 0 (pre' ++ M ++ post') =
        sel (E1 ++ ⟨s, m⟩ :: E2) 0 (pre ++ M ++ post) := by
  rw [update_preserves_binding E1 E2 s m m' pre' M M' post' hpre' hM hM' hs hm hE1 hdisj hgrow]

theorem store_bytes_irrelevant {α : Type} (E1 E2 : List Rng) (s m : Nat) (pre M N post : List α)
    (hpre : pre.length = s) (hM : M.length = m) (hN : N.length = m) :
    sel (E1 ++ ⟨s, m⟩ :: E2) 0 (pre ++ M ++ post) = sel (E1 ++ ⟨s, m⟩ :: E2) 0 (pre ++ N ++ post) := by
  rw [List.append_assoc, List.append_assoc, sel_append, sel_append, sel_append, sel_append]
  simp only [Nat.zero_add, hpre, hM, hN]
  rw [sel_range_nil E1 E2 s m M hM, sel_range_nil E1 E2 s m N hN]

/-! ### which claim's hard binding `verify_store` checks against the asset -/

/-- `b` names a claim of the store that is not an update manifest and has a hard binding -/
def BoundIn (s : C20.Store) (b : Str) : Prop :=
  ∃ p, getClaim s b = some p ∧ p.label = b ∧ p.update = false ∧ hasHash p = true

/-- Each case is one branch of `hbm`/`hbScan`, in the order of Model/C20's text. The cases whose
result is not `some (some _)` are closed by `nomatch` on the equation; `nofun` closes them too but
is slow to check. -/
theorem hb_spec (s : C20.Store) :
    (∀ fuel c vis b, hbm s fuel c vis = some (some b) →
      (b = c.label ∧ c.update = false ∧ hasHash c = true) ∨ BoundIn s b) ∧
    ∀ fuel vis l b, hbScan s fuel vis l = some (some b) → BoundIn s b := by
  refine hbm.mutual_induct_unfolding s
    (fun _ c _ r => ∀ b, r = some (some b) →
      (b = c.label ∧ c.update = false ∧ hasHash c = true) ∨ BoundIn s b)
    (fun _ _ _ r => ∀ b, r = some (some b) → BoundIn s b)
    ?_ ?_ ?_ ?_ ?_ ?_ ?_ ?_ ?_ ?_ ?_ ?_ ?_ ?_
  · exact fun _ _ _ h => nomatch h
  · exact fun _ _ _ _ _ h => nomatch h
  · intro _ c _ _ hc b h
    simp only [Bool.and_eq_true, Bool.not_eq_true'] at hc
    exact Or.inl ⟨(Option.some.inj (Option.some.inj h)).symm, hc⟩
  · exact fun _ _ _ _ _ ih b h => Or.inr (ih b h)
  · exact fun _ _ _ h => nomatch h
  · exact fun _ _ _ _ _ h => nomatch h
  · exact fun _ _ _ _ _ _ _ ih => ih
  · exact fun _ _ _ _ _ _ _ _ _ _ h => nomatch h
  · exact fun _ _ _ _ _ _ _ _ _ _ h => nomatch h
  · exact fun _ _ _ _ _ _ _ _ _ _ _ ih => ih
  · intro _ _ _ _ _ _ _ _ _ _ ic _ hu ih b h
    exact (ih b h).resolve_left fun ⟨_, hu', _⟩ => by rw [hu] at hu'; cases hu'
  · intro _ _ _ _ _ _ _ _ pl _ ic hg hu hh b h
    obtain rfl := Option.some.inj (Option.some.inj h)
    exact ⟨ic, getClaim_label s pl ic hg ▸ hg, rfl, by simpa using hu, hh⟩
  · exact fun _ _ _ _ _ _ _ _ _ _ _ _ _ _ ih => ih
  · exact fun _ _ _ _ _ _ ih => ih

/-- whatever `get_hash_binding_manifest` returns is the label of a manifest that
is not an update manifest and carries a hard binding: the starting claim itself, or a claim of
the store. (If it could return an update or hash-less claim, `verify_hash_binding` would loop
over zero hard bindings and any content would be accepted.) -/
theorem hbm_spec (s : C20.Store) :
    ∀ (fuel : Nat) (c : C20.Claim) (vis : List Str) (b : Str), hbm s fuel c vis = some (some b) →
      (b = c.label ∧ c.update = false ∧ hasHash c = true) ∨ BoundIn s b :=
  (hb_spec s).1

/-- **the claim whose hard binding `verify_store` checks against the asset** is a claim of the
store (manifest labels are unique, as in the `claims_map` of a real store) that is not an update
manifest and has a hard binding -/
theorem bindingClaim_spec (s : C20.Store) (hnd : (s.map (·.label)).Nodup) (root bc : C20.Claim)
    (h : bindingClaim s = some (some (root, bc))) :
    s.getLast? = some root ∧ getClaim s bc.label = some bc ∧ bc.update = false ∧ hasHash bc = true := by
  unfold bindingClaim at h
  split at h
  · cases h
  next r hr =>
  split at h
  · cases h
  · cases h
  next bl hb =>
  split at h
  · cases h
  next c hg =>
  cases h
  have hlab := getClaim_label s bl bc hg
  refine ⟨hr, by rw [hlab]; exact hg, ?_⟩
  rcases hbm_spec s _ root [] bl hb with ⟨hbl, hu, hh⟩ | ⟨p, hp, _, hu, hh⟩
  · have := getClaim_of_mem_nodup s root hnd (List.mem_of_getLast? hr)
    rw [← hbl, hg] at this
    cases this
    exact ⟨hu, hh⟩
  · rw [hg] at hp; cases hp; exact ⟨hu, hh⟩

/-! ### the asset step: what is logged, and a mismatch is never reported Valid -/

theorem hashEvent_scope (k : HK) (ok : Bool) : ∀ e ∈ hashEvent k ok, e.ing = false := by
  intro e he
  cases k <;> cases ok <;> simp [hashEvent] at he <;> (subst he; rfl)

theorem mem_hashEvents {e : C20.Ev} : ∀ {l : List C20.CA} {oks : List Bool},
    e ∈ hashEvents l oks ↔ ∃ i a, l[i]? = some a ∧ e ∈ hashEvent (hashKind a.label) (oks.getD i true)
  | [], _ => by simp [hashEvents]
  | x :: xs, oks => by
    rw [hashEvents, List.mem_append, mem_hashEvents]
    constructor
    · rintro (h | ⟨i, a, hl, h⟩)
      · exact ⟨0, x, rfl, by cases oks <;> exact h⟩
      · exact ⟨i + 1, a, hl, by cases oks <;> simpa using h⟩
    · rintro ⟨_ | i, a, hl, h⟩
      · cases hl; exact Or.inl (by cases oks <;> exact h)
      · exact Or.inr ⟨i, a, hl, by cases oks <;> simpa using h⟩

theorem hashEvents_scope : ∀ (l : List C20.CA) (oks : List Bool), ∀ e ∈ hashEvents l oks, e.ing = false := by
  intro l oks e he
  obtain ⟨_, _, _, he⟩ := mem_hashEvents.1 he
  exact hashEvent_scope _ _ e he

theorem hashEvent_mismatch (k : HK) (hk : k ≠ .other) :
    ∃ e ∈ hashEvent k false, e.isFailure = true ∧ e.ing = false ∧ C04.tolerated e.code = false := by
  cases k with
  | data => exact ⟨_, List.mem_singleton.2 rfl, rfl, rfl, fail_not_tolerated false C04.dataHashMismatch_not_tolerated⟩
  | bmff => exact ⟨_, List.mem_singleton.2 rfl, rfl, rfl, fail_not_tolerated false bmffHashMismatch_not_tolerated⟩
  | boxes => exact ⟨_, List.mem_singleton.2 rfl, rfl, rfl, fail_not_tolerated false boxHashMismatch_not_tolerated⟩
  | other => exact absurd rfl hk

theorem hashEvents_mismatch (l : List C20.CA) (oks : List Bool) (i : Nat) (a : C20.CA)
    (hl : l[i]? = some a) (ho : oks[i]? = some false) (hk : hashKind a.label ≠ .other) :
    ∃ e ∈ hashEvents l oks, e.isFailure = true ∧ e.ing = false ∧ C04.tolerated e.code = false := by
  obtain ⟨e, he, h⟩ := hashEvent_mismatch (hashKind a.label) hk
  exact ⟨e, mem_hashEvents.2 ⟨i, a, hl, by rw [List.getD_eq_getElem?_getD, ho]; exact he⟩, h⟩

theorem verifyStoreAB_cases (s : C20.Store) (oks : List Bool) (o : C20.Out) (b : Option Str)
    (h : verifyStoreAB s oks = some (o, b)) :
    ∃ o0, verifyStore s = some o0 ∧
      ((b = none ∧ o = o0) ∨
       (o0.err = false ∧ ∃ root bc, bindingClaim s = some (some (root, bc)) ∧ b = some bc.label ∧
          o = ⟨o0.log ++ bindingEvents bc oks, false⟩)) := by
  unfold verifyStoreAB at h
  split at h
  · cases h
  next o0 hv =>
  refine ⟨o0, hv, ?_⟩
  split at h
  · cases h; exact Or.inl ⟨rfl, rfl⟩
  next he =>
  split at h
  · cases h
  · cases h; exact Or.inl ⟨rfl, rfl⟩
  next root bc hb =>
  cases h
  exact Or.inr ⟨by simpa using he, root, bc, hb, rfl, rfl⟩

theorem verifyStoreAB_ok (s : C20.Store) (oks : List Bool) (o0 : C20.Out) (root bc : C20.Claim)
    (hv : verifyStore s = some o0) (he : o0.err = false)
    (hb : bindingClaim s = some (some (root, bc))) :
    verifyStoreAB s oks = some (⟨o0.log ++ bindingEvents bc oks, false⟩, some bc.label) := by
  unfold verifyStoreAB
  simp only [hv, he, hb, Bool.false_eq_true, if_false]

/-- **gates of the asset step** — `verify_store` with an asset logs hard-binding statuses only
after `verify_claim` of the active manifest and `ingredient_checks` returned `Ok`, and then for
the claim `get_hash_binding_manifest` names: a claim of the store, not an update manifest, with
a hard binding. In every other case the result is the result without the asset. -/
theorem verifyStoreAB_spec (s : C20.Store) (hnd : (s.map (·.label)).Nodup) (oks : List Bool)
    (o : C20.Out) (b : Option Str) (h : verifyStoreAB s oks = some (o, b)) :
    ∃ o0, verifyStore s = some o0 ∧
      ((b = none ∧ o = o0) ∨
       (o0.err = false ∧ ∃ root bc, bindingClaim s = some (some (root, bc)) ∧ b = some bc.label ∧
          getClaim s bc.label = some bc ∧ bc.update = false ∧ hasHash bc = true ∧
          o = ⟨o0.log ++ bindingEvents bc oks, false⟩)) := by
  obtain ⟨o0, hv, hcase⟩ := verifyStoreAB_cases s oks o b h
  refine ⟨o0, hv, hcase.imp id ?_⟩
  rintro ⟨he, root, bc, hb, hbl, ho⟩
  obtain ⟨_, hg, hu, hh⟩ := bindingClaim_spec s hnd root bc hb
  exact ⟨he, root, bc, hb, hbl, hg, hu, hh, ho⟩

/-- **content change ⇒ never Valid (store level)** — when the asset step is reached and the hash
of some hard binding of the binding claim does not match the asset, the Reader's state is
`Invalid`: the mismatch is logged for the active manifest's own validation (no ingredient URI;
its URL names the binding manifest — the *parent* when the active manifest is an update
manifest), so `from_store` keeps it whatever the ingredient assertions record. Before
`fixes/C20-from-store-active-claim-status-filter.patch` an update manifest that pre-recorded its
parent's mismatch made exactly this status disappear (harness variant `ok_plain_prerec`). -/
theorem content_mismatch_never_valid (s : C20.Store) (oks : List Bool) (o : C20.Out) (bl : Str)
    (h : verifyStoreAB s oks = some (o, some bl))
    (bc : C20.Claim) (root : C20.Claim) (hbc : bindingClaim s = some (some (root, bc)))
    (i : Nat) (a : C20.CA) (ha : (hashCAs bc)[i]? = some a) (hno : oks[i]? = some false)
    (hk : hashKind a.label ≠ .other)
    (sts : List St) (hdec : Decorates sts o.log)
    (active : Str) (recs : List Rec) (uriOf : St → List Char) (r0 res : C04.Results)
    (hrep : reportS active recs uriOf r0 sts = some res) :
    C04.state res = .invalid := by
  obtain ⟨o0, _, hb | ⟨_, root', bc', hbc', _, ho⟩⟩ := verifyStoreAB_cases s oks o _ h
  · cases hb.1
  rw [hbc] at hbc'; cases hbc'
  obtain ⟨e, hmem, hf, hing, ht⟩ := hashEvents_mismatch (hashCAs bc) oks i a ha hno hk
  have hin : e ∈ o.log := by
    rw [ho]
    exact List.mem_append_right _ (List.mem_append_right _ hmem)
  exact active_scope_failure_invalid _ e hin hf hing ht sts hdec active recs uriOf r0 res hrep

/-! ### the data hash matches iff the content outside the store is what was signed -/

/-- A data hash that was made over `signed` (`stored = H (sel excl 0 signed)`), with a
collision-free `H`, matches `asset` (`hashOk`, the bit per hard binding that `verifyStoreA` hands
to the asset step) **iff** the bytes selected in `asset` by the effective exclusions (re-based iff
the active manifest is an update manifest) are the signed selection. -/
theorem content_change_detected {α δ : Type} [DecidableEq δ] (H : List α → δ)
    (hinj : ∀ a b, H a = H b → a = b)
    (upd : Bool) (range : Option Rng) (excl : List Rng) (signed asset : List α) :
    hashOk H upd range asset ⟨H (sel excl 0 signed), excl⟩ = true ↔
      sel (effExcl upd range excl) 0 asset = sel excl 0 signed := by
  unfold hashOk
  simp only [decide_eq_true_eq]
  exact ⟨fun h => hinj _ _ h, fun h => by rw [h]⟩

/-- the two gates in one statement: under an active update manifest whose store moved from
`(s,m)` to `(s,m')`, the parent's data hash matches the updated asset `pre' ++ M' ++ post'` iff
the content outside the store is what the parent signed; under a non-update active manifest no
re-basing happens (`effExcl false`), the exclusions are used as they are. -/
theorem update_binding_iff_content {α δ : Type} [DecidableEq δ] (H : List α → δ)
    (hinj : ∀ a b, H a = H b → a = b)
    (E1 E2 : List Rng) (s m m' : Nat) (pre pre' M M' post post' : List α)
    (hpre' : pre'.length = s) (hM : M.length = m) (hM' : M'.length = m')
    (hs : 0 < s) (hm : 0 < m)
    (hE1 : ∀ e ∈ E1, e.start ≠ s)
    (hdisj : ∀ e ∈ E1 ++ E2, e.start + e.len ≤ s ∨ s + m ≤ e.start)
    (hgrow : m ≤ m' ∨ ∀ e ∈ E1 ++ E2, e.start + e.len ≤ s) :
    hashOk H true (some ⟨s, m'⟩) (pre' ++ M' ++ post')
        ⟨H (sel (E1 ++ ⟨s, m⟩ :: E2) 0 (pre ++ M ++ post)), E1 ++ ⟨s, m⟩ :: E2⟩ = true ↔
      sel (E1 ++ ⟨s, m⟩ :: E2) 0 (pre' ++ M ++ post') =
        sel (E1 ++ ⟨s, m⟩ :: E2) 0 (pre ++ M ++ post) := by
  rw [content_change_detected H hinj]
  simp only [effExcl, if_true]
  exact content_bound_after_update E1 E2 s m m' pre pre' M M' post post' hpre' hM hM' hs hm hE1 hdisj hgrow

theorem effExcl_not_update (range : Option Rng) (excl : List Rng) : effExcl false range excl = excl := rfl

/-- changing a selected byte changes the selection: a byte at an uncovered offset of the asset
is part of what is hashed -/
theorem selected_byte_matters {α : Type} (excl : List Rng) (pre post : List α) (x y : α) (hxy : x ≠ y)
    (hunc : covered excl pre.length = false) :
    sel excl 0 (pre ++ x :: post) ≠ sel excl 0 (pre ++ y :: post) := by
  have hx : ∀ z : α, sel excl pre.length (z :: post) = z :: sel excl (pre.length + 1) post := by
    intro z; simp [sel, hunc]
  intro h
  rw [sel_append, sel_append, Nat.zero_add, hx x, hx y] at h
  have h' := List.append_cancel_left h
  injection h' with h1 _
  exact hxy h1

/-- **length-changing content mutations** — appending to, truncating or inserting into a tail of
the asset no exclusion covers changes the selection (so, with `content_change_detected`, the
binding does not match) -/
theorem tail_length_change_matters {α : Type} (excl : List Rng) (pre post post' : List α)
    (hlen : post.length ≠ post'.length)
    (hunc : ∀ j, covered excl (pre.length + j) = false) :
    sel excl 0 (pre ++ post) ≠ sel excl 0 (pre ++ post') := by
  intro h
  rw [sel_append, sel_append, Nat.zero_add] at h
  have h' := List.append_cancel_left h
  rw [sel_uncovered excl post _ (fun j _ => hunc j), sel_uncovered excl post' _ (fun j _ => hunc j)] at h'
  exact hlen (congrArg List.length h')

/-! ### constants read from the sources (translators/c20_labels.py) -/

theorem allowedUpdateActions_gen : allowedUpdateActions = C20.Gen.allowedUpdateActions := rfl
theorem cClaimThumb_gen : cClaimThumb = C20.Gen.claimThumbnail := rfl
/-- the thumbnail rule of the update branch is `count > 1` in the source; `manifestRules` has its
own literal `1`, which this equation does not mention -/
theorem updateThumbnailLimit_gen : C20.Gen.updateThumbnailLimit = 1 := rfl
theorem hashKind_labels_gen :
    [cHashData, cHashBoxes, cHashBmff] = C20.Gen.hashLabels.take 3 := rfl

example : rebase [⟨2, 1⟩, ⟨10, 5⟩, ⟨20, 2⟩] (some ⟨10, 9⟩) = [⟨2, 1⟩, ⟨10, 9⟩, ⟨24, 2⟩] := by decide +kernel
example : sel (rebase [⟨2, 1⟩, ⟨4, 2⟩, ⟨8, 1⟩] (some ⟨4, 3⟩)) 0 [0, 1, 2, 3, 90, 91, 92, 6, 7, 8, 9]
    = sel [⟨2, 1⟩, ⟨4, 2⟩, ⟨8, 1⟩] 0 [0, 1, 2, 3, 90, 91, 6, 7, 8, 9] := by decide +kernel
/-- the hypothesis `m ≤ m'` (or nothing excluded behind the store) is needed: a store that shrank
leaves later exclusions where they were -/
example : sel (rebase [⟨4, 3⟩, ⟨9, 1⟩] (some ⟨4, 2⟩)) 0 [0, 1, 2, 3, 90, 91, 7, 8, 9]
    ≠ sel [⟨4, 3⟩, ⟨9, 1⟩] 0 [0, 1, 2, 3, 90, 91, 92, 7, 8, 9] := by decide +kernel

def exUpdate : C20.Claim :=
  { label := "urn:c2pa:uu".toList, version := 2, update := true, sigOk := true, assertions := [],
    store := [⟨"c2pa.ingredient.v3".toList, 0, "h".toList, false,
                .ingredient (some ⟨.parentOf, 3, true, none, none⟩)⟩,
              ⟨"c2pa.actions.v2".toList, 0, "g".toList, false,
                .actions [⟨"c2pa.opened".toList, none⟩, ⟨"c2pa.published".toList, none⟩]⟩],
    redactions := none, boxHash := [], sigHash := [], dataHash := [] }

example : manifestRules exUpdate false = [] := by
  unfold exUpdate
  decide_run
example : manifestRules { exUpdate with store := exUpdate.store ++ [⟨"c2pa.hash.data".toList, 0, [], false, .hash⟩] } false
    = [C20.fail "manifest.update.invalid" false] := by
  unfold exUpdate C20.fail
  decide_run
example : manifestRules { exUpdate with store := exUpdate.store.drop 1 } false
    = [C20.fail "manifest.update.wrongParents" false] := by
  unfold exUpdate C20.fail
  decide_run

/-! the asset step on the one-manifest store of `Props/C20.lean` (`exSolo`, data hash `h7`) -/

theorem exSolo_binding : bindingClaim [exSolo] = some (some (exSolo, exSolo)) := by
  unfold bindingClaim
  have hg : getClaim [exSolo] lA = some exSolo := exSolo_label ▸ getClaim_head exSolo _
  simp only [List.getLast?_singleton, fuelFor, List.length_singleton, Nat.reduceAdd, exSolo_hbm, hg]

example : (([exSolo] : C20.Store).map (·.label)).Nodup := by
  unfold exSolo lA
  decide_run
theorem exSolo_hashCAs : hashCAs exSolo = [exHashCA "h7"] ∧ hashKind (exHashCA "h7").label = .data := by
  unfold exSolo exHashCA lA uriB lB
  decide_run
example : hashCAs exSolo = [exHashCA "h7"] ∧ hashKind (exHashCA "h7").label = .data := by
  exact exSolo_hashCAs

theorem exSolo_bindingEvents :
    bindingEvents exSolo [false] = [C20.fail "assertion.dataHash.mismatch" false] := by
  rw [bindingEvents, exSolo_hashCAs.1, hashEvents, exSolo_hashCAs.2]
  rfl

theorem exSolo_mismatch_run : verifyStoreAB [exSolo] [false] =
    some (⟨logSolo ++ [C20.fail "assertion.dataHash.mismatch" false], false⟩, some lA) := by
  rw [verifyStoreAB_ok [exSolo] [false] _ exSolo exSolo exSolo_run rfl exSolo_binding,
    exSolo_bindingEvents, exSolo_label]

/-- content changed (`oks = [false]`): the mismatch is logged behind the store log, for `lA` -/
example : verifyStoreAB [exSolo] [false] =
    some (⟨logSolo ++ [C20.fail "assertion.dataHash.mismatch" false], false⟩, some lA) :=
  exSolo_mismatch_run

/-- all hypotheses of `content_mismatch_never_valid` hold for it -/
example (sts : List St)
    (hdec : Decorates sts (logSolo ++ [C20.fail "assertion.dataHash.mismatch" false]))
    (active : Str) (recs : List Rec) (uriOf : St → List Char) (r0 res : C04.Results)
    (hrep : reportS active recs uriOf r0 sts = some res) : C04.state res = .invalid :=
  content_mismatch_never_valid [exSolo] [false] _ lA exSolo_mismatch_run exSolo exSolo exSolo_binding 0
    (exHashCA "h7") (by rw [exSolo_hashCAs.1]; rfl) rfl (by rw [exSolo_hashCAs.2]; exact HK.noConfusion)
    sts hdec active recs uriOf r0 res hrep

/-- an update manifest on top of a base: `get_hash_binding_manifest` names the base -/
def exUpdOnBase : C20.Claim :=
  { label := lA, version := 2, update := true, sigOk := true, assertions := [],
    store := [exIngCA "b1"], redactions := none, boxHash := [], sigHash := [], dataHash := [] }

example : hbm [exBase true, exUpdOnBase] 4 exUpdOnBase [] = some (some lB) := by
  unfold hbm hbScan
  decide +kernel

/-- `content_bound_after_update` on numbers: store `(4,2)` grew to `(4,3)`; the tail was
truncated by one byte: the binding does not match, and the right-hand side says why -/
example : sel (rebase [⟨2, 1⟩, ⟨4, 2⟩] (some ⟨4, 3⟩)) 0 ([0, 1, 2, 3] ++ [90, 91, 92] ++ [6, 7])
    ≠ sel [⟨2, 1⟩, ⟨4, 2⟩] 0 ([0, 1, 2, 3] ++ [80, 81] ++ [6, 7, 8]) := by decide +kernel
example : sel [⟨2, 1⟩, ⟨4, 2⟩] 0 ([0, 1, 2, 3] ++ [80, 81] ++ [6, 7])
    ≠ sel [⟨2, 1⟩, ⟨4, 2⟩] 0 ([0, 1, 2, 3] ++ [80, 81] ++ [6, 7, 8]) := by decide +kernel
example : ∀ j, covered [⟨2, 1⟩, ⟨4, 2⟩] (([0, 1, 2, 3, 80, 81] : List Nat).length + j) = false := by
  intro j; simp [covered]; omega

end C2pa.C21
