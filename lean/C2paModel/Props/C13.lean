import C2paModel.Lemmas.C13Pipe
import C2paModel.Lemmas.C13Count
import C2paModel.Lemmas.C13Env
/-
C13 — property theorems. The statement (properties.jsonl):

  Hashing a stream with a set of exclusion (or inclusion) ranges yields the digest of the
  concatenation of exactly the bytes not excluded (or the bytes included, in range order), with
  BMFF offset markers contributing their 8-byte big-endian offsets at their positions. This
  holds for unsorted, overlapping, adjacent and empty ranges, independent of the internal
  read-chunk size and thread pipelining; ranges reaching past the end of the data are rejected
  with an error and nothing panics.

`hashModel` (Model/C13.lean) returns the byte string that is fed to the hasher, so "the digest
is the digest of X" is "the absorbed string is X": for every hash function `H`,
`H absorbed = H X` (idealisation H-free of DESIGN §3 is not even needed for this direction).

Specifications used below (Lemmas/C13Spec.lean):
* `exclSpec data hr` — position-wise: for x = 0,1,…: the offset `x` big-endian `markerCopies`
  times, then byte x unless an exclusion range covers it. Entries that carry a BMFF offset are
  markers, not ranges. A marker contributes when its position is hashed or lies strictly between
  the first and the last hashed byte (strictly inside the stream when nothing is hashed);
  duplicates of a marker at a hashed position are all kept, at an excluded position they
  collapse to one (this is what the code does; no caller passes duplicates).
* `inclSpec data hr` — entries in start order (stable), each non-empty entry contributing its
  optional offset and then its bytes.
* `digestSpec data hr isExcl` (below) — `exclSpec`, `inclSpec` or the whole stream, by the inputs;
  `digest_eq` is the one theorem behind `excl_digest`, `incl_digest`, `whole_digest`,
  `chunk_independent`.
The theorems quantify over every stream, every entry list (any order, overlaps, empties,
arbitrary `Nat` starts/lengths/offsets), every chunk size ≥ 1 and every cancellation point; the existence
theorems (`accepted_of_within`, `…complete…`, `chunk_independent_ok…`) run with `cancel = none`, and
`no_counter_overflow_production` fixes chunk size 2^28 and exclusion mode.
-/
namespace C2pa.C13

/-! ### the digest -/

theorem hashModel_ok_inv {alg : String} {data : List UInt8} {hr : Option (List HashRange)}
    {isExcl : Bool} {buf : Nat} {c : Option Nat} {abs : List UInt8} {prog : List (Nat × Nat)}
    (h : hashModel alg data hr isExcl buf c = .ok abs prog) :
    supported alg = true ∧ 1 ≤ data.length ∧
      ∃ ps T st, buildPieces data.length hr isExcl = .ok ps ∧ totalOf buf ps 0 = .ok T ∧
        runPieces data buf T c ps {} = .ok st ∧ abs = st.absorbed ∧ prog = st.prog := by
  rw [hashModel_eq] at h
  rcases front_cases alg data.length hr isExcl with ⟨o, he, e⟩ | ⟨halg, h1, ps, hps, e⟩
  · rw [e] at h; subst h; rcases he with he | he | he <;> cases he
  · rw [e] at h
    obtain ⟨T, st, r⟩ := back_ok_inv h
    exact ⟨halg, h1, ps, T, st, hps, r⟩

theorem ok_absorbed {alg : String} {data : List UInt8} {hr : Option (List HashRange)}
    {isExcl : Bool} {buf : Nat} {c : Option Nat} {abs : List UInt8} {prog : List (Nat × Nat)}
    (h : hashModel alg data hr isExcl buf c = .ok abs prog) :
    ∃ ps, buildPieces data.length hr isExcl = .ok ps ∧ abs = ps.flatMap (pieceBytes data) := by
  obtain ⟨_, _, ps, T, st, hb, _, hrun, ha, _⟩ := hashModel_ok_inv h
  exact ⟨ps, hb, by rw [ha, runPieces_ok ps {} st hrun]; rfl⟩

def digestSpec (data : List UInt8) : Option (List HashRange) → Bool → List UInt8
  | some (h :: t), true => exclSpec data (h :: t)
  | some (h :: t), false => inclSpec data (h :: t)
  | _, _ => data

/-- **The digest**: whenever a digest is returned, the bytes absorbed are `digestSpec`; chunk size,
cancellation point and algorithm do not enter. -/
theorem digest_eq {alg : String} {data : List UInt8} {hr : Option (List HashRange)} {isExcl : Bool}
    {buf : Nat} {c : Option Nat} {abs : List UInt8} {prog : List (Nat × Nat)}
    (h : hashModel alg data hr isExcl buf c = .ok abs prog) : abs = digestSpec data hr isExcl := by
  obtain ⟨ps, hb, rfl⟩ := ok_absorbed h
  have h1 := (hashModel_ok_inv h).2.1
  match hr, isExcl, hb with
  | some (a :: t), true, hb => exact (buildPieces_excl (List.cons_ne_nil _ _) h1 hb).1
  | some (a :: t), false, hb => exact inclLoop_spec data (buildPieces_cons_ok hb).2
  | none, _, hb | some [], _, hb =>
    cases hb
    show (List.drop 0 data).take (data.length - 1 + 1 - 0) ++ [] = data
    rw [List.append_nil, List.drop_zero, List.take_of_length_le (by omega)]

/-- **Exclusion hashing**: whenever a digest is returned for a non-empty exclusion list, the
bytes absorbed are exactly the position-wise specification (so the digest is its digest). -/
theorem excl_digest (alg : String) (data : List UInt8) (hr : List HashRange) (buf : Nat)
    (c : Option Nat) (abs : List UInt8) (prog : List (Nat × Nat)) (hne : hr ≠ [])
    (h : hashModel alg data (some hr) true buf c = .ok abs prog) : abs = exclSpec data hr := by
  cases hr with
  | nil => exact absurd rfl hne
  | cons a t => exact digest_eq h

/-- `excl_digest` as a statement about digests, for any hash function `H` -/
theorem excl_digest_hash {δ : Type} (H : List UInt8 → δ) (alg : String) (data : List UInt8)
    (hr : List HashRange) (buf : Nat) (c : Option Nat) (abs : List UInt8) (prog : List (Nat × Nat))
    (hne : hr ≠ []) (h : hashModel alg data (some hr) true buf c = .ok abs prog) :
    H abs = H (exclSpec data hr) := by
  rw [excl_digest alg data hr buf c abs prog hne h]

/-- no ranges (`None` or an empty list): the whole stream -/
theorem whole_digest (alg : String) (data : List UInt8) (hr : Option (List HashRange))
    (isExcl : Bool) (buf : Nat) (c : Option Nat) (abs : List UInt8) (prog : List (Nat × Nat))
    (hnone : hr = none ∨ hr = some [])
    (h : hashModel alg data hr isExcl buf c = .ok abs prog) : abs = data := by
  rcases hnone with rfl | rfl <;> exact digest_eq h

/-- **Inclusion hashing**: the bytes absorbed are the entries in start order. -/
theorem incl_digest (alg : String) (data : List UInt8) (hr : List HashRange) (buf : Nat)
    (c : Option Nat) (abs : List UInt8) (prog : List (Nat × Nat)) (hne : hr ≠ [])
    (h : hashModel alg data (some hr) false buf c = .ok abs prog) : abs = inclSpec data hr := by
  cases hr with
  | nil => exact absurd rfl hne
  | cons a t => exact digest_eq h

/-- "in range order" is the stable sort by start: a permutation of the input, ordered by
start, entries with equal start in input order. -/
theorem range_order (hr : List HashRange) :
    (stableSort HashRange.start hr).Perm hr ∧
      (stableSort HashRange.start hr).Pairwise (fun a b => a.start ≤ b.start) ∧
      ∀ k, (stableSort HashRange.start hr).filter (fun a => a.start == k) =
        hr.filter (fun a => a.start == k) :=
  ⟨stableSort_perm _ _, stableSort_sorted _ _, stableSort_stable _ _⟩

/-! ### markers: where they contribute, and the decision about the hashed span

The property text says markers contribute "at their positions". The code (and therefore
`exclSpec`) hashes a marker offset `x` only when `x` lies in the hashed span (`inSpan`: byte `x`
is hashed, or `x` lies strictly between the first and the last hashed byte). `marker_exact` is
the exact statement for that rule; `marker_contributes` is its positive half without the
distinctness hypothesis; `marker_outside_span_dropped` is a concrete input on which the
unconditional reading fails (`markers_unconditional_false`). The witness is replayed on the
implementation by the harness (oracle class `marker-outside-span-dropped`). -/

/-- `x` is hashed or lies strictly inside the hashed span -/
def inSpan (n : Nat) (hr : List HashRange) (x : Nat) : Bool := included n hr x || between n hr x

theorem markerCopies_nodup (n : Nat) (hr : List HashRange) (x : Nat)
    (hnd : (markersOf hr).Nodup) :
    markerCopies n hr x = if x ∈ markersOf hr ∧ inSpan n hr x = true then 1 else 0 := by
  unfold markerCopies inSpan
  rw [hnd.count]
  by_cases hm : x ∈ markersOf hr <;> cases hi : included n hr x <;> simp [hm]

theorem markerCopies_pos {n : Nat} {hr : List HashRange} {x : Nat} (hm : x ∈ markersOf hr)
    (hin : inSpan n hr x = true) : 1 ≤ markerCopies n hr x := by
  unfold markerCopies
  unfold inSpan at hin
  cases hi : included n hr x
  · rw [hi, Bool.false_or] at hin
    rw [if_neg Bool.false_ne_true, List.contains_iff_mem.2 hm, hin]
    exact Nat.le_refl _
  · rw [if_pos rfl]
    exact List.count_pos_iff.2 hm

/-- **Markers, exactly**: with pairwise distinct marker offsets (what the BMFF code produces),
the absorbed string is, position by position: the 8-byte big-endian offset `x` iff `x` is a
marker offset inside the hashed span, followed by byte `x` iff no exclusion covers it. A marker
never replaces or duplicates a data byte, whatever the length of the run it sits in. -/
theorem marker_exact (alg : String) (data : List UInt8) (hr : List HashRange) (buf : Nat)
    (c : Option Nat) (abs : List UInt8) (prog : List (Nat × Nat)) (hne : hr ≠ [])
    (hnd : (markersOf hr).Nodup)
    (h : hashModel alg data (some hr) true buf c = .ok abs prog) :
    abs = (List.range data.length).flatMap fun x =>
      (if x ∈ markersOf hr ∧ inSpan data.length hr x = true then be64 x else []) ++
        (if included data.length hr x then byteAt data x else []) := by
  rw [excl_digest alg data hr buf c abs prog hne h]
  unfold exclSpec
  apply Data.flatMap_congr_mem
  intro x _
  rw [markerCopies_nodup _ _ _ hnd]
  by_cases hc : x ∈ markersOf hr ∧ inSpan data.length hr x = true
  · rw [if_pos hc, if_pos hc]; simp
  · rw [if_neg hc, if_neg hc]; simp

theorem exclSpec_split (data : List UInt8) (hr : List HashRange) (x : Nat) (hx : x < data.length) :
    exclSpec data hr = (List.range x).flatMap (specAt data hr) ++ specAt data hr x ++
      (List.range' (x + 1) (data.length - (x + 1))).flatMap (specAt data hr) := by
  have e1 : List.range data.length = List.range' 0 x ++ List.range' (0 + x) (data.length - x) := by
    rw [List.range_eq_range']; exact range'_split 0 data.length x (by omega)
  have e2 : data.length - x = (data.length - (x + 1)) + 1 := by omega
  show (List.range data.length).flatMap (specAt data hr) = _
  rw [e1, e2, List.range'_succ, List.flatMap_append, List.flatMap_cons, ← List.range_eq_range',
    Nat.zero_add, List.append_assoc]

/-- **A marker in the hashed span contributes at its position**: for a marker offset `x` inside
the stream that is hashed or lies strictly between hashed bytes, the absorbed string is the
contributions of the positions `< x`, then the 8-byte big-endian `x`, then the rest. -/
theorem marker_contributes (alg : String) (data : List UInt8) (hr : List HashRange) (buf : Nat)
    (c : Option Nat) (abs : List UInt8) (prog : List (Nat × Nat)) (hne : hr ≠ [])
    (h : hashModel alg data (some hr) true buf c = .ok abs prog) (x : Nat)
    (hx : x < data.length) (hm : x ∈ markersOf hr) (hin : inSpan data.length hr x = true) :
    ∃ post, abs = (List.range x).flatMap (specAt data hr) ++ be64 x ++ post := by
  rw [excl_digest alg data hr buf c abs prog hne h, exclSpec_split data hr x hx]
  have hpos := markerCopies_pos hm hin
  obtain ⟨k, hk⟩ : ∃ k, markerCopies data.length hr x = k + 1 := ⟨_, (Nat.sub_add_cancel hpos).symm⟩
  refine ⟨(List.replicate k (be64 x)).flatten ++
    (if included data.length hr x then byteAt data x else []) ++
    (List.range' (x + 1) (data.length - (x + 1))).flatMap (specAt data hr), ?_⟩
  unfold specAt
  rw [hk, List.replicate_succ, List.flatten_cons]
  simp only [List.append_assoc]

/-- a marker on an excluded position before the first hashed byte: **not hashed** (exclusion
0..1, marker at 0 on ten bytes: only the bytes 2..9 are absorbed) -/
theorem marker_outside_span_dropped :
    hashModel "sha256" [10, 11, 12, 13, 14, 15, 16, 17, 18, 19]
      (some [⟨0, 2, none⟩, ⟨0, 1, some 0⟩]) true 3 none =
    .ok [12, 13, 14, 15, 16, 17, 18, 19] [(1, 3), (2, 3), (3, 3)] := by decide +kernel

/-- a marker on an excluded position after the last hashed byte: not hashed either (exclusion 8..9,
marker at 9) -/
theorem marker_after_span_dropped :
    hashModel "sha256" [10, 11, 12, 13, 14, 15, 16, 17, 18, 19]
      (some [⟨8, 2, none⟩, ⟨9, 1, some 9⟩]) true 4 none =
    .ok [10, 11, 12, 13, 14, 15, 16, 17] [(1, 2), (2, 2)] := by decide +kernel

/-- The unconditional reading of "markers contribute their offsets at their positions": every
marker offset inside the stream is hashed, inside the hashed span or not. -/
def MarkersUnconditionalFull : Prop :=
  ∀ (alg : String) (data : List UInt8) (hr : List HashRange) (buf : Nat) (c : Option Nat)
    (abs : List UInt8) (prog : List (Nat × Nat)), hr ≠ [] → (markersOf hr).Nodup →
    hashModel alg data (some hr) true buf c = .ok abs prog →
    abs = (List.range data.length).flatMap fun x =>
      (if x ∈ markersOf hr then be64 x else []) ++
        (if included data.length hr x then byteAt data x else [])

/-- the unconditional reading is false of the code: `marker_exact` (with `inSpan`) is the
statement that holds -/
theorem markers_unconditional_false : ¬ MarkersUnconditionalFull := by
  intro hfull
  have := hfull _ _ _ _ _ _ _ (by decide) (by decide) marker_outside_span_dropped
  revert this
  decide +kernel

/-! ### the end check: an entry past the end of the data is rejected -/

theorem hashModel_ok_within {alg : String} {data : List UInt8} {hr : List HashRange}
    {isExcl : Bool} {buf : Nat} {c : Option Nat} {abs : List UInt8} {prog : List (Nat × Nat)}
    (h : hashModel alg data (some hr) isExcl buf c = .ok abs prog) :
    ∀ x ∈ hr, x.start + x.length ≤ data.length :=
  let ⟨_, hb, _⟩ := ok_absorbed h
  buildPieces_ok_within hb

/-- **Every entry that reaches past the end of the data is rejected** (any position in the
list, either mode): no digest is returned. -/
theorem past_end_rejected (alg : String) (data : List UInt8) (hr : List HashRange) (isExcl : Bool)
    (buf : Nat) (c : Option Nat) (x : HashRange) (hx : x ∈ hr)
    (hpast : data.length < x.start + x.length) :
    ∀ abs prog, hashModel alg data (some hr) isExcl buf c ≠ .ok abs prog := by
  intro abs prog h
  have := hashModel_ok_within h x hx
  omega

/-- With a supported algorithm and a non-empty stream, an entry past the end of the data gives the
`BadParam` error, before any progress callback. -/
theorem past_end_error (alg : String) (data : List UInt8) (hr : List HashRange) (isExcl : Bool)
    (buf : Nat) (c : Option Nat) (x : HashRange) (hx : x ∈ hr)
    (hpast : data.length < x.start + x.length) (halg : supported alg = true)
    (hdata : 1 ≤ data.length) :
    hashModel alg data (some hr) isExcl buf c = .err .badparam [] := by
  rw [hashModel_eq, front_eq halg hdata]
  cases hb : buildPieces data.length (some hr) isExcl with
  | error s => rw [buildPieces_error hb]; rfl
  | ok ps => have := buildPieces_ok_within hb x hx; omega

/-! ### how a run can end -/

/-- Where builder and run meet. What follows about outcomes, counters, completeness and cancellation
is read off this, or off `outcome_cases`, which puts the early rejections beside it. -/
theorem outcome_of_built {alg : String} {data : List UInt8} {hr : Option (List HashRange)}
    {isExcl : Bool} {buf : Nat} (c : Option Nat) {ps : List Piece} (halg : supported alg = true)
    (h1 : 1 ≤ data.length) (hlen : data.length ≤ u64Max) (hb : 0 < buf)
    (hps : buildPieces data.length hr isExcl = .ok ps) :
    Late data buf c ps (hashModel alg data hr isExcl buf c) := by
  rw [hashModel_eq, front_eq halg h1, hps]
  exact back_late (buildPieces_pieceOK h1 hlen hps) hb

/-- what a run can end with when the stream length fits `u64` and the chunk size is ≥ 1 -/
theorem outcome_cases (alg : String) (data : List UInt8) (hr : Option (List HashRange))
    (isExcl : Bool) (buf : Nat) (c : Option Nat) (hlen : data.length ≤ u64Max) (hb : 0 < buf) :
    let o := hashModel alg data hr isExcl buf c
    Early o ∨ ∃ ps, buildPieces data.length hr isExcl = .ok ps ∧ Late data buf c ps o := by
  intro o
  rcases front_cases alg data.length hr isExcl with ⟨o', he, e⟩ | ⟨halg, h1, ps, hps, _⟩
  · have : o = o' := e _
    exact .inl (this ▸ he)
  · exact .inr ⟨ps, hps, outcome_of_built c halg h1 hlen hb hps⟩

theorem hashModel_err_cases {alg : String} {data : List UInt8} {hr : Option (List HashRange)}
    {isExcl : Bool} {buf : Nat} {c : Option Nat} {e : Err} {prog : List (Nat × Nat)}
    (hlen : data.length ≤ u64Max) (hb : 0 < buf)
    (h : hashModel alg data hr isExcl buf c = .err e prog) :
    Early (.err e prog) ∨
      ∃ ps n, buildPieces data.length hr isExcl = .ok ps ∧ e = .cancelled ∧
        prog = ticks (wrapCount buf ps) n ∧ 0 < n ∧ n ≤ chunkCount buf ps ∧ c = some n := by
  have := outcome_cases alg data hr isExcl buf c hlen hb
  rw [h] at this
  rcases this with he | ⟨ps, hps, hl⟩
  · exact .inl he
  · cases hl with
    | cancelled n h0 hn hc => exact .inr ⟨ps, n, hps, rfl, rfl, h0, hn, hc⟩

/-- Completeness at the level of the piece list; `accepted_of_within` and `accepted_of_within_input`
are instances. -/
theorem accepted_of_built {alg : String} {data : List UInt8} {hr : Option (List HashRange)}
    {isExcl : Bool} {buf : Nat} (c : Option Nat) {ps : List Piece} (halg : supported alg = true)
    (h1 : 1 ≤ data.length) (hlen : data.length ≤ u64Max) (hb : 0 < buf)
    (hps : buildPieces data.length hr isExcl = .ok ps) (hcc : chunkCount buf ps ≤ u32Max)
    (hc : ∀ k, c = some k → k = 0 ∨ chunkCount buf ps < k) :
    hashModel alg data hr isExcl buf c =
      .ok (ps.flatMap (pieceBytes data)) (ticks (chunkCount buf ps) (chunkCount buf ps)) := by
  generalize ho : hashModel alg data hr isExcl buf c = o
  cases ho ▸ outcome_of_built c halg h1 hlen hb hps with
  | overflow h => omega
  | cancelled n h0 hn hcn => rcases hc n hcn with hz | hz <;> omega
  | digest => rfl

/-! ### no panic; completeness, chunk-size independence and the callback sequence while the piece list
needs at most `u32::MAX` callbacks -/

/-- **No arithmetic panic**: for every input — any `u64` starts, lengths and offsets, including
`u64::MAX`, any order, any mode, any chunk size ≥ 1 — the u64 range arithmetic never overflows
or underflows, the chunk loop terminates and no read goes past the end of the stream. -/
theorem no_panic (alg : String) (data : List UInt8) (hr : Option (List HashRange)) (isExcl : Bool)
    (buf : Nat) (c : Option Nat) (hlen : data.length ≤ u64Max) (hb : 0 < buf) :
    hashModel alg data hr isExcl buf c ≠ .panic .arith ∧
    hashModel alg data hr isExcl buf c ≠ .panic .fuel ∧
    ∀ p, hashModel alg data hr isExcl buf c ≠ .err .io p := by
  have := outcome_cases alg data hr isExcl buf c hlen hb
  simp only at this
  generalize hashModel alg data hr isExcl buf c = o at this ⊢
  rcases this with he | ⟨ps, _, hl⟩
  · cases he <;> exact ⟨nofun, nofun, fun _ => nofun⟩
  · cases hl <;> exact ⟨nofun, nofun, fun _ => nofun⟩

/-- The full "nothing panics" for the `u32` progress counters `total` and `step`
(overflow-checked builds). -/
def NoCounterOverflowFull : Prop :=
  ∀ (alg : String) (data : List UInt8) (hr : Option (List HashRange)) (isExcl : Bool) (buf : Nat)
    (c : Option Nat), data.length ≤ u64Max → 0 < buf →
    hashModel alg data hr isExcl buf c ≠ .panic .counter

/-- The `u32` progress counters do not overflow as long as the run needs at most `u32::MAX`
callbacks (one per chunk). The hypothesis is about the piece list; `no_counter_overflow_input`
replaces it by a bound computed from the inputs, `no_counter_overflow_production` instantiates
that at the production chunk size 2^28 in exclusion mode (streams < 2^59 bytes, < 2^30 entries). -/
theorem no_counter_overflow_partial (alg : String) (data : List UInt8)
    (hr : Option (List HashRange)) (isExcl : Bool) (buf : Nat) (c : Option Nat)
    (hlen : data.length ≤ u64Max) (hb : 0 < buf)
    (hcnt : ∀ ps, buildPieces data.length hr isExcl = .ok ps → chunkCount buf ps ≤ u32Max) :
    hashModel alg data hr isExcl buf c ≠ .panic .counter := by
  have := outcome_cases alg data hr isExcl buf c hlen hb
  simp only at this
  intro hp
  rw [hp] at this
  -- the only outcome with a counter panic is the one with `chunkCount > u32::MAX`
  rcases this with he | ⟨ps, hbd, hl⟩
  · cases he
  · cases hl with
    | overflow hgt => have := hcnt ps hbd; omega

/-- **Completeness**: a supported algorithm, a non-empty stream, every entry inside the data,
no cancellation, counters in range ⇒ a digest is returned, of the pieces' bytes, after exactly
`T` callbacks `(1,T) … (T,T)`. (Non-vacuity of the `… = .ok …` hypotheses above.) -/
theorem accepted_of_within (alg : String) (data : List UInt8) (hr : List HashRange) (isExcl : Bool)
    (buf : Nat) (halg : supported alg = true) (h1 : 1 ≤ data.length) (hlen : data.length ≤ u64Max)
    (hb : 0 < buf) (hall : ∀ x ∈ hr, x.start + x.length ≤ data.length)
    (hcnt : ∀ ps, buildPieces data.length (some hr) isExcl = .ok ps → chunkCount buf ps ≤ u32Max) :
    ∃ ps, buildPieces data.length (some hr) isExcl = .ok ps ∧
      hashModel alg data (some hr) isExcl buf none =
        .ok (ps.flatMap (pieceBytes data)) (ticks (chunkCount buf ps) (chunkCount buf ps)) := by
  obtain ⟨ps, hps⟩ := buildPieces_of_within hr isExcl hlen hall
  exact ⟨ps, hps, accepted_of_built none halg h1 hlen hb hps (hcnt ps hps) (fun _ hk => nomatch hk)⟩

/-- **Chunk-size independence**: two successful runs on the same input with any two chunk sizes
(and any cancellation settings) absorbed the same byte string. -/
theorem chunk_independent (alg : String) (data : List UInt8) (hr : Option (List HashRange))
    (isExcl : Bool) (b1 b2 : Nat) (c1 c2 : Option Nat) (a1 a2 : List UInt8)
    (p1 p2 : List (Nat × Nat))
    (h1 : hashModel alg data hr isExcl b1 c1 = .ok a1 p1)
    (h2 : hashModel alg data hr isExcl b2 c2 = .ok a2 p2) : a1 = a2 :=
  (digest_eq h1).trans (digest_eq h2).symm

/-- Whether a digest is returned does not depend on the chunk size either, as long as the progress
counters stay in range. -/
theorem chunk_independent_ok (alg : String) (data : List UInt8) (hr : Option (List HashRange))
    (isExcl : Bool) (b1 b2 : Nat) (a1 : List UInt8) (p1 : List (Nat × Nat))
    (hlen : data.length ≤ u64Max) (hb2 : 0 < b2)
    (hcnt : ∀ ps, buildPieces data.length hr isExcl = .ok ps → chunkCount b2 ps ≤ u32Max)
    (h1 : hashModel alg data hr isExcl b1 none = .ok a1 p1) :
    ∃ p2, hashModel alg data hr isExcl b2 none = .ok a1 p2 := by
  obtain ⟨halg, hd, _⟩ := hashModel_ok_inv h1
  obtain ⟨ps, hps, e1⟩ := ok_absorbed h1
  exact ⟨_, by rw [accepted_of_built none halg hd hlen hb2 hps (hcnt ps hps) (fun _ hk => nomatch hk), e1]⟩

/-- **Progress callbacks are well-formed**: the callback sees (1,T),(2,T),… with a constant
total; a successful run ends with (T,T) exactly; a cancelled run stops at the cancelling call
`n ≤` the number of chunks, which is `T` whenever the counters are in range. -/
theorem progress_wf (alg : String) (data : List UInt8) (hr : Option (List HashRange))
    (isExcl : Bool) (buf : Nat) (c : Option Nat) (hlen : data.length ≤ u64Max) (hb : 0 < buf) :
    (∀ abs prog, hashModel alg data hr isExcl buf c = .ok abs prog →
        ∃ T, T ≤ u32Max ∧ prog = ticks T T) ∧
    (∀ e prog, hashModel alg data hr isExcl buf c = .err e prog →
        prog = [] ∨ ∃ T n ps, prog = ticks T n ∧ e = .cancelled ∧ c = some n ∧ 0 < n ∧
          buildPieces data.length hr isExcl = .ok ps ∧ n ≤ chunkCount buf ps ∧
          (chunkCount buf ps ≤ u32Max → T = chunkCount buf ps)) := by
  have := outcome_cases alg data hr isExcl buf c hlen hb
  simp only at this
  refine ⟨?_, ?_⟩
  · intro abs prog h
    rw [h] at this
    rcases this with he | ⟨ps, _, hl⟩
    · cases he
    · cases hl with
      | digest hc => exact ⟨_, hc, rfl⟩
  · intro e prog h
    rcases hashModel_err_cases hlen hb h with he | ⟨ps, n, hbd, rfl, rfl, h0, hn, hc⟩
    · cases he <;> exact Or.inl rfl
    · exact Or.inr ⟨_, n, ps, rfl, rfl, hc, h0, hbd, hn, fun hcc => wrapCount_eq buf ps hcc⟩

/-! ### the counter hypothesis is necessary (model level, overflow-checked build)

A 4 GiB stream hashed with chunk size 1 needs 2^32 callbacks: `total` is computed as
`2^32 as u32 = 0` and `step += 1` overflows at the 2^32-th chunk. This needs the test-only
chunk-size parameter (the public entry points use 2^28, where the same needs a stream of more than
2^60 − 2^28 bytes: the true threshold, of which `no_counter_overflow_production` proves the part below 2^59)
and 2^32 worker-thread spawns, so it is *not replayed on the implementation*;
it is recorded here to show that `no_counter_overflow_partial` cannot drop its hypothesis. -/

theorem counter_overflow_witness :
    hashModel "sha256" (List.replicate 4294967296 0) none true 1 none = .panic .counter := by
  have hlenv : (List.replicate 4294967296 (0 : UInt8)).length = 4294967296 := List.length_replicate ..
  have hbuild : buildPieces (List.replicate 4294967296 (0 : UInt8)).length none true =
      .ok [⟨0, 4294967295, false⟩] := by rw [hlenv]; rfl
  have hcount : chunkCount 1 [⟨0, 4294967295, false⟩] = 4294967296 := by
    simp [chunkCount, ceilDiv_right_one]
  generalize ho : hashModel "sha256" (List.replicate 4294967296 0) none true 1 none = o
  cases ho ▸ outcome_of_built (alg := "sha256") none (by decide) (by rw [hlenv]; decide)
    (by rw [hlenv]; decide) (by decide : 0 < 1) hbuild with
  | overflow => rfl
  | cancelled _ _ _ h => cases h
  | digest h =>
    rw [hcount] at h
    exact absurd h (by decide)

theorem no_counter_overflow_full_false : ¬ NoCounterOverflowFull := by
  intro h
  exact h "sha256" (List.replicate 4294967296 0) none true 1 none
    (by rw [List.length_replicate]; decide) (by decide) counter_overflow_witness

/-! ### the same from the inputs: `callbackBound` in place of the hypothesis on the piece list -/

/-- **No counter overflow, input-level**: when `callbackBound` (a function of the stream
length, the number of entries, the mode and the chunk size) fits `u32`, the progress counters
do not overflow. -/
theorem no_counter_overflow_input (alg : String) (data : List UInt8)
    (hr : Option (List HashRange)) (isExcl : Bool) (buf : Nat) (c : Option Nat)
    (hlen : data.length ≤ u64Max) (hb : 0 < buf)
    (hbound : callbackBound data.length hr isExcl buf ≤ u32Max) :
    hashModel alg data hr isExcl buf c ≠ .panic .counter := by
  rcases front_cases alg data.length hr isExcl with ⟨o, he, e⟩ | ⟨_, h1, _⟩
  · -- rejected by a guard or by the builder: an error, not a panic
    rw [hashModel_eq, e]
    rcases he with rfl | rfl | rfl <;> nofun
  · exact no_counter_overflow_partial alg data hr isExcl buf c hlen hb fun ps hps =>
      Nat.le_trans (chunkCount_le_bound hps h1 hb) hbound

/-- `no_counter_overflow_input` at the production chunk size 2^28 (`MAX_HASH_BUF`), in exclusion
mode, for every stream shorter than 2^59 bytes with fewer than 2^30 entries. -/
theorem no_counter_overflow_production (alg : String) (data : List UInt8)
    (hr : Option (List HashRange)) (c : Option Nat)
    (hlen : data.length < 576460752303423488)
    (hn : ∀ l, hr = some l → l.length < 1073741824) :
    hashModel alg data hr true 268435456 c ≠ .panic .counter := by
  apply no_counter_overflow_input alg data hr true 268435456 c (by unfold u64Max; omega) (by omega)
  unfold callbackBound u32Max
  cases hr with
  | none => simp only; omega
  | some l =>
    cases l with
    | nil => simp only; omega
    | cons a t =>
      have := hn (a :: t) rfl
      simp only [if_true]
      omega

/-- **Completeness, input-level**: a supported algorithm, a non-empty stream, every entry
inside the data, `callbackBound` within `u32`, and a cancellation point (if any) beyond the
bound ⇒ a digest is returned, of the pieces' bytes, after exactly `T` callbacks. -/
theorem accepted_of_within_input (alg : String) (data : List UInt8) (hr : List HashRange)
    (isExcl : Bool) (buf : Nat) (c : Option Nat) (halg : supported alg = true)
    (h1 : 1 ≤ data.length) (hlen : data.length ≤ u64Max) (hb : 0 < buf)
    (hall : ∀ x ∈ hr, x.start + x.length ≤ data.length)
    (hbound : callbackBound data.length (some hr) isExcl buf ≤ u32Max)
    (hc : ∀ k, c = some k → k = 0 ∨ callbackBound data.length (some hr) isExcl buf < k) :
    ∃ ps, buildPieces data.length (some hr) isExcl = .ok ps ∧
      hashModel alg data (some hr) isExcl buf c =
        .ok (ps.flatMap (pieceBytes data)) (ticks (chunkCount buf ps) (chunkCount buf ps)) := by
  obtain ⟨ps, hps⟩ := buildPieces_of_within hr isExcl hlen hall
  have hle := chunkCount_le_bound hps h1 hb
  exact ⟨ps, hps, accepted_of_built c halg h1 hlen hb hps (Nat.le_trans hle hbound)
    fun k hk => (hc k hk).imp id (Nat.lt_of_le_of_lt hle)⟩

/-- Existence and value in either mode, with the counter hypothesis on the piece list: the run
returns a digest, and it is the digest of `digestSpec`. -/
theorem complete_of_count (alg : String) (data : List UInt8) (hr : List HashRange) (isExcl : Bool)
    (buf : Nat) (halg : supported alg = true) (h1 : 1 ≤ data.length) (hlen : data.length ≤ u64Max)
    (hb : 0 < buf) (hall : ∀ x ∈ hr, x.start + x.length ≤ data.length)
    (hcnt : ∀ ps, buildPieces data.length (some hr) isExcl = .ok ps → chunkCount buf ps ≤ u32Max) :
    ∃ prog, hashModel alg data (some hr) isExcl buf none =
      .ok (digestSpec data (some hr) isExcl) prog := by
  obtain ⟨ps, _, h⟩ := accepted_of_within alg data hr isExcl buf halg h1 hlen hb hall hcnt
  exact ⟨_, h.trans (by rw [← digest_eq h])⟩

theorem excl_complete_of_count (alg : String) (data : List UInt8) (hr : List HashRange) (buf : Nat)
    (halg : supported alg = true) (h1 : 1 ≤ data.length) (hlen : data.length ≤ u64Max)
    (hb : 0 < buf) (hne : hr ≠ []) (hall : ∀ x ∈ hr, x.start + x.length ≤ data.length)
    (hcnt : ∀ ps, buildPieces data.length (some hr) true = .ok ps → chunkCount buf ps ≤ u32Max) :
    ∃ prog, hashModel alg data (some hr) true buf none = .ok (exclSpec data hr) prog := by
  cases hr with
  | nil => exact absurd rfl hne
  | cons a t => exact complete_of_count alg data _ true buf halg h1 hlen hb hall hcnt

/-- **Exclusion hashing, existence and value**: every range inside the data and the callback
bound within `u32` ⇒ the run returns a digest and it is the digest of the specification. -/
theorem excl_complete (alg : String) (data : List UInt8) (hr : List HashRange) (buf : Nat)
    (halg : supported alg = true) (h1 : 1 ≤ data.length) (hlen : data.length ≤ u64Max)
    (hb : 0 < buf) (hne : hr ≠ []) (hall : ∀ x ∈ hr, x.start + x.length ≤ data.length)
    (hbound : data.length / buf + 2 * hr.length + 1 ≤ u32Max) :
    ∃ prog, hashModel alg data (some hr) true buf none = .ok (exclSpec data hr) prog := by
  refine excl_complete_of_count alg data hr buf halg h1 hlen hb hne hall fun ps hps =>
    Nat.le_trans (chunkCount_le_bound hps h1 hb) ?_
  rw [callbackBound_some hne, if_pos rfl]; exact hbound

/-- **Inclusion hashing, existence and value.** -/
theorem incl_complete (alg : String) (data : List UInt8) (hr : List HashRange) (buf : Nat)
    (halg : supported alg = true) (h1 : 1 ≤ data.length) (hlen : data.length ≤ u64Max)
    (hb : 0 < buf) (hne : hr ≠ []) (hall : ∀ x ∈ hr, x.start + x.length ≤ data.length)
    (hbound : hr.length * (data.length / buf + 2) ≤ u32Max) :
    ∃ prog, hashModel alg data (some hr) false buf none = .ok (inclSpec data hr) prog := by
  cases hr with
  | nil => exact absurd rfl hne
  | cons a t =>
    exact complete_of_count alg data _ false buf halg h1 hlen hb hall fun ps hps =>
      Nat.le_trans (chunkCount_le_bound hps h1 hb) hbound

/-- **Chunk-size independence of acceptance, input-level.** -/
theorem chunk_independent_ok_input (alg : String) (data : List UInt8)
    (hr : Option (List HashRange)) (isExcl : Bool) (b1 b2 : Nat) (a1 : List UInt8)
    (p1 : List (Nat × Nat)) (hlen : data.length ≤ u64Max) (hb2 : 0 < b2)
    (hbound : callbackBound data.length hr isExcl b2 ≤ u32Max)
    (h1 : hashModel alg data hr isExcl b1 none = .ok a1 p1) :
    ∃ p2, hashModel alg data hr isExcl b2 none = .ok a1 p2 := by
  obtain ⟨_, hd, _⟩ := hashModel_ok_inv h1
  exact chunk_independent_ok alg data hr isExcl b1 b2 a1 p1 hlen hb2
    (fun ps hps => Nat.le_trans (chunkCount_le_bound hps hd hb2) hbound) h1

/-! ### a late cancellation point; the order of the exclusion entries -/

/-- **A cancellation point beyond the last callback never fires**: the run with `cancel = k`,
`k` greater than the number of callbacks of the uncancelled run, returns the same result. -/
theorem cancel_beyond_count (alg : String) (data : List UInt8) (hr : Option (List HashRange))
    (isExcl : Bool) (buf k : Nat) (abs : List UInt8) (prog : List (Nat × Nat))
    (hlen : data.length ≤ u64Max) (hb : 0 < buf)
    (h : hashModel alg data hr isExcl buf none = .ok abs prog) (hk : prog.length < k) :
    hashModel alg data hr isExcl buf (some k) = .ok abs prog := by
  obtain ⟨halg, hd, _⟩ := hashModel_ok_inv h
  obtain ⟨ps, hps, _⟩ := ok_absorbed h
  have o1 := outcome_of_built none halg hd hlen hb hps
  rw [h] at o1
  cases o1 with
  | digest hcc =>
    rw [ticks_length] at hk
    exact accepted_of_built (some k) halg hd hlen hb hps hcc fun k' hk' => by cases hk'; exact Or.inr hk

/-- **Permutation invariance** (exclusion mode): two successful runs on entry lists that are
permutations of each other (any chunk sizes, any cancellation points) absorbed the same bytes.
(Inclusion mode hashes "in range order", where entries with equal start keep their input
order, so it is invariant only up to that order: `range_order`.) -/
theorem excl_perm_invariant (alg : String) (data : List UInt8) (hr hr' : List HashRange)
    (b1 b2 : Nat) (c1 c2 : Option Nat) (a1 a2 : List UInt8) (p1 p2 : List (Nat × Nat))
    (hp : hr.Perm hr')
    (h1 : hashModel alg data (some hr) true b1 c1 = .ok a1 p1)
    (h2 : hashModel alg data (some hr') true b2 c2 = .ok a2 p2) : a1 = a2 := by
  by_cases hne : hr = []
  · subst hne
    have : hr' = [] := List.nil_perm.1 hp
    subst this
    rw [whole_digest alg data _ true b1 c1 a1 p1 (Or.inr rfl) h1,
      whole_digest alg data _ true b2 c2 a2 p2 (Or.inr rfl) h2]
  · have hne' : hr' ≠ [] := fun e => hne (by subst e; exact List.perm_nil.1 hp)
    rw [excl_digest alg data hr b1 c1 a1 p1 hne h1, excl_digest alg data hr' b2 c2 a2 p2 hne' h2,
      exclSpec_perm data hp]

/-! ### the read-ahead pipeline -/

/-- **Schedule independence of the read-ahead hand-off**: from the state in which the main
thread holds the first chunk `c` and a hasher that has absorbed `h0`, every interleaving of
the two actors that reaches the end of the range leaves the hasher, back on the main thread,
having absorbed `h0 ++ c ++ c₂ ++ … ++ cₙ` — the chunks in stream order. -/
theorem pipeline_schedule_independent (h0 c : List UInt8) (cs : List (List UInt8)) (s : PState)
    (hr : PReach (pInit h0 c cs) s) (hd : s.done = true) :
    s.mainH = some (h0 ++ c ++ cs.flatten) ∧ s.worker = none ∧ s.chan = none := by
  have hv := hr.view_eq
  cases hr.shape (PShape.holding cs c h0) with
  | finished h =>
    simp [PState.view, pInit] at hv
    exact ⟨by rw [hv, List.append_assoc], rfl, rfl⟩
  | _ => cases hd

/-- In every reachable state the hasher has exactly one owner and nothing absorbed or pending
is lost or reordered; a state that is not finished can always move (no deadlock). -/
theorem pipeline_invariant (h0 c : List UInt8) (cs : List (List UInt8)) (s : PState)
    (hr : PReach (pInit h0 c cs) s) :
    s.view = some (h0 ++ c ++ cs.flatten) ∧ (s.done = false → ∃ t, PStep s t) := by
  refine ⟨?_, fun hd => (hr.shape (PShape.holding cs c h0)).progress hd⟩
  rw [hr.view_eq]; simp [PState.view, pInit]

/-! ### the hand-off system is the chunk loop's hand-off

The sequential `chunkLoop` (what `hashModel` runs, what the differential run compares with the code)
is one schedule of `PStep`, and every other completed schedule on the same chunks ends with the same
hasher content. -/

/-- **Termination**: every hand-off can be completed (the `s.done` hypothesis of
`pipeline_schedule_independent` is reachable from every initial state). -/
theorem pipeline_terminates (h0 c : List UInt8) (cs : List (List UInt8)) :
    ∃ s, PReach (pInit h0 c cs) s ∧ s.done = true := by
  induction cs generalizing h0 c with
  | nil => exact ⟨_, PReach.single (PStep.inlineLast c h0), rfl⟩
  | cons u us ih =>
    obtain ⟨s, hs, hd⟩ := ih (h0 ++ c) u
    exact ⟨s, (handoff_reach h0 c u us).trans hs, hd⟩

/-- **Refinement**: when the sequential chunk loop succeeds, take for the chunks after the entry
chunk `loopChunks …` (defined to follow the loop's reads; the statement uses only that they concatenate to
the rest of the range; lengths: `loopChunks_len`, Lemmas/C13Run): a completed schedule of the hand-off
system on these chunks exists, and *every* completed schedule ends with the hasher content the
sequential loop ends with. -/
theorem chunkLoop_refines_pipeline {data : List UInt8} {buf T : Nat} {c : Option Nat}
    (fuel pos : Nat) (chunk : List UInt8) (left : Nat) (st st' : St)
    (h : chunkLoop data buf T c fuel pos chunk left st = .ok st') :
    (∃ s, PReach (pInit st.absorbed chunk (loopChunks data buf fuel pos (left - chunk.length))) s ∧
      s.done = true) ∧
    ∀ s, PReach (pInit st.absorbed chunk (loopChunks data buf fuel pos (left - chunk.length))) s →
      s.done = true → s.mainH = some st'.absorbed := by
  refine ⟨pipeline_terminates _ _ _, fun s hs hd => ?_⟩
  rw [(pipeline_schedule_independent _ _ _ s hs hd).1, (chunkLoop_ok _ _ _ _ _ _ h).1]

/-- **Every range of a successful run**: for each data range `p` of the piece list, with the
hasher having absorbed the bytes of the pieces before it, on the first chunk and `loopChunks …` (as in
`chunkLoop_refines_pipeline`) a completed schedule of the hand-off exists and every completed
schedule hands back a hasher that has absorbed exactly the bytes of the range after what was
there before. The digest returned is therefore the same for every interleaving of the main
thread and the workers. -/
theorem run_refines_pipeline (alg : String) (data : List UInt8) (hr : Option (List HashRange))
    (isExcl : Bool) (buf : Nat) (c : Option Nat) (abs : List UInt8) (prog : List (Nat × Nat))
    (h : hashModel alg data hr isExcl buf c = .ok abs prog) :
    ∃ ps, buildPieces data.length hr isExcl = .ok ps ∧ abs = ps.flatMap (pieceBytes data) ∧
      ∀ pre p post, ps = pre ++ p :: post → p.marker = false →
        (∃ s, PReach (pInit (pre.flatMap (pieceBytes data))
            ((data.drop p.lo).take (min (p.hi - p.lo + 1) buf))
            (loopChunks data buf (p.hi - p.lo + 1) (p.lo + min (p.hi - p.lo + 1) buf)
              (p.hi - p.lo + 1 - min (p.hi - p.lo + 1) buf))) s ∧ s.done = true) ∧
        ∀ s, PReach (pInit (pre.flatMap (pieceBytes data))
            ((data.drop p.lo).take (min (p.hi - p.lo + 1) buf))
            (loopChunks data buf (p.hi - p.lo + 1) (p.lo + min (p.hi - p.lo + 1) buf)
              (p.hi - p.lo + 1 - min (p.hi - p.lo + 1) buf))) s → s.done = true →
          s.mainH = some (pre.flatMap (pieceBytes data) ++ pieceBytes data p) := by
  obtain ⟨_, _, ps, T, st, hb, _, hrun, ha, _⟩ := hashModel_ok_inv h
  refine ⟨ps, hb, by rw [ha, runPieces_ok ps {} st hrun]; rfl, ?_⟩
  intro pre p post hps hm
  subst hps
  rw [runPieces_append] at hrun
  split at hrun
  · cases hrun
  · rename_i sa r1
    unfold runPieces at hrun
    split at hrun
    · cases hrun
    · rename_i sb r2
      obtain ⟨_, st1, t1, t3⟩ := runPiece_ok_inv r2
      rw [if_neg (by simp [hm])] at t3
      obtain ⟨chunk, t2, t3⟩ := t3
      obtain ⟨hn, _, hl⟩ := readExact_some t2
      have hsa : sa.absorbed = pre.flatMap (pieceBytes data) := by
        rw [runPieces_ok pre {} sa r1]; rfl
      have hpipe := chunkLoop_refines_pipeline _ _ _ _ _ _ t3
      rwa [hl, (tick_ok t1).1, hsa, hn, runPiece_ok r2, hsa] at hpipe

/-! ### environment: a spawn that fails -/

/-- **Spawn failure is an error, never a panic of its own or a wrong digest**: in an environment where
`thread::Builder::spawn` fails, the outcome is that of the ordinary run (no range needed a
second chunk) or `Err(IoError)`; it is never an arithmetic panic or non-termination (a progress-counter
panic of the ordinary run stays one), and a digest that is returned is the digest the ordinary run returns. -/
theorem spawn_failure_safe (alg : String) (data : List UInt8) (hr : Option (List HashRange))
    (isExcl : Bool) (buf : Nat) (c : Option Nat) (hlen : data.length ≤ u64Max) (hb : 0 < buf) :
    (hashModelE false alg data hr isExcl buf c = hashModel alg data hr isExcl buf c ∨
      ∃ prog, hashModelE false alg data hr isExcl buf c = .err .io prog) ∧
    hashModelE false alg data hr isExcl buf c ≠ .panic .arith ∧
    hashModelE false alg data hr isExcl buf c ≠ .panic .fuel ∧
    ∀ abs prog, hashModelE false alg data hr isExcl buf c = .ok abs prog →
      hashModel alg data hr isExcl buf c = .ok abs prog := by
  obtain ⟨n1, n2, _⟩ := no_panic alg data hr isExcl buf c hlen hb
  rcases hashModelE_false alg data hr isExcl buf c with h | ⟨p, h⟩ <;> rw [h]
  · exact ⟨Or.inl rfl, n1, n2, fun _ _ h' => h'⟩
  · exact ⟨Or.inr ⟨p, rfl⟩, nofun, nofun, nofun⟩

/-- an I/O error can only come from a failed spawn (the stream itself is an in-memory
`Cursor`; I/O errors of other streams are C35's subject) -/
theorem io_error_only_when_spawn_fails (b : Bool) (alg : String) (data : List UInt8)
    (hr : Option (List HashRange)) (isExcl : Bool) (buf : Nat) (c : Option Nat)
    (hlen : data.length ≤ u64Max) (hb : 0 < buf) (p : List (Nat × Nat))
    (h : hashModelE b alg data hr isExcl buf c = .err .io p) : b = false := by
  cases b with
  | false => rfl
  | true =>
    rw [hashModelE_true] at h
    exact absurd h ((no_panic alg data hr isExcl buf c hlen hb).2.2 p)

/-- ten bytes, chunk size 3, no worker threads: the first range needs a second chunk, the
spawn fails after the first callback -/
example : hashModelE false "sha256" [10, 11, 12, 13, 14, 15, 16, 17, 18, 19] none true 3 none =
    .err .io [(1, 4)] := by decide +kernel
/-- the same ten bytes with chunk size 10: no worker is needed, the digest is returned -/
example : hashModelE false "sha256" [10, 11, 12, 13, 14, 15, 16, 17, 18, 19] none true 10 none =
    .ok [10, 11, 12, 13, 14, 15, 16, 17, 18, 19] [(1, 1)] := by decide +kernel

/-! ### non-vacuity; the F1 and F2 inputs -/

def d10 : List UInt8 := [10, 11, 12, 13, 14, 15, 16, 17, 18, 19]

/-- F1 input (DESIGN §5): the earlier-starting range reaches past the end — rejected. -/
example : hashModel "sha256" d10 (some [⟨0, 100, none⟩, ⟨5, 1, none⟩]) true 3 none =
    .err .badparam [] := by decide +kernel

/-- F2 input: a one-byte included run at a marker offset: offset once, then the data byte. -/
example : hashModel "sha256" d10 (some [⟨1, 9, none⟩, ⟨0, 1, some 0⟩]) true 3 none =
    .ok (be64 0 ++ [10]) [(1, 2), (2, 2)] := by decide +kernel

example : exclSpec d10 [⟨1, 9, none⟩, ⟨0, 1, some 0⟩] = be64 0 ++ [10] := by decide +kernel

/-- unsorted, overlapping and empty exclusions with a marker inside a run, one in a gap and one
outside the hashed span; chunk size 2 -/
example : hashModel "sha256" d10
    (some [⟨9, 1, none⟩, ⟨2, 3, none⟩, ⟨4, 2, none⟩, ⟨9, 0, none⟩, ⟨1, 1, some 1⟩, ⟨3, 1, some 3⟩,
      ⟨9, 1, some 9⟩]) true 2 none =
    .ok ([10] ++ be64 1 ++ [11] ++ be64 3 ++ [16, 17, 18])
      [(1, 6), (2, 6), (3, 6), (4, 6), (5, 6), (6, 6)] := by decide +kernel

example : inclSpec d10 [⟨7, 3, some 5⟩, ⟨5, 1, none⟩, ⟨0, 0, none⟩] = [15] ++ be64 5 ++ [17, 18, 19] := by
  decide +kernel

/-- the hypotheses of `excl_complete` / `incl_complete` / `accepted_of_within_input` are met by
ordinary inputs: the bound is a small number -/
example : callbackBound 10 (some [⟨9, 1, none⟩, ⟨2, 3, none⟩, ⟨3, 1, some 3⟩]) true 2 = 12 := by decide +kernel
example : callbackBound 10 (some [⟨7, 3, some 5⟩, ⟨5, 1, none⟩]) false 2 = 14 := by decide +kernel
example : callbackBound 4096 none true 268435456 = 1 := by decide +kernel

/-- `excl_perm_invariant`: the same entries in two orders, different chunk sizes -/
example : hashModel "sha256" d10 (some [⟨9, 1, none⟩, ⟨2, 3, none⟩, ⟨3, 1, some 3⟩]) true 2 none =
    .ok ([10, 11] ++ be64 3 ++ [15, 16, 17, 18]) [(1, 4), (2, 4), (3, 4), (4, 4)] := by decide +kernel
example : hashModel "sha256" d10 (some [⟨3, 1, some 3⟩, ⟨2, 3, none⟩, ⟨9, 1, none⟩]) true 7 none =
    .ok ([10, 11] ++ be64 3 ++ [15, 16, 17, 18]) [(1, 3), (2, 3), (3, 3)] := by decide +kernel

/-- `run_refines_pipeline` / `chunkLoop_refines_pipeline`: the chunks the loop reads for the
range 2..9 with chunk size 3 after the entry chunk [12,13,14] -/
example : loopChunks d10 3 8 5 5 = [[15, 16, 17], [18, 19]] := by decide +kernel

/-- `cancel_beyond_count`: three callbacks, cancellation at the fourth never fires -/
example : hashModel "sha256" d10 (some [⟨0, 2, none⟩]) true 3 (some 4) =
    hashModel "sha256" d10 (some [⟨0, 2, none⟩]) true 3 none := by decide +kernel

example : hashModel "sha256" d10 (some [⟨7, 3, some 5⟩, ⟨5, 1, none⟩, ⟨0, 0, none⟩]) false 2 (some 3) =
    .err .cancelled [(1, 4), (2, 4), (3, 4)] := by decide +kernel

end C2pa.C13
