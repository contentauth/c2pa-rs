import C2paModel.Props.C25
/-
C25 — "equivalent JSON and TOML documents give equal settings", up to key order.

The JSON parser keeps the document's key order; the TOML parser yields tables in its own
(sorted) order. The two overlay values are therefore equal as `serde_json::Value`s (whose
`PartialEq` ignores key order) but not as ordered lists. `Equiv` is that order-insensitive
equality; `merge_equiv` shows the merge respects it, so the merged values — and hence
everything an order-insensitive deserializer makes of them — agree.
-/
namespace C2pa.C25

mutual
/-- `serde_json::Value::eq`: objects are compared as maps (key order is irrelevant). -/
def Equiv : Json → Json → Prop
  | .null, .null => True
  | .bool a, .bool b => a = b
  | .num a, .num b => a = b
  | .str a, .str b => a = b
  | .arr xs, .arr ys => EquivList xs ys
  | .obj kvs, .obj kvs' => (∀ k, k ∈ keys kvs ↔ k ∈ keys kvs') ∧ EquivFields kvs kvs'
  | _, _ => False
def EquivList : List Json → List Json → Prop
  | [], [] => True
  | x :: xs, y :: ys => Equiv x y ∧ EquivList xs ys
  | _, _ => False
/-- every entry on the left has an equivalent value under the same key on the right -/
def EquivFields : Fields → Fields → Prop
  | [], _ => True
  | (k, v) :: rest, kvs' => (∃ v', lookup k kvs' = some v' ∧ Equiv v v') ∧ EquivFields rest kvs'
end

theorem equivFields_iff (kvs kvs' : Fields) :
    EquivFields kvs kvs' ↔ ∀ kv ∈ kvs, ∃ v', lookup kv.1 kvs' = some v' ∧ Equiv kv.2 v' := by
  induction kvs with
  | nil => rw [EquivFields]; exact iff_of_true trivial nofun
  | cons hd t ih => rw [EquivFields, ih, List.forall_mem_cons]

theorem equiv_isObj {a b : Json} (h : Equiv a b) : a.isObj = b.isObj := by
  cases a <;> cases b <;> simp [Equiv] at h <;> rfl

theorem equiv_obj_inv {kvs : Fields} {b : Json} (h : Equiv (.obj kvs) b) : ∃ kvs', b = .obj kvs' := by
  cases b with
  | obj kvs' => exact ⟨kvs', rfl⟩
  | _ => simp [Equiv] at h

theorem equiv_obj_lookup {kvs kvs' : Fields} (hnd : (keys kvs).Nodup) :
    Equiv (.obj kvs) (.obj kvs') ↔ ∀ k, Option.Rel Equiv (lookup k kvs) (lookup k kvs') := by
  rw [Equiv.eq_6, equivFields_iff]
  constructor
  · rintro ⟨hk, hf⟩ k
    cases hl : lookup k kvs with
    | none =>
      rw [(lookup_eq_none_iff _ _).2 fun hm => (lookup_eq_none_iff _ _).1 hl ((hk k).2 hm)]
      exact .none
    | some v =>
      obtain ⟨v', h1, h2⟩ := hf (k, v) (lookup_mem hl)
      rw [h1]; exact .some h2
  · intro h
    refine ⟨fun k => ?_, fun kv hkv => ?_⟩
    · rw [← lookup_isSome_iff, ← lookup_isSome_iff]
      generalize lookup k kvs = a, lookup k kvs' = b, h k = r
      cases r <;> rfl
    · have := h kv.1
      rw [lookup_of_mem hnd hkv] at this
      generalize lookup kv.1 kvs' = b at this
      cases this with
      | some hr => exact ⟨_, rfl, hr⟩

theorem rel_getD_null {R : Json → Json → Prop} (h0 : R .null .null) {a b : Option Json}
    (h : Option.Rel R a b) : R (a.getD .null) (b.getD .null) := by
  cases h with
  | none => exact h0
  | some hr => exact hr

theorem equiv_refl (j : Json) (hj : WF j) : Equiv j j := by
  induction j using Json.induct with
  | hnull => simp [Equiv]
  | hbool b => simp [Equiv]
  | hnum r => simp [Equiv]
  | hstr s => simp [Equiv]
  | harr xs ih =>
    rw [Equiv.eq_5]
    rw [WF] at hj
    induction xs with
    | nil => simp [EquivList]
    | cons x xs ihx =>
      rw [WFList] at hj
      rw [EquivList]
      exact ⟨ih x List.mem_cons_self hj.1,
        ihx (fun y hy => ih y (List.mem_cons_of_mem _ hy)) hj.2⟩
  | hobj kvs ih =>
    rw [Equiv.eq_6, equivFields_iff]
    rw [WF_obj] at hj
    refine ⟨fun _ => Iff.rfl, ?_⟩
    intro kv hkv
    exact ⟨kv.2, lookup_of_mem hj.1 hkv, ih kv hkv (hj.2 kv hkv)⟩

/-- **merge respects order-insensitive equality**: equivalent targets and equivalent overlays
merge to equivalent values, at every depth counter. -/
theorem merge_equiv (o : Json) : ∀ (t t' o' : Json) (d : Nat), WF t → WF o → WF o' →
    Equiv t t' → Equiv o o' → Equiv (mergeDepth t o d) (mergeDepth t' o' d) := by
  intro t t' o' d
  induction t, o, d using mergeDepth_induct generalizing t' o' with
  | repl t o d h =>
    intro _ _ _ htt hoo
    rw [merge_replace t o d h, merge_replace t' o' d (by rwa [← equiv_isObj htt, ← equiv_isObj hoo])]
    exact hoo
  | objs tk ok d hd ih =>
    intro ht ho ho' htt hoo
    obtain ⟨tk', rfl⟩ := equiv_obj_inv htt
    obtain ⟨ok', rfl⟩ := equiv_obj_inv hoo
    rw [WF_obj_lookup] at ht ho ho'
    rw [equiv_obj_lookup ht.1] at htt
    rw [equiv_obj_lookup ho.1] at hoo
    rw [mergeDepth_obj_lt _ _ _ hd, mergeDepth_obj_lt _ _ _ hd,
      equiv_obj_lookup (nodup_keys_mergeFields _ _ _ ht.1)]
    intro k
    rw [lookup_mergeFields _ _ _ _ ho.1, lookup_mergeFields _ _ _ _ ho'.1]
    have hk := hoo k
    cases hlo : lookup k ok <;> cases hlo' : lookup k ok' <;> rw [hlo, hlo'] at hk <;> cases hk
    · exact htt k
    · rename_i ov ov' hr
      exact .some (ih k ov hlo _ _ _ (WF_getD_null ht.2 k) (ho.2 k ov hlo) (ho'.2 k ov' hlo')
        (rel_getD_null trivial (htt k)) hr)

/-- **json_toml_equiv.** If the JSON document and the TOML document parse to values that are
equal up to key order, and deserialisation does not depend on key order, then `with_json` and
`with_toml` give the same result (the same settings or the same error) from the same settings. -/
theorem json_toml_equiv (norm : Norm) (hnorm : ∀ a b, Equiv a b → norm a = norm b)
    (self : Json) (hself : WF self) (dj dt : Doc) (ovj ovt : Json)
    (hj : dj.json = .ok ovj) (ht : dt.toml = .ok ovt) (hwj : WF ovj) (hwt : WF ovt)
    (he : Equiv ovj ovt) :
    withString norm self dj "json" = withString norm self dt "toml" := by
  unfold withString
  rw [parseToValue_json, parseToValue_toml, hj, ht]
  exact hnorm _ _ (merge_equiv ovj self self ovt 0 hself hwj hwt (equiv_refl self hself) he)

-- non-vacuity: the same document in two key orders
example : Equiv (.obj [("b", .num "1"), ("a", .null)]) (.obj [("a", .null), ("b", .num "1")]) := by
  rw [Equiv.eq_6, equivFields_iff]
  refine ⟨?_, ?_⟩
  · intro k
    simp only [keys, List.map_cons, List.map_nil, List.mem_cons, List.not_mem_nil, or_false]
    exact Or.comm
  · intro kv hkv
    simp only [List.mem_cons, List.not_mem_nil, or_false] at hkv
    rcases hkv with rfl | rfl
    · exact ⟨.num "1", rfl, by rw [Equiv.eq_3]⟩
    · exact ⟨.null, rfl, by rw [Equiv.eq_1]; trivial⟩

end C2pa.C25
