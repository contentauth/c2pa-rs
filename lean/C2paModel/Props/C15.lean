import C2paModel.Model.C15
import C2paModel.Props.C14
import C2paModel.Lemmas.List
/-
C15 — property theorems. The statement (properties.jsonl):

  In the placeholder workflow for data-hash formats, the signed manifest returned after
  hashing has exactly the same length as the placeholder previously returned, or signing
  fails with an error. It never returns longer or shorter bytes that would overwrite media
  data or leave stale bytes when patched in place, and a patched asset reads back Valid.

The theorems quantify over every flow: any pre-added DataHash, any exclusion list (any
length, any values), any dynamic assertions (any reserve, content size and content kind), any
`base`. `sign_embeddable`'s three-way size handling is characterised completely
(`embeddable_contract_iff`): the contract holds for every signed size exactly when the
placeholder length is still recorded in the Builder value *and* the binding is guarded
(DataHash or BoxHash). The two ways out are stated as theorems about the same model
(`flow_lost_unpadded`, `unguarded_may_be_longer`); the first is replayed on the implementation, the
unguarded flows are modelled but not run (the harness emits guarded flows only).
(Read-back validity is observed end to end by the correspondence harness.)

After `sign_embeddable` and the whole flows: the size of an exclusion list in closed form against the
SDK's placeholder of ten dummy ranges (which lists fit, and that the bounds are sharp); dynamic
assertions (the placeholder slot is short of the reserve just past a CBOR head boundary);
caller-supplied BoxHash / BmffHash bindings; the legacy pair of calls.
-/
namespace C2pa.C15

/-! The head-size rule is the one of C14's model (the same function, defined in both models):
its lemmas are taken from there. -/

theorem hdr_cases (n : Nat) :
    (n < 24 ∧ hdr n = 1) ∨ (24 ≤ n ∧ n < 256 ∧ hdr n = 2) ∨ (256 ≤ n ∧ n < 65536 ∧ hdr n = 3) ∨
    (65536 ≤ n ∧ n < 4294967296 ∧ hdr n = 5) ∨ (4294967296 ≤ n ∧ hdr n = 9) := C14.hdr_cases n

theorem hdr_lt_24 {n : Nat} (h : n < 24) : hdr n = 1 := C14.hdr_lt_24 h

theorem hdr_pos (n : Nat) : 1 ≤ hdr n := C14.hdr_pos n

theorem hdr_le (n : Nat) : hdr n ≤ 9 := C14.hdr_le n

theorem hdr_mono {a b : Nat} (h : a ≤ b) : hdr a ≤ hdr b := C14.hdr_mono h

theorem hdr_eq_one_iff (n : Nat) : hdr n = 1 ↔ n < 24 := by
  have := hdr_cases n; omega

/-! ### `sign_embeddable` -/

theorem signEmbeddable_some (len j : Nat) (g : Bool) :
    signEmbeddable (some len) g j =
      if len < j then (if g then .tooLarge else .ok j) else .ok len := by
  unfold signEmbeddable
  rcases Nat.lt_trichotomy len j with h | rfl | h
  · cases g <;> simp [h, Nat.lt_asymm h]
  · simp
  · simp [h, Nat.lt_asymm h]

/-- With a placeholder recorded and a DataHash binding, the result is
an error or has exactly the placeholder length — for every size of the signed JUMBF. -/
theorem embeddable_len (len jumbf : Nat) :
    signEmbeddable (some len) true jumbf = .tooLarge ∨
    signEmbeddable (some len) true jumbf = .ok len := by
  rw [signEmbeddable_some]
  split
  · exact .inl rfl
  · exact .inr rfl

/-- With a placeholder recorded and a DataHash binding, `sign_embeddable` succeeds exactly when the
signed JUMBF is not larger than the placeholder. -/
theorem fits_iff (len jumbf : Nat) :
    signEmbeddable (some len) true jumbf = .ok len ↔ jumbf ≤ len := by
  rw [signEmbeddable_some]
  split
  · exact ⟨nofun, fun h => absurd h (Nat.not_le.2 ‹_›)⟩
  · exact ⟨fun _ => Nat.not_lt.1 ‹_›, fun _ => rfl⟩

/-- Every signed JUMBF longer than the placeholder is returned
unchanged when the binding is not guarded. -/
theorem unguarded_may_be_longer (len j : Nat) (h : len < j) :
    signEmbeddable (some len) false j = .ok j := by
  rw [signEmbeddable_some, if_pos h]
  rfl

/-- Without the guard (BMFF placeholder workflow: the caller reserves room for Merkle leaves
beyond the placeholder) a longer manifest is returned as it is — the size contract is specific
to data-hash formats. (One instance of `unguarded_may_be_longer`, by evaluation.) -/
theorem bmff_may_be_longer : signEmbeddable (some 100) false 140 = .ok 140 := by decide +kernel

/-- A Builder value without a recorded placeholder length ("Mode 2":
`placeholder()` never ran on it, e.g. it was rebuilt from its JSON definition) returns the
signed JUMBF unpadded, whatever its size and binding. -/
theorem lost_len_not_padded (g : Bool) (j : Nat) : signEmbeddable none g j = .ok j := rfl

/-- "For every size of the signed JUMBF the result is an error or
has exactly length `L`" holds iff the length `L` is recorded and the binding is guarded. -/
theorem embeddable_contract_iff (p : Option Nat) (g : Bool) (L : Nat) :
    (∀ j, signEmbeddable p g j = .tooLarge ∨ signEmbeddable p g j = .ok L) ↔
      (p = some L ∧ g = true) := by
  constructor
  · intro h
    cases p with
    | none =>
      -- unpadded: size `L + 1` comes back as it is
      have := h (L + 1)
      simp [signEmbeddable] at this
    | some len =>
      -- size 0 comes back padded to the recorded length, so that length is `L` …
      have h0 := h 0
      rw [signEmbeddable_some, if_neg (Nat.not_lt_zero len)] at h0
      obtain rfl : len = L := by simpa using h0
      -- … and an unguarded binding returns size `len + 1` as it is
      cases g with
      | true => exact ⟨rfl, rfl⟩
      | false =>
        have := h (len + 1)
        rw [unguarded_may_be_longer len (len + 1) (Nat.lt_succ_self len)] at this
        simp at this
  · rintro ⟨rfl, rfl⟩ j
    exact embeddable_len L j

example : signEmbeddable (some 248) true 107 = .ok 248 := by decide +kernel
example : signEmbeddable (some 248) true 249 = .tooLarge := by decide +kernel

/-! ### whole flows -/

/-- Every run of the placeholder workflow ends in an error or returns exactly
as many JUMBF bytes as `placeholder` did. (Composing the bytes for the format is not modelled.) -/
theorem flow_len (f : Flow) (hk : f.lost = false) :
    f.run = .tooLarge ∨ f.run = .ok f.placeholderLen := by
  unfold Flow.run Flow.recorded
  rw [hk]
  exact embeddable_len _ _

/-- When the recorded length is lost the flow returns the signed JUMBF
as it is (never an error, never padded). -/
theorem flow_lost_unpadded (f : Flow) (hk : f.lost = true) : f.run = .ok f.signedLen := by
  unfold Flow.run Flow.recorded
  rw [hk]
  rfl

/-- The flow succeeds iff the final DataHash assertion plus the dynamic
assertion contents are not larger than what the placeholder reserved for them; `base`,
i.e. everything else in the manifest, does not matter. -/
theorem flow_fits_iff (f : Flow) (hk : f.lost = false) :
    f.run = .ok f.placeholderLen ↔
      dhSize f.dhFinal + (f.das.map daFinal).sum ≤
        dhSize f.dh0 + (f.das.map (fun d => daPlaceholder d.reserve)).sum := by
  unfold Flow.run Flow.recorded
  rw [hk]
  simp only [Bool.false_eq_true, if_false]
  rw [fits_iff]
  unfold Flow.signedLen Flow.placeholderLen
  omega

example : (⟨0, 6, 32, none, some [⟨2, 3349⟩], true, [], false⟩ : Flow).run = .ok 248 := by decide +kernel
-- a pre-added DataHash (one exclusion, 20 bytes of padding) and two dynamic assertions
example : (⟨0, 6, 32, some ⟨some [⟨0, 2⟩], some 14, some 6, 32, 20, none⟩, some [⟨2, 3349⟩], true,
    [⟨500, 480, .cbor⟩, ⟨64, 70, .binary⟩], false⟩ : Flow).run = .ok 688 := by decide +kernel
example : (⟨0, 6, 32, some ⟨some [⟨0, 2⟩], some 14, some 6, 32, 0, none⟩, some [⟨2, 3349⟩], true,
    [], false⟩ : Flow).run = .tooLarge := by decide +kernel

/-! ### closed form for exclusion lists against the SDK's own placeholder -/

theorem placeholder_exclSize : exclSize (List.replicate 10 ⟨0, 2⟩) = 161 := by decide +kernel

/-- `173`: the map head, the 11 bytes of the key `exclusions` and the 161 bytes of the ten dummy
ranges. -/
theorem dhSize_placeholder (a d : Nat) :
    dhSize (placeholderDH a d) =
      173 + optField 4 (some 14) + optField 3 (some a) + (5 + str d) + (4 + str 0) := by
  show 1 + (11 + exclSize (List.replicate 10 ⟨0, 2⟩)) + optField 4 (some 14) + optField 3 (some a) +
      (5 + str d) + (4 + str 0) + optField 4 none = _
  rw [placeholder_exclSize]
  simp [optField]

/-- The documented flow: `placeholder` (no pre-added DataHash), `set_data_hash_exclusions l`,
`update_hash_from_stream`, no dynamic assertions. -/
def documented (base algLen digestLen : Nat) (l : List Range) : Flow :=
  { base := base, defAlgLen := algLen, digestLen := digestLen, pre := none,
    excl := some l, rehash := true, das := [], lost := false }

/-- A flow of the documented shape — whether or not the recorded length is lost: the signed
manifest and the placeholder differ by the `exclusions` field alone, 172 bytes with the ten dummy
ranges against nothing for an empty list and `11 + exclSize l` otherwise. -/
theorem documented_lens (f : Flow) (l : List Range) (hpre : f.pre = none) (hex : f.excl = some l)
    (hre : f.rehash = true) (hdas : f.das = []) :
    f.signedLen + 172 = f.placeholderLen + if l.isEmpty then 0 else 11 + exclSize l := by
  have h0 : dhSize f.dh0 = 173 + optField 4 (some 14) + optField 3 (some f.defAlgLen) +
      (5 + str f.digestLen) + (4 + str 0) := by
    unfold Flow.dh0
    rw [hpre]
    exact dhSize_placeholder f.defAlgLen f.digestLen
  unfold Flow.signedLen Flow.placeholderLen
  rw [h0, hdas]
  unfold Flow.dhFinal
  rw [hex, hre]
  cases l <;>
    simp [Flow.dh0, hpre, setExclusions, updateHash, newWith, placeholderDH, dhSize, optField] <;>
    omega

/-- In the documented flow a non-empty exclusion list fits iff the
CBOR of the list is at most the 161 bytes of the ten dummy ranges:
`hdr |l| + Σ (14 + hdr start + hdr length) ≤ 161`. -/
theorem exclusions_fit_iff (base algLen digestLen : Nat) (l : List Range) (hne : l ≠ []) :
    (documented base algLen digestLen l).run = .ok (documented base algLen digestLen l).placeholderLen ↔
      exclSize l ≤ 161 := by
  have h := documented_lens (documented base algLen digestLen l) l rfl rfl rfl rfl
  rw [if_neg (by simpa using hne)] at h
  show signEmbeddable (some _) true _ = _ ↔ _
  rw [fits_iff]
  omega

/-- An empty list always fits (the `exclusions` field is omitted altogether). -/
theorem no_exclusions_fit (base algLen digestLen : Nat) :
    (documented base algLen digestLen []).run =
      .ok (documented base algLen digestLen []).placeholderLen := by
  have h := documented_lens (documented base algLen digestLen []) [] rfl rfl rfl rfl
  show signEmbeddable (some _) true _ = _
  rw [fits_iff]
  rw [if_pos List.isEmpty_nil] at h
  omega

/-! ### how many exclusions fit the ten dummy ranges -/

theorem sum_map_eq_iff {α : Type} (f : α → Nat) (c : Nat) (l : List α) (h : ∀ a ∈ l, c ≤ f a) :
    (l.map f).sum = c * l.length ↔ ∀ a ∈ l, f a = c := by
  induction l with
  | nil => simp
  | cons a t ih =>
    have ha := h a (List.mem_cons_self ..)
    have ht := Data.sum_map_mono (fun _ => c) f t (fun b hb => h b (List.mem_cons_of_mem _ hb))
    rw [Data.sum_map_const] at ht
    simp only [List.map_cons, List.sum_cons, List.length_cons, List.mem_cons, forall_eq_or_imp,
      Nat.mul_succ]
    rw [← ih (fun b hb => h b (List.mem_cons_of_mem _ hb))]
    omega

theorem rangeSize_le (r : Range) : rangeSize r ≤ 32 := by
  have := hdr_le r.start; have := hdr_le r.length
  unfold rangeSize; omega

theorem rangeSize_ge (r : Range) : 16 ≤ rangeSize r := by
  have := hdr_pos r.start; have := hdr_pos r.length
  unfold rangeSize; omega

theorem rangeSize_eq_16_iff (r : Range) : rangeSize r = 16 ↔ r.start < 24 ∧ r.length < 24 := by
  rw [← hdr_eq_one_iff, ← hdr_eq_one_iff]
  have := hdr_pos r.start
  have := hdr_pos r.length
  unfold rangeSize
  omega

theorem sum_rangeSize_le (l : List Range) : (l.map rangeSize).sum ≤ 32 * l.length := by
  rw [← Data.sum_map_const]
  exact Data.sum_map_mono _ _ l (fun r _ => rangeSize_le r)

theorem sum_rangeSize_ge (l : List Range) : 16 * l.length ≤ (l.map rangeSize).sum := by
  rw [← Data.sum_map_const]
  exact Data.sum_map_mono _ _ l (fun r _ => rangeSize_ge r)

theorem sum_rangeSize_min_iff (l : List Range) :
    (l.map rangeSize).sum = 16 * l.length ↔ ∀ r ∈ l, r.start < 24 ∧ r.length < 24 := by
  rw [sum_map_eq_iff rangeSize 16 l (fun r _ => rangeSize_ge r)]
  simp only [rangeSize_eq_16_iff]

/-- **Up to five exclusions always fit**, whatever their offsets and lengths (each range
takes at most 32 bytes). In particular the documented single exclusion
`(offset, placeholder length)` can never overflow the placeholder. -/
theorem up_to_five_exclusions_fit (base algLen digestLen : Nat) (l : List Range)
    (hne : l ≠ []) (h5 : l.length ≤ 5) :
    (documented base algLen digestLen l).run =
      .ok (documented base algLen digestLen l).placeholderLen := by
  rw [exclusions_fit_iff _ _ _ _ hne]
  have hs := sum_rangeSize_le l
  have hh : hdr l.length = 1 := hdr_lt_24 (by omega)
  unfold exclSize
  omega

example : ([⟨2, 3349⟩] : List Range) ≠ [] ∧ ([⟨2, 3349⟩] : List Range).length ≤ 5 := by decide +kernel

/-- **Up to ten exclusions fit when every value is below 24** — the placeholder reserves
16 bytes per range, i.e. one-byte integers (for exactly ten the condition is also necessary:
`ten_exclusions_fit_iff`). -/
theorem ten_small_exclusions_fit (base algLen digestLen : Nat) (l : List Range)
    (hne : l ≠ []) (h10 : l.length ≤ 10) (h : ∀ r ∈ l, r.start < 24 ∧ r.length < 24) :
    (documented base algLen digestLen l).run =
      .ok (documented base algLen digestLen l).placeholderLen := by
  rw [exclusions_fit_iff _ _ _ _ hne]
  have hs := (sum_rangeSize_min_iff l).2 h
  have hh : hdr l.length = 1 := hdr_lt_24 (by omega)
  unfold exclSize
  omega

theorem exclusions_too_large (base algLen digestLen : Nat) (l : List Range) (hne : l ≠ [])
    (h : 161 < exclSize l) : (documented base algLen digestLen l).run = .tooLarge := by
  rcases flow_len (documented base algLen digestLen l) rfl with h' | h'
  · exact h'
  · exact absurd ((exclusions_fit_iff _ _ _ _ hne).1 h') (Nat.not_le.2 h)

/-- The input on which the unrepaired code returned more bytes than the placeholder (ten
exclusions `(24, 1)`: 171 > 161 bytes): the repaired code reports an error. -/
theorem ten_exclusions_24_1_too_large (base algLen digestLen : Nat) :
    (documented base algLen digestLen (List.replicate 10 ⟨24, 1⟩)).run = .tooLarge :=
  exclusions_too_large _ _ _ _ (by decide +kernel) (by decide +kernel)

/-! ### sharpness of the exclusion-list bounds -/

/-- Exactly ten exclusions fit iff every start and every length is
below 24 — the two directions of "the placeholder reserves one-byte integers". -/
theorem ten_exclusions_fit_iff (base algLen digestLen : Nat) (l : List Range) (h10 : l.length = 10) :
    (documented base algLen digestLen l).run =
        .ok (documented base algLen digestLen l).placeholderLen ↔
      ∀ r ∈ l, r.start < 24 ∧ r.length < 24 := by
  have hne : l ≠ [] := by intro h; simp [h] at h10
  rw [exclusions_fit_iff _ _ _ _ hne, ← sum_rangeSize_min_iff]
  have hs := sum_rangeSize_ge l
  have hh : hdr l.length = 1 := hdr_lt_24 (by omega)
  unfold exclSize
  omega

/-- More than ten exclusions never fit the SDK's own
placeholder, whatever their values: the result is the error. -/
theorem eleven_or_more_too_large (base algLen digestLen : Nat) (l : List Range)
    (h11 : 11 ≤ l.length) :
    (documented base algLen digestLen l).run = .tooLarge := by
  refine exclusions_too_large _ _ _ l (by intro h; simp [h] at h11) ?_
  have hs := sum_rangeSize_ge l
  have := hdr_pos l.length
  unfold exclSize
  omega

/-- `up_to_five_exclusions_fit` is sharp: six ranges with 64-bit values
(32 bytes each, 193 > 161) end in the error. -/
theorem six_may_overflow (base algLen digestLen : Nat) :
    (documented base algLen digestLen (List.replicate 6 ⟨4294967296, 4294967296⟩)).run = .tooLarge :=
  exclusions_too_large _ _ _ _ (by decide +kernel) (by decide +kernel)

/-- The documented flow on a Builder rebuilt from its JSON definition: no error and a result
*shorter* than the placeholder by exactly the unused part of the dummy exclusions. -/
theorem documented_lost_shorter (base algLen digestLen : Nat) (l : List Range) (hne : l ≠ [])
    (hlt : exclSize l < 161) :
    let f := { documented base algLen digestLen l with lost := true }
    f.run = .ok f.signedLen ∧ f.signedLen + (161 - exclSize l) = f.placeholderLen := by
  intro f
  have h := documented_lens f l rfl rfl rfl rfl
  rw [if_neg (by simpa using hne)] at h
  exact ⟨flow_lost_unpadded f rfl, by omega⟩

/-- the documented single exclusion `(2, 3349)`: 142 bytes short -/
example : ({ documented 0 6 32 [⟨2, 3349⟩] with lost := true } : Flow).run = .ok 106 ∧
    ({ documented 0 6 32 [⟨2, 3349⟩] with lost := true } : Flow).placeholderLen = 248 := by decide +kernel

/-! ### dynamic assertions -/

/-- The placeholder of a dynamic assertion is never larger than its `reserve_size`. -/
theorem daPlaceholder_le (r : Nat) (hr : 1 ≤ r) : daPlaceholder r ≤ r := by
  -- the head of the shorter array is not larger than the head that was subtracted
  have h1 := hdr_mono (Nat.sub_le r (hdr r))
  have h2 : hdr r ≤ r := by have := hdr_cases r; omega
  unfold daPlaceholder str
  omega

/-- The placeholder is *smaller* than the reserve exactly just past a CBOR head boundary: there a
content of exactly `reserve_size` bytes does not fit (`da_exact_reserve_fits_iff`: the flow then ends
in the error, not in a longer result). -/
theorem daPlaceholder_short_iff (r : Nat) (hr : 1 ≤ r) :
    daPlaceholder r < r ↔
      (r = 24 ∨ r = 25 ∨ r = 256 ∨ r = 257 ∨ r = 258 ∨ (65536 ≤ r ∧ r ≤ 65540) ∨
       (4294967296 ≤ r ∧ r ≤ 4294967304)) := by
  unfold daPlaceholder str
  -- by the head size of `r`; within each class the reserves just past its lower end are short
  rcases hdr_cases r with ⟨a, e⟩ | ⟨a, a', e⟩ | ⟨a, a', e⟩ | ⟨a, a', e⟩ | ⟨a, e⟩ <;> rw [e]
  · have b := hdr_cases (r - 1); omega
  · have b := hdr_cases (r - 2); omega
  · have b := hdr_cases (r - 3); omega
  · have b := hdr_cases (r - 5); omega
  · have b := hdr_cases (r - 9); omega

/-- When the final DataHash is not larger than the placeholder's
and every dynamic assertion's final payload is within its placeholder slot, the flow succeeds
with the placeholder length. -/
theorem da_within_placeholder_fits (f : Flow) (hk : f.lost = false)
    (hdh : dhSize f.dhFinal ≤ dhSize f.dh0)
    (hda : ∀ d ∈ f.das, daFinal d ≤ daPlaceholder d.reserve) :
    f.run = .ok f.placeholderLen := by
  rw [flow_fits_iff f hk]
  have := Data.sum_map_mono daFinal (fun d => daPlaceholder d.reserve) f.das hda
  omega

/-- A dropped `Binary` content leaves the placeholder slot itself, so its final size is the slot's
(the condition `hda` of `da_within_placeholder_fits` holds for it). -/
theorem daFinal_binary (r c : Nat) : daFinal ⟨r, c, .binary⟩ = daPlaceholder r := rfl

/-- One dynamic assertion with CBOR or JSON content, DataHash of the
placeholder's size: the flow succeeds iff the content is at most `daPlaceholder reserve`. -/
theorem da_single_fits_iff (f : Flow) (hk : f.lost = false) (d : Da) (hd : f.das = [d])
    (hkind : d.kind ≠ .binary) (hdh : dhSize f.dhFinal = dhSize f.dh0) :
    f.run = .ok f.placeholderLen ↔ d.content ≤ daPlaceholder d.reserve := by
  rw [flow_fits_iff f hk, hd, hdh]
  have : daFinal d = d.content := by
    unfold daFinal
    cases hq : d.kind <;> simp_all
  simp only [List.map_cons, List.map_nil, List.sum_cons, List.sum_nil, this]
  omega

/-- A dynamic assertion that returns exactly `reserve_size`
bytes fits iff the reserve is not just past a CBOR head boundary; there the flow ends in the error
(`da_exact_reserve_too_large`). -/
theorem da_exact_reserve_fits_iff (f : Flow) (hk : f.lost = false) (r : Nat) (k : DaKind)
    (hr : 1 ≤ r) (hd : f.das = [⟨r, r, k⟩]) (hkind : k ≠ .binary)
    (hdh : dhSize f.dhFinal = dhSize f.dh0) :
    f.run = .ok f.placeholderLen ↔
      ¬ (r = 24 ∨ r = 25 ∨ r = 256 ∨ r = 257 ∨ r = 258 ∨ (65536 ≤ r ∧ r ≤ 65540) ∨
         (4294967296 ≤ r ∧ r ≤ 4294967304)) := by
  rw [da_single_fits_iff f hk ⟨r, r, k⟩ hd hkind hdh, ← daPlaceholder_short_iff r hr]
  have := daPlaceholder_le r hr
  show r ≤ daPlaceholder r ↔ _
  omega

/-- `da_exact_reserve_fits_iff` at the reserves just past the 2- and 3-byte head boundaries: the flow
ends in the error. -/
theorem da_exact_reserve_too_large (f : Flow) (hk : f.lost = false) (r : Nat) (k : DaKind)
    (hd : f.das = [⟨r, r, k⟩]) (hkind : k ≠ .binary) (hdh : dhSize f.dhFinal = dhSize f.dh0)
    (hr : r = 24 ∨ r = 25 ∨ r = 256 ∨ r = 257 ∨ r = 258) :
    f.run = .tooLarge := by
  rcases flow_len f hk with h | h
  · exact h
  · refine absurd ?_ ((da_exact_reserve_fits_iff f hk r k (by omega) hd hkind hdh).1 h)
    rcases hr with rfl | rfl | rfl | rfl | rfl <;> simp

/-- the SDK placeholder kept as it is (no `set_data_hash_exclusions`, no rehash), one dynamic
assertion returning exactly its reserve of 256 bytes -/
example : (⟨0, 6, 32, none, none, false, [⟨256, 256, .cbor⟩], false⟩ : Flow).run = .tooLarge := by decide +kernel
example : (⟨0, 6, 32, none, none, false, [⟨255, 255, .json⟩], false⟩ : Flow).run = .ok 503 := by decide +kernel

/-! ### caller-supplied BoxHash / BmffHash binding -/

/-- With a guarded binding (BoxHash) the result is an error or has exactly the
placeholder length, however much the binding assertion grew when the asset was hashed. -/
theorem oflow_len (f : OFlow) (hg : f.guarded = true) :
    f.run = .tooLarge ∨ f.run = .ok f.placeholderLen := by
  unfold OFlow.run
  rw [hg]
  exact embeddable_len _ _

theorem oflow_fits_iff (f : OFlow) (hg : f.guarded = true) :
    f.run = .ok f.placeholderLen ↔
      f.size1 + (f.das.map daFinal).sum ≤
        f.size0 + (f.das.map (fun d => daPlaceholder d.reserve)).sum := by
  unfold OFlow.run
  rw [hg, fits_iff]
  unfold OFlow.signedLen OFlow.placeholderLen
  omega

/-- An empty BoxHash (3 bytes of CBOR) that grows to 1175 bytes when the asset's boxes are
hashed: the error — before the repair `fixes/C15-embeddable-boxhash-too-large.patch` this
returned 1172 bytes more than the placeholder. -/
example : (⟨2000, true, 3, 1175, []⟩ : OFlow).run = .tooLarge := by decide +kernel
example : (⟨2000, true, 1500, 1175, []⟩ : OFlow).run = .ok 3500 := by decide +kernel

/-- Not guarded (BmffHash): a grown binding yields a longer result. -/
theorem oflow_unguarded_longer (f : OFlow) (hg : f.guarded = false)
    (h : f.placeholderLen < f.signedLen) : f.run = .ok f.signedLen := by
  unfold OFlow.run
  rw [hg]
  exact unguarded_may_be_longer _ _ h

/-! ### the legacy pair `data_hashed_placeholder` / `sign_data_hashed_embeddable` -/

theorem legacy_ok_iff (f : Legacy) (ph : Nat) :
    f.run ph = .ok ph ↔ dhSize f.adjusted ≤ dhSize f.dh0 := by
  unfold Legacy.run
  split <;> simp [*]

/-- `Legacy.run` has the two outcomes only (the model takes from C14 that
`pad_to_size` gives the exact size or `JumbfCreationError`). -/
theorem legacy_len (f : Legacy) (ph : Nat) : f.run ph = .tooLarge ∨ f.run ph = .ok ph := by
  unfold Legacy.run
  split
  · exact .inr rfl
  · exact .inl rfl

/-- Against the SDK's own legacy placeholder (ten dummy ranges, *no* hash
reserved) a non-empty exclusion list fits iff
`exclSize l + str algLen + str hashLen ≤ 169` — with sha256 that is `exclSize l ≤ 128`: at most
seven one-byte ranges, not the ten the placeholder is documented to hold. -/
theorem legacy_fits_iff (algLen hashLen ph : Nat) (l : List Range) (hne : l ≠ []) :
    (⟨algLen, none, l, hashLen⟩ : Legacy).run ph = .ok ph ↔
      exclSize l + str algLen + str hashLen ≤ 169 := by
  have hadj : dhSize (⟨algLen, none, l, hashLen⟩ : Legacy).adjusted =
      12 + exclSize l + optField 4 (some 14) + (4 + str algLen) + (5 + str hashLen) + 5 := by
    cases l with
    | nil => exact absurd rfl hne
    | cons a t =>
      have e0 : str 0 = 1 := rfl
      simp only [Legacy.adjusted, newWith, dhSize, optField, List.isEmpty_cons, Bool.false_eq_true,
        if_false, e0]
      omega
  have h0 : dhSize (⟨algLen, none, l, hashLen⟩ : Legacy).dh0 = 173 + optField 4 (some 14) + 11 + 6 + 5 :=
    dhSize_placeholder 6 0
  rw [legacy_ok_iff, hadj, h0]
  omega

example : (⟨6, none, List.replicate 7 ⟨0, 2⟩, 32⟩ : Legacy).run 5 = .ok 5 := by decide +kernel
example : (⟨6, none, List.replicate 8 ⟨0, 2⟩, 32⟩ : Legacy).run 5 = .tooLarge := by decide +kernel

end C2pa.C15
