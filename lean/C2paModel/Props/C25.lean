import C2paModel.Lemmas.C25
/-
C25 — property theorems. The statement (properties.jsonl):

  Overlaying a JSON or TOML document on settings yields the recursive merge of the current
  settings with the document, and setting a value at a path makes reading that path return
  the value. An update that fails validation or parsing leaves the settings unchanged, and
  equivalent JSON and TOML documents give equal settings.

All theorems quantify over every `Json` value (unbounded width and nesting), every path,
every depth counter and every `norm` (deserialize → validate → serialize). `WF` (unique
keys, hereditarily) is the invariant of `serde_json::Map`; of the *overlay* it is assumed only
where the loop over the overlay's entries needs it, of the target only where the conclusion
speaks of the target's keys (`merge_WF`; `merge_eq_union`, `merge_equiv`, `json_toml_equiv` in
the sibling files).
-/
namespace C2pa.C25

/-! ## merge = recursive right-biased union below the depth limit, replacement otherwise -/

def Json.isObj : Json → Bool
  | .obj _ => true
  | _ => false

@[simp] theorem isObj_null : Json.isObj .null = false := rfl
@[simp] theorem isObj_bool (b : Bool) : Json.isObj (.bool b) = false := rfl
@[simp] theorem isObj_num (r : String) : Json.isObj (.num r) = false := rfl
@[simp] theorem isObj_str (s : String) : Json.isObj (.str s) = false := rfl
@[simp] theorem isObj_arr (xs : List Json) : Json.isObj (.arr xs) = false := rfl
@[simp] theorem isObj_obj (kvs : Fields) : Json.isObj (.obj kvs) = true := rfl

/-- Replacement: unless both sides are objects and the depth counter is below the limit, the
overlay value replaces the target value (scalars, arrays, `null`, and everything at depth ≥ 64). -/
theorem merge_replace (t o : Json) (d : Nat)
    (h : ¬ (t.isObj = true ∧ o.isObj = true ∧ d < mergeMaxDepth)) : mergeDepth t o d = o := by
  cases t with
  | obj tkvs =>
    cases o with
    | obj okvs => exact mergeDepth_obj_ge _ _ _ fun hd => h ⟨rfl, rfl, hd⟩
    | _ => exact mergeDepth.eq_2 _ _ d fun _ _ _ ho => nomatch ho
  | _ => exact mergeDepth.eq_2 _ _ d fun _ _ ht _ => nomatch ht

theorem isObj_iff (j : Json) : j.isObj = true ↔ ∃ kvs, j = .obj kvs := by
  cases j <;> simp

/-- Induction along `mergeDepth`. In the object case the claim may be assumed for every member of the
overlay, one level deeper, against any target: `lookup_mergeFields` hides the loop over the entries. -/
theorem mergeDepth_induct {P : Json → Json → Nat → Prop}
    (repl : ∀ t o d, ¬ (t.isObj = true ∧ o.isObj = true ∧ d < mergeMaxDepth) → P t o d)
    (objs : ∀ tk ok d, d < mergeMaxDepth →
      (∀ k ov, lookup k ok = some ov → ∀ t, P t ov (d + 1)) → P (.obj tk) (.obj ok) d)
    (t o : Json) (d : Nat) : P t o d := by
  induction o using Json.induct generalizing t d with
  | hobj ok ih =>
    by_cases h : t.isObj = true ∧ d < mergeMaxDepth
    · obtain ⟨tk, rfl⟩ := (isObj_iff t).1 h.1
      exact objs tk ok d h.2 fun k ov hl t => ih (k, ov) (lookup_mem hl) t _
    · exact repl _ _ _ fun hc => h ⟨hc.1, hc.2.2⟩
  | _ => exact repl _ _ _ fun hc => Bool.noConfusion hc.2.1

/-- **merge_spec.** Below the limit, merging two objects gives an object whose
* key set is the union,
* key order is the target's order followed by the overlay's new keys in the overlay's order,
* value at `k` is the target's when the overlay has no `k`, and otherwise the recursive merge
  (one level deeper) of the target's value — `null` when absent — with the overlay's. -/
theorem merge_spec (tkvs okvs : Fields) (d : Nat) (hd : d < mergeMaxDepth)
    (hnd : (keys okvs).Nodup) :
    ∃ r, mergeDepth (.obj tkvs) (.obj okvs) d = .obj r ∧
      (∀ k, k ∈ keys r ↔ k ∈ keys tkvs ∨ k ∈ keys okvs) ∧
      keys r = keys tkvs ++ (keys okvs).filter (fun k => decide (k ∉ keys tkvs)) ∧
      ∀ k, lookup k r =
        match lookup k okvs with
        | none => lookup k tkvs
        | some ov => some (mergeDepth ((lookup k tkvs).getD .null) ov (d + 1)) :=
  ⟨mergeFields tkvs okvs d, mergeDepth_obj_lt _ _ _ hd,
    fun k => mem_keys_mergeFields _ _ _ k, keys_mergeFields _ _ _ hnd,
    fun k => lookup_mergeFields _ _ _ k hnd⟩

theorem merge_keeps_untouched (tkvs okvs : Fields) (d : Nat) (k : String)
    (hnd : (keys okvs).Nodup) (hk : k ∉ keys okvs) :
    lookup k (mergeFields tkvs okvs d) = lookup k tkvs := by
  rw [lookup_mergeFields _ _ _ _ hnd, (lookup_eq_none_iff _ _).2 hk]

theorem merge_adds_new (tkvs okvs : Fields) (d : Nat) (k : String) (ov : Json)
    (hnd : (keys okvs).Nodup) (hk : k ∉ keys tkvs) (ho : lookup k okvs = some ov) :
    lookup k (mergeFields tkvs okvs d) = some ov := by
  rw [lookup_mergeFields _ _ _ _ hnd, ho, (lookup_eq_none_iff _ _).2 hk]
  simp [mergeDepth_null_left]

-- non-vacuity: a real two-level merge (sibling kept, leaf replaced, new key appended)
example :
    mergeJson (.obj [("verify", .obj [("a", .bool true), ("b", .bool true)]), ("v", .num "1")])
        (.obj [("verify", .obj [("b", .bool false), ("c", .null)])])
      = .obj [("verify", .obj [("a", .bool true), ("b", .bool false), ("c", .null)]), ("v", .num "1")] := by
  rfl

-- at the limit the overlay object replaces the target object (the sibling `a` is lost)
example :
    mergeDepth (.obj [("a", .num "1"), ("b", .num "1")]) (.obj [("b", .num "2")]) 64
      = .obj [("b", .num "2")] := by rfl
example :
    mergeDepth (.obj [("a", .num "1"), ("b", .num "1")]) (.obj [("b", .num "2")]) 63
      = .obj [("a", .num "1"), ("b", .num "2")] := by rfl

theorem WF_getD_null {kvs : Fields} (h : ∀ k v, lookup k kvs = some v → WF v) (k : String) :
    WF ((lookup k kvs).getD .null) := by
  cases hl : lookup k kvs with
  | none => trivial
  | some x => exact h k x hl

theorem merge_WF (t o : Json) (d : Nat) (ht : WF t) (ho : WF o) : WF (mergeDepth t o d) := by
  induction t, o, d using mergeDepth_induct with
  | repl t o d h => rwa [merge_replace t o d h]
  | objs tk ok d hd ih =>
    rw [WF_obj_lookup] at ht ho
    rw [mergeDepth_obj_lt _ _ _ hd, WF_obj_lookup]
    refine ⟨nodup_keys_mergeFields _ _ _ ht.1, fun k v hl => ?_⟩
    rw [lookup_mergeFields _ _ _ _ ho.1] at hl
    cases hlo : lookup k ok with
    | none => rw [hlo] at hl; exact ht.2 k v hl
    | some ov =>
      rw [hlo] at hl; cases hl
      exact ih k ov hlo _ (WF_getD_null ht.2 k) (ho.2 k ov hlo)

theorem merge_self (o : Json) (d : Nat) (ho : WF o) : mergeDepth o o d = o := by
  induction o using Json.induct generalizing d with
  | hobj okvs ih =>
    by_cases hd : d < mergeMaxDepth
    · rw [mergeDepth_obj_lt _ _ _ hd]
      rw [WF_obj] at ho
      congr 1
      apply mergeFields_fix
      intro kv hkv
      exact ⟨kv.2, lookup_of_mem ho.1 hkv, ih kv hkv (d + 1) (ho.2 kv hkv)⟩
    · exact mergeDepth_obj_ge _ _ _ hd
  | _ => exact merge_replace _ _ _ fun hc => Bool.noConfusion hc.2.1

/-- **merge_idem.** Applying the same overlay a second time changes nothing — at every depth
counter, for every target, for every well-formed overlay. -/
theorem merge_idem (t o : Json) (d : Nat) (ho : WF o) :
    mergeDepth (mergeDepth t o d) o d = mergeDepth t o d := by
  induction t, o, d using mergeDepth_induct with
  | repl t o d h => rw [merge_replace t o d h]; exact merge_self o d ho
  | objs tk ok d hd ih =>
    rw [WF_obj_lookup] at ho
    rw [mergeDepth_obj_lt _ _ _ hd, mergeDepth_obj_lt _ _ _ hd]
    congr 1
    refine mergeFields_fix _ _ _ fun kv hkv => ?_
    have hl := lookup_of_mem ho.1 hkv
    exact ⟨_, by rw [lookup_mergeFields _ _ _ _ ho.1, hl], ih _ _ hl _ (ho.2 _ _ hl)⟩

theorem mergeJson_idem (t o : Json) (ho : WF o) : mergeJson (mergeJson t o) o = mergeJson t o :=
  merge_idem t o 0 ho

-- non-vacuity of `WF`: a nested object with distinct keys
example : WF (.obj [("verify", .obj [("b", .bool false), ("c", .null)]), ("x", .arr [.obj []])]) := by
  simp [WF, WFFields, WFList, keys]

/-- Without unique keys the law fails (a second pass lets the later duplicate overwrite the
earlier one) — which is why it is stated for `serde_json` maps, whose keys are unique. -/
example : mergeJson .null (.obj [("a", .num "1"), ("a", .num "2")])
    = .obj [("a", .num "1"), ("a", .num "2")] := by rfl
example : mergeJson (mergeJson .null (.obj [("a", .num "1"), ("a", .num "2")]))
      (.obj [("a", .num "1"), ("a", .num "2")])
    = .obj [("a", .num "2"), ("a", .num "2")] := by rfl

/-! ## what the overlay says at a leaf is what the merged value says there -/

theorem getAtPath_cons_fieldsOrEmpty (t : Json) (s : String) (rest : List String) :
    getAtPath t (s :: rest) = (lookup s (fieldsOrEmpty t)).bind (fun c => getAtPath c rest) := by
  cases t with
  | obj kvs =>
    rw [getAtPath.eq_2]
    show _ = (lookup s kvs).bind _
    cases lookup s kvs <;> rfl
  | _ => rfl

theorem getAtPath_obj_cons (kvs : Fields) (s : String) (rest : List String) :
    getAtPath (.obj kvs) (s :: rest) = (lookup s kvs).bind (fun c => getAtPath c rest) :=
  getAtPath_cons_fieldsOrEmpty (.obj kvs) s rest

theorem getAtPath_not_obj (t : Json) (s : String) (rest : List String) (h : t.isObj = false) :
    getAtPath t (s :: rest) = none := by
  cases t with
  | obj kvs => exact Bool.noConfusion h
  | _ => rfl

theorem getAtPath_empty_obj (q : List String) (hq : q ≠ []) : getAtPath (.obj []) q = none := by
  cases q with
  | nil => exact absurd rfl hq
  | cons s rest => rfl

/-- what `or_insert_with(|| Object(Map::new()))` creates holds nothing below it -/
theorem getAtPath_getD_empty (o : Option Json) {q : List String} (hq : q ≠ []) :
    getAtPath (o.getD (.obj [])) q = o.bind (getAtPath · q) := by
  cases o with
  | some c => rfl
  | none => exact getAtPath_empty_obj q hq

theorem get_merge_cons (tk ok : Fields) (d : Nat) (s : String) (q : List String)
    (hd : d < mergeMaxDepth) (hnd : (keys ok).Nodup) :
    getAtPath (mergeDepth (.obj tk) (.obj ok) d) (s :: q) =
      match lookup s ok with
      | none => getAtPath (.obj tk) (s :: q)
      | some ov => getAtPath (mergeDepth ((lookup s tk).getD .null) ov (d + 1)) q := by
  rw [mergeDepth_obj_lt _ _ _ hd, getAtPath_obj_cons, lookup_mergeFields _ _ _ _ hnd, getAtPath_obj_cons]
  cases lookup s ok <;> rfl

theorem getD_null_getAtPath (a : Option Json) (q : List String) :
    (getAtPath (a.getD .null) q).getD .null = (a.bind (getAtPath · q)).getD .null := by
  cases a with
  | some c => rfl
  | none => cases q <;> rfl

/-- **Reading commutes with merging.** Where the overlay holds a value, the merged value holds
the merge of it into what the target held there (`null` when nothing, as
`entry(k).or_insert(Null)` has it), at the depth counter reached. No depth limit is assumed: where
the overlay replaces wholesale — target no object, or limit reached — the right side replaces too. -/
theorem get_merge (q : List String) (t o ov : Json) (d : Nat) (ho : WF o)
    (h : getAtPath o q = some ov) :
    getAtPath (mergeDepth t o d) q =
      some (mergeDepth ((getAtPath t q).getD .null) ov (d + q.length)) := by
  induction q generalizing t o d with
  | nil => cases h; rfl
  | cons s q ih =>
    cases o with
    | obj ok =>
      rw [WF_obj_lookup] at ho
      rw [getAtPath_obj_cons] at h
      obtain ⟨c, hl, hc⟩ := Option.bind_eq_some_iff.1 h
      rw [List.length_cons, ← Nat.add_assoc, Nat.add_right_comm]
      by_cases hm : t.isObj = true ∧ d < mergeMaxDepth
      · obtain ⟨tk, rfl⟩ := (isObj_iff t).1 hm.1
        rw [get_merge_cons _ _ _ _ _ hm.2 ho.1, hl, getAtPath_obj_cons, ← getD_null_getAtPath]
        exact ih _ c (d + 1) (ho.2 s c hl) hc
      · rw [merge_replace _ _ _ fun hc => hm ⟨hc.1, hc.2.2⟩, getAtPath_obj_cons, hl,
          Option.bind_some, hc]
        congr 1
        by_cases ht : t.isObj = true
        · exact (merge_replace _ _ _ fun hc => hm ⟨ht, by have := hc.2.2; omega⟩).symm
        · rw [getAtPath_not_obj t s q (by simpa using ht)]
          exact (mergeDepth_null_left _ _).symm
    | _ => cases h

/-- **merge_get_leaf.** If the overlay holds a non-object value `v` (scalar, array or `null`)
at a path, the merged value holds exactly `v` at that path — whatever the target, the depth
counter and the length of the path (beyond the limit the whole subtree is the overlay's). -/
theorem merge_get_leaf (p : List String) (t o v : Json) (d : Nat) (ho : WF o)
    (hv : v.isObj = false) (h : getAtPath o p = some v) :
    getAtPath (mergeDepth t o d) p = some v := by
  rw [get_merge p t o v d ho h, merge_replace _ _ _ fun hc => by rw [hv] at hc; cases hc.2.1]

/-- `null` in a document sets the property to `null` (docs/context-settings.md). -/
theorem merge_null_sets_null (p : List String) (t o : Json) (ho : WF o)
    (h : getAtPath o p = some .null) : getAtPath (mergeJson t o) p = some .null :=
  merge_get_leaf p t o .null 0 ho rfl h

example : getAtPath (.obj [("builder", .obj [("intent", .null)])]) ["builder", "intent"] = some .null := by
  rfl

theorem splitDotAux_ne_nil (cs cur : List Char) : splitDotAux cs cur ≠ [] := by
  induction cs generalizing cur with
  | nil => simp [splitDotAux]
  | cons c cs ih =>
    rw [splitDotAux]
    split
    · simp
    · exact ih _

/-- `split('.')` always yields at least one segment: the `Err(BadParam("empty path"))` after the
loop of `set_at_path` is unreachable. (The source marks only the other error of that function,
"expected object at path segment", as unreachable.) -/
theorem splitPath_ne_nil (p : String) : splitPath p ≠ [] := by
  unfold splitPath
  intro h
  exact splitDotAux_ne_nil _ _ (List.map_eq_nil_iff.1 h)

/-- **get_set.** For every target (object or not), every non-empty list of segments and every
value, `set_at_path` succeeds and `get_at_path` then returns exactly that value. -/
theorem get_set (p : List String) (hp : p ≠ []) (t v : Json) :
    ∃ r, setAtPath t p v = .ok r ∧ getAtPath r p = some v := by
  induction p generalizing t with
  | nil => exact absurd rfl hp
  | cons s rest ih =>
    cases rest with
    | nil =>
      refine ⟨_, rfl, ?_⟩
      rw [getAtPath.eq_2, lookup_upsert_self]
      rfl
    | cons s' rest' =>
      obtain ⟨c, hc1, hc2⟩ := ih (by simp) ((lookup s (fieldsOrEmpty t)).getD (.obj []))
      refine ⟨.obj (upsert s c (fieldsOrEmpty t)), ?_, ?_⟩
      · rw [setAtPath.eq_3, hc1]
      · rw [getAtPath.eq_2, lookup_upsert_self]
        exact hc2

/-- `get_set` for dotted path strings, as `Settings::set_value` / `get_value` take them. -/
theorem get_set_path (path : String) (t v : Json) :
    ∃ r, setAtPath t (splitPath path) v = .ok r ∧ getAtPath r (splitPath path) = some v :=
  get_set _ (splitPath_ne_nil path) t v

theorem get_of_set {path : String} {self v m : Json}
    (hm : setAtPath self (splitPath path) v = .ok m) : getAtPath m (splitPath path) = some v := by
  obtain ⟨r, hr1, hr2⟩ := get_set_path path self v
  rw [hm] at hr1
  cases hr1
  exact hr2

theorem setAtPath_cons_ok {t : Json} {s : String} {p : List String} {v r : Json}
    (h : setAtPath t (s :: p) v = .ok r) :
    ∃ c, r = .obj (upsert s c (fieldsOrEmpty t)) ∧
      (p ≠ [] → setAtPath ((lookup s (fieldsOrEmpty t)).getD (.obj [])) p v = .ok c) := by
  cases p with
  | nil => cases h; exact ⟨v, rfl, fun hp => absurd rfl hp⟩
  | cons s' rest =>
    rw [setAtPath.eq_3] at h
    split at h
    · cases h; exact ⟨_, rfl, fun _ => ‹_›⟩
    · cases h

/-- Frame, top level only; `set_frame` in `Props/C25Seq.lean` is the statement for siblings at
every depth. -/
theorem set_keeps_other_keys (p : List String) (s k : String) (t v r : Json)
    (h : setAtPath t (s :: p) v = .ok r) (hk : k ≠ s) :
    ∃ kvs, r = .obj kvs ∧ lookup k kvs = lookup k (fieldsOrEmpty t) := by
  obtain ⟨c, rfl, _⟩ := setAtPath_cons_ok h
  exact ⟨_, rfl, lookup_upsert_ne _ _ hk⟩

example : setAtPath (.num "7") (splitPath "a..b") (.bool true)
    = .ok (.obj [("a", .obj [("", .obj [("b", .bool true)])])]) := by rfl
example : splitPath "" = [""] := by decide

/-! ## the update control flow: failure leaves the settings as they were -/

theorem lowerAscii_json : lowerAscii "json" = "json" := by decide +kernel
theorem lowerAscii_toml : lowerAscii "toml" = "toml" := by decide +kernel

theorem parseToValue_json (doc : Doc) : parseToValue doc "json" = doc.json := by
  unfold parseToValue
  simp [lowerAscii_json]

theorem parseToValue_toml (doc : Doc) : parseToValue doc "toml" = doc.toml := by
  unfold parseToValue
  simp [lowerAscii_toml]

/-- Success of an overlay update is exactly: the document parses in the given format and the
merged value passes deserialisation + validation; the new settings are that normalised merge. -/
theorem withString_ok_iff (norm : Norm) (self : Json) (doc : Doc) (fmt : String) (s : Json) :
    withString norm self doc fmt = .ok s ↔
      ∃ ov, parseToValue doc fmt = .ok ov ∧ norm (mergeJson self ov) = .ok s := by
  unfold withString
  cases parseToValue doc fmt with
  | error e => simp
  | ok ov => simp

theorem updateFromStr_ok (norm : Norm) (doc : Doc) (fmt : String) (self s : Json)
    (h : withString norm self doc fmt = .ok s) :
    updateFromStr norm doc fmt self = (.ok (), s) := by
  simp [updateFromStr, h]

/-- **failed_update_unchanged** (`update_from_str`, hence `with_json`/`with_toml` callers):
any error — unsupported format, parse error, type error, validation error — leaves `self`
exactly as it was.

Like the code (`*self = self.with_string(..)?`), the model builds the new value first and assigns
only on success, so within the model this and the other `failed_*_unchanged` theorems hold by
construction. What carries the clause against the *code* is (1) the differential run, which compares
the settings value after every failing call (`s=` / `tl=` in the error replies) with the model's, and
(2) the oracle class `atomicity` evaluated on the real `Settings` / thread-local value / `Context`. Their content over histories is
`runOps_failed_noop` in `Props/C25Seq.lean`. -/
theorem failed_update_unchanged (norm : Norm) (doc : Doc) (fmt : String) (self : Json) (e : Err)
    (h : (updateFromStr norm doc fmt self).1 = .error e) :
    (updateFromStr norm doc fmt self).2 = self := by
  unfold updateFromStr at h ⊢
  cases hw : withString norm self doc fmt with
  | error e' => rfl
  | ok s => rw [hw] at h; cases h

theorem failed_setValue_unchanged (norm : Norm) (path : String) (v self : Json) (e : Err)
    (h : (setValue norm path v self).1 = .error e) : (setValue norm path v self).2 = self := by
  unfold setValue at h ⊢
  cases hw : withValue norm self path v with
  | error e' => rfl
  | ok s => rw [hw] at h; cases h

/-- thread-local `Settings::from_string`: a failing call leaves the thread-local value unchanged
(`SETTINGS.set(merged)` happens only after deserialisation and validation). -/
theorem failed_fromString_unchanged (norm : Norm) (doc : Doc) (fmt : String) (tl : Json) (e : Err)
    (h : (fromString norm doc fmt tl).1 = .error e) : (fromString norm doc fmt tl).2 = tl := by
  unfold fromString at h ⊢
  cases hp : parseToValue doc fmt with
  | error e' => rfl
  | ok ov =>
    simp only [hp] at h ⊢
    cases hn : norm (mergeJson tl ov) with
    | error e' => rfl
    | ok s => rw [hn] at h; cases h

theorem failed_setThreadLocalValue_unchanged (norm : Norm) (path : String) (v tl : Json) (e : Err)
    (h : (setThreadLocalValue norm path v tl).1 = .error e) :
    (setThreadLocalValue norm path v tl).2 = tl := by
  unfold setThreadLocalValue at h ⊢
  cases hs : setAtPath tl (splitPath path) v with
  | error e' => rfl
  | ok m =>
    simp only [hs] at h ⊢
    cases hn : norm m with
    | error e' => rfl
    | ok s => rw [hn] at h; cases h

/-- `Context::set_settings(&str)`: a failing call leaves the context's settings unchanged. -/
theorem failed_setSettings_unchanged (norm : Norm) (dflt : Json) (doc : Doc) (ctx : Json) (e : Err)
    (h : (setSettingsStr norm dflt doc ctx).1 = .error e) :
    (setSettingsStr norm dflt doc ctx).2 = ctx := by
  unfold setSettingsStr at h ⊢
  cases hi : intoSettingsStr norm dflt doc with
  | error e' => rfl
  | ok s => rw [hi] at h; cases h

/-- Because a failed JSON attempt leaves the defaults untouched, the TOML attempt of
`IntoSettings for &str` starts from the defaults too. -/
theorem intoSettingsStr_eq (norm : Norm) (dflt : Json) (doc : Doc) :
    intoSettingsStr norm dflt doc =
      match withString norm dflt doc "json" with
      | .ok s => .ok s
      | .error _ => withString norm dflt doc "toml" := by
  unfold intoSettingsStr updateFromStr
  cases hj : withString norm dflt doc "json" with
  | ok s => rfl
  | error e =>
    simp only
    cases ht : withString norm dflt doc "toml" with
    | ok s => rfl
    | error e' => rfl

-- non-vacuity: a validation failure and a parse failure, settings untouched
example :
    updateFromStr (fun _ => .error .invalid) ⟨.ok (.obj [("version", .num "2")]), .error .parse⟩ "json"
      (.obj [("version", .num "1")]) = (.error .invalid, .obj [("version", .num "1")]) := by
  rfl
example :
    updateFromStr (fun m => .ok m) ⟨.error .parse, .error .parse⟩ "toml" (.obj [("version", .num "1")])
      = (.error .parse, .obj [("version", .num "1")]) := by
  rfl
example :
    updateFromStr (fun m => .ok m) ⟨.ok .null, .ok .null⟩ "yaml" (.obj []) = (.error .format, .obj []) := by
  rfl

theorem updateFromStr_char (norm : Norm) (doc : Doc) (fmt : String) (self : Json) :
    updateFromStr norm doc fmt self =
      match parseToValue doc fmt with
      | .error e => (.error e, self)
      | .ok ov =>
        match norm (mergeJson self ov) with
        | .ok s => (.ok (), s)
        | .error e => (.error e, self) := by
  unfold updateFromStr withString
  cases parseToValue doc fmt with
  | error e => rfl
  | ok ov =>
    simp only
    cases norm (mergeJson self ov) <;> rfl

/-- A failing `set_at_path` surfaces as `BadParam`. -/
theorem setValue_char (norm : Norm) (path : String) (v self : Json) :
    setValue norm path v self =
      match setAtPath self (splitPath path) v with
      | .error _ => (.error .path, self)
      | .ok m =>
        match norm m with
        | .ok s => (.ok (), s)
        | .error e => (.error e, self) := by
  unfold setValue withValue
  cases setAtPath self (splitPath path) v with
  | error e => rfl
  | ok m =>
    simp only
    cases norm m <;> rfl

/-- The settings change only through a successful step. -/
theorem updateFromStr_changed (norm : Norm) (doc : Doc) (fmt : String) (self : Json)
    (h : (updateFromStr norm doc fmt self).2 ≠ self) :
    ∃ ov, parseToValue doc fmt = .ok ov ∧
      norm (mergeJson self ov) = .ok (updateFromStr norm doc fmt self).2 ∧
      (updateFromStr norm doc fmt self).1 = .ok () := by
  rw [updateFromStr_char] at h ⊢
  cases hp : parseToValue doc fmt with
  | error e => rw [hp] at h; exact absurd rfl h
  | ok ov =>
    rw [hp] at h
    simp only at h ⊢
    cases hn : norm (mergeJson self ov) with
    | error e => rw [hn] at h; exact absurd rfl h
    | ok s => exact ⟨ov, rfl, hn, rfl⟩

/-- `with_file` succeeds exactly when the extension is present and UTF-8, the file can be read,
and `with_string` on the (lossily decoded) content with the extension as the format succeeds. -/
theorem withFile_ok_iff (norm : Norm) (self : Json) (f : FileIn) (s : Json) :
    withFile norm self f = .ok s ↔
      ∃ e doc, f.ext = some e ∧ f.extUtf8 = true ∧ f.read = some doc ∧
        withString norm self doc e = .ok s := by
  unfold withFile
  cases he : f.ext with
  | none => simp
  | some e =>
    cases hu : f.extUtf8 with
    | false => simp
    | true =>
      cases hr : f.read with
      | none => simp
      | some doc => simp

/-- the error order of `with_file`: extension before read before format/parse/validation -/
theorem withFile_errors (norm : Norm) (self : Json) (f : FileIn) :
    (f.ext = none ∨ f.extUtf8 = false → withFile norm self f = .error .ext) ∧
    (∀ e, f.ext = some e → f.extUtf8 = true → f.read = none → withFile norm self f = .error .io) := by
  constructor
  · rintro (h | h)
    · simp [withFile, h]
    · unfold withFile
      cases f.ext with
      | none => rfl
      | some e => simp [h]
  · intro e he hu hr
    simp [withFile, he, hu, hr]

theorem fromFile_char (norm : Norm) (f : FileIn) (tl : Json) :
    fromFile norm f tl =
      match f.ext, f.read with
      | none, _ => (.error .format, tl)
      | some _, none => (.error .io, tl)
      | some e, some doc => fromString norm doc e tl := by
  unfold fromFile
  cases f.ext with
  | none => rfl
  | some e => cases f.read <;> rfl

theorem failed_fromFile_unchanged (norm : Norm) (f : FileIn) (tl : Json) (e : Err)
    (h : (fromFile norm f tl).1 = .error e) : (fromFile norm f tl).2 = tl := by
  rw [fromFile_char] at h ⊢
  cases he : f.ext with
  | none => rfl
  | some x =>
    cases hr : f.read with
    | none => rfl
    | some doc =>
      rw [he, hr] at h
      exact failed_fromString_unchanged norm doc x tl e h

/-- `IntoSettings for serde_json::Value` = overlaying the value (as the JSON parser reads back
its serialisation) on the defaults. -/
theorem intoSettingsValue_eq (norm : Norm) (dflt : Json) (doc : Doc) :
    intoSettingsValue norm dflt doc = withString norm dflt doc "json" := by
  unfold intoSettingsValue updateFromStr
  cases withString norm dflt doc "json" <;> rfl

/-- when serde_json round-trips the value, that is the normalised merge of defaults and value -/
theorem intoSettingsValue_roundtrip (norm : Norm) (dflt v : Json) (doc : Doc) (h : doc.json = .ok v) :
    intoSettingsValue norm dflt doc = norm (mergeJson dflt v) := by
  rw [intoSettingsValue_eq]
  unfold withString
  rw [parseToValue_json, h]

theorem failed_setSettingsValue_unchanged (norm : Norm) (dflt : Json) (doc : Doc) (ctx : Json) (e : Err)
    (h : (setSettingsValue norm dflt doc ctx).1 = .error e) :
    (setSettingsValue norm dflt doc ctx).2 = ctx := by
  unfold setSettingsValue at h ⊢
  cases hi : intoSettingsValue norm dflt doc with
  | error e' => rfl
  | ok s => rw [hi] at h; cases h

/-- `Context::set_settings(&str)`: the error reported is the TOML attempt's (the JSON attempt's
error is discarded by `or_else`). -/
theorem intoSettingsStr_error (norm : Norm) (dflt : Json) (doc : Doc) (e : Err)
    (h : intoSettingsStr norm dflt doc = .error e) :
    withString norm dflt doc "toml" = .error e ∧ ∃ ej, withString norm dflt doc "json" = .error ej := by
  rw [intoSettingsStr_eq] at h
  cases hj : withString norm dflt doc "json" with
  | ok s => rw [hj] at h; cases h
  | error ej =>
    rw [hj] at h
    exact ⟨h, ej, rfl⟩

/-- When the schema keeps the edited document as it is (`norm` is the identity on it), a
successful `set_value(path, v)` makes `get_value(path)` return `v`. (The case `s = m` of
`setValue_getValue_kept` in `Props/C25Seq.lean`, which needs only that `norm` keeps what the
document holds *at the path*.) -/
theorem setValue_getValue (norm : Norm) (path : String) (v self m : Json)
    (hm : setAtPath self (splitPath path) v = .ok m) (hfix : norm m = .ok m) :
    setValue norm path v self = (.ok (), m) ∧ getValue m path = .ok v := by
  constructor
  · simp [setValue, withValue, hm, hfix]
  · simp [getValue, get_of_set hm]

theorem setValue_ok_spec (norm : Norm) (path : String) (v self s : Json) :
    setValue norm path v self = (.ok (), s) ↔
      ∃ m, setAtPath self (splitPath path) v = .ok m ∧ norm m = .ok s := by
  unfold setValue withValue
  cases hs : setAtPath self (splitPath path) v with
  | error e => simp
  | ok m =>
    cases hn : norm m with
    | error e => simp [hn]
    | ok s' => simp [hn]

example : setAtPath (.obj [("verify", .obj [("verify_trust", .bool true)])])
    (splitPath "verify.verify_trust") (.bool false)
    = .ok (.obj [("verify", .obj [("verify_trust", .bool false)])]) := by
  -- `rw` turns the path literal into its character list; a bare `rfl` makes the kernel decode its UTF-8 bytes
  unfold splitPath
  rw [String.toList_ofList]
  rfl

/-! ## the format matters only in parsing -/

/-- The clause itself, up to key order, is `json_toml_equiv` in `Props/C25Equiv.lean`.
A JSON document and a TOML document that parse to the *same ordered* value give the same result
from the same starting settings — the format is consulted by `parse_to_value` only. -/
theorem json_toml_equal (norm : Norm) (self : Json) (dj dt : Doc) (h : dj.json = dt.toml) :
    withString norm self dj "json" = withString norm self dt "toml" := by
  unfold withString
  rw [parseToValue_json, parseToValue_toml, h]

theorem json_toml_equal_update (norm : Norm) (self : Json) (dj dt : Doc) (h : dj.json = dt.toml) :
    updateFromStr norm dj "json" self = updateFromStr norm dt "toml" self := by
  unfold updateFromStr
  rw [json_toml_equal norm self dj dt h]

/-- The format name is matched case-insensitively; anything else is `UnsupportedType`
before any parsing or merging happens. -/
example (doc : Doc) : parseToValue doc "JSON" = doc.json := by
  rfl

end C2pa.C25
