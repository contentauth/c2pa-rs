import C2paModel.Model.C37
import C2paModel.Lemmas.DecideRun
/-
C37 — property theorems. The statement (properties.jsonl):

  A manifest whose stapled or asserted OCSP response reports the signing certificate revoked is
  never reported Valid or Trusted. OCSP responses that do not concern the signing certificate, or
  are not validly signed, never change the verdict.

All theorems quantify over every response (any number of `SingleResponse`s with arbitrary facts),
every list of asserted responses, every signing time and every log `rest` of the other checks.
The predicates a theorem assumes are stated on the *input* (the OCSP status, its times, the three
`certId` comparisons, the responder facts), not on the model's own intermediate results; the
`…_iff` lemmas tie them to what the scan does. The exceptions are `Silent` (the sources in front
of an asserted response decide nothing), which is read off `check_stapled_ocsp_response`'s result,
and `checkStapled_err`, which assumes the scan's `Err`; `silent_of_unbound` and `scan_abort_first`
are input-level cases of the two.
-/
namespace C2pa.C37

open C2pa.C04 (Code Kind)

/-! ### what a `SingleResponse` says, read at the signing time (input level) -/

/-- **The status says "revoked"** for a signature made at `st` (no trusted signing time: now):
revoked without a reason; revoked for a reason other than removeFromCRL at or before the signing
time (or with no signing time at all); revoked with removeFromCRL at or before the signing time / now. -/
def RevokedStatus (st : Option Int) (now : Int) : Status → Prop
  | .revoked _ .none => True
  | .revoked revAt .other => ∀ t, st = some t → revAt ≤ t
  | .revoked revAt .removeFromCrl => revAt ≤ st.getD now
  | _ => False

/-- A `good` status that the implementation nevertheless files under `signingCredential.ocsp.revoked`:
the signing time is at or after thisUpdate and after nextUpdate; without a signing time: now is
before thisUpdate. -/
def GoodOutOfWindow (st : Option Int) (now : Int) : Status → Prop
  | .good thisU nextU =>
    match st with
    | some t => thisU ≤ t ∧ nextU < t
    | none => now < thisU
  | _ => False

/-- A status that ends the scan with a clearance: good and in its window (with a signing time:
before thisUpdate or up to nextUpdate; **without one: merely `thisUpdate ≤ now` — nextUpdate is not
consulted**), or revoked for a reason other than removeFromCRL strictly after the signing time. -/
def ClearingStatus (st : Option Int) (now : Int) : Status → Prop
  | .good thisU nextU =>
    match st with
    | some t => t < thisU ∨ t ≤ nextU
    | none => thisU ≤ now
  | .revoked revAt .other => ∃ t, st = some t ∧ t < revAt
  | _ => False

theorem revoked_ne_notRevoked : cRevoked ≠ cNotRevoked := by
  unfold cRevoked cNotRevoked; decide_run
theorem unknown_ne_revoked : cUnknown ≠ cRevoked := by
  unfold cUnknown cRevoked; decide_run
theorem unknown_ne_notRevoked : cUnknown ≠ cNotRevoked := by
  unfold cUnknown cNotRevoked; decide_run

theorem hasCode_append (a b : List Entry) (c : Code) :
    hasCode (a ++ b) c = (hasCode a c || hasCode b c) := by
  simp [hasCode, List.any_append]

theorem hasCode_self (c : Code) (k : Kind) : hasCode [(c, k)] c = true := by
  simp [hasCode]

theorem hasCode_of_ne {c d : Code} (k : Kind) (h : c ≠ d) : hasCode [(c, k)] d = false := by
  simp [hasCode, h]

theorem hasCode_unknown_revoked : hasCode [failE cUnknown] cRevoked = false :=
  hasCode_of_ne _ unknown_ne_revoked
theorem hasCode_unknown_notRevoked : hasCode [failE cUnknown] cNotRevoked = false :=
  hasCode_of_ne _ unknown_ne_notRevoked
theorem hasCode_revoked_notRevoked : hasCode [failE cRevoked] cNotRevoked = false :=
  hasCode_of_ne _ revoked_ne_notRevoked
theorem hasCode_notRevoked_revoked : hasCode [succ cNotRevoked] cRevoked = false :=
  hasCode_of_ne _ revoked_ne_notRevoked.symm

/-! The equations of `verdict`, its Boolean tests read as propositions. -/

theorem verdict_good_some (t a b now : Int) :
    verdict (some t) now (.good a b) =
      if t < a ∨ t ≤ b then .clear [succ cNotRevoked] else .note (failE cRevoked) := by
  simp only [verdict, Bool.or_eq_true, Bool.and_eq_true, decide_eq_true_eq, ge_iff_le]
  -- the code's second disjunct repeats `thisUpdate ≤ t`
  exact ite_congr (propext ⟨fun h => h.imp id (·.2), fun h => by omega⟩) (fun _ => rfl) fun _ => rfl

theorem verdict_good_none (a b now : Int) :
    verdict none now (.good a b) =
      if a ≤ now then .clear [succ cNotRevoked] else .note (failE cRevoked) := by
  simp only [verdict, decide_eq_true_eq, ge_iff_le]

theorem verdict_crl_some (t x now : Int) :
    verdict (some t) now (.revoked x .removeFromCrl) =
      if t < x then .pass else .note (failE cRevoked) := by
  simp only [verdict, decide_eq_true_eq, gt_iff_lt]

theorem verdict_crl_none (x now : Int) :
    verdict none now (.revoked x .removeFromCrl) =
      if now < x then .pass else .note (failE cRevoked) := by
  simp only [verdict, decide_eq_true_eq, gt_iff_lt]

theorem verdict_other_some (t x now : Int) :
    verdict (some t) now (.revoked x .other) =
      if t < x then .clear [] else .note (failE cRevoked) := by
  simp only [verdict, decide_eq_true_eq]

theorem verdict_other_none (x now : Int) :
    verdict none now (.revoked x .other) = .note (failE cRevoked) := by
  simp only [verdict, Bool.false_eq_true, if_false]

theorem verdict_noreason (st : Option Int) (x now : Int) :
    verdict st now (.revoked x .none) = .note (failE cRevoked) := rfl

/-- A status for which the scan notes "revoked". -/
abbrev FlaggedStatus (st : Option Int) (now : Int) (s : Status) : Prop :=
  RevokedStatus st now s ∨ GoodOutOfWindow st now s

/-- What `verdict` returns, read against the three input-level predicates. -/
def VerdictSpec (st : Option Int) (now : Int) (s : Status) : Verdict → Prop
  | .clear l => ClearingStatus st now s ∧ ¬ FlaggedStatus st now s ∧ hasCode l cRevoked = false
  | .note e => ¬ ClearingStatus st now s ∧
      (e = failE cRevoked ∧ FlaggedStatus st now s ∨ e = failE cUnknown ∧ ¬ FlaggedStatus st now s)
  | .pass => ¬ ClearingStatus st now s ∧ ¬ FlaggedStatus st now s
  | .abort => ¬ ClearingStatus st now s ∧ ¬ FlaggedStatus st now s ∧ s = .badTime

theorem verdict_spec (st : Option Int) (now : Int) (s : Status) :
    VerdictSpec st now s (verdict st now s) := by
  cases s with
  | good a b =>
    cases st with
    | none =>
      rw [verdict_good_none]
      exact iteInduction
        (fun h => ⟨h, (·.elim id fun (g : now < a) => by omega), hasCode_notRevoked_revoked⟩)
        fun h => ⟨h, .inl ⟨rfl, .inr (show now < a by omega)⟩⟩
    | some t =>
      rw [verdict_good_some]
      exact iteInduction
        (fun h => ⟨h, (·.elim id fun (g : a ≤ t ∧ b < t) => by omega), hasCode_notRevoked_revoked⟩)
        fun h => ⟨h, .inl ⟨rfl, .inr (show a ≤ t ∧ b < t by omega)⟩⟩
  | revoked x r =>
    cases r with
    | none =>
      rw [verdict_noreason]
      exact ⟨id, .inl ⟨rfl, .inl trivial⟩⟩
    | removeFromCrl =>
      cases st with
      | none =>
        rw [verdict_crl_none]
        exact iteInduction (fun h => ⟨id, (·.elim (fun (g : x ≤ now) => by omega) id)⟩)
          fun h => ⟨id, .inl ⟨rfl, .inl (show x ≤ now by omega)⟩⟩
      | some t =>
        rw [verdict_crl_some]
        exact iteInduction (fun h => ⟨id, (·.elim (fun (g : x ≤ t) => by omega) id)⟩)
          fun h => ⟨id, .inl ⟨rfl, .inl (show x ≤ t by omega)⟩⟩
    | other =>
      cases st with
      | none =>
        rw [verdict_other_none]
        exact ⟨(fun ⟨_, ht, _⟩ => nomatch ht), .inl ⟨rfl, .inl fun _ ht => nomatch ht⟩⟩
      | some t =>
        rw [verdict_other_some]
        exact iteInduction
          (fun h => ⟨⟨t, rfl, h⟩, (·.elim (fun g => by have := g t rfl; omega) id), rfl⟩)
          fun h => ⟨(fun ⟨_, ht, hlt⟩ => by cases ht; exact h hlt),
            .inl ⟨rfl, .inl fun _ ht => by cases ht; omega⟩⟩
  | unknown => exact ⟨id, .inr ⟨rfl, (·.elim id id)⟩⟩
  | badTime => exact ⟨id, (·.elim id id), rfl⟩

theorem verdict_revoked_iff (st : Option Int) (now : Int) (s : Status) :
    verdict st now s = .note (failE cRevoked) ↔ RevokedStatus st now s ∨ GoodOutOfWindow st now s := by
  have spec := verdict_spec st now s
  generalize verdict st now s = v at spec ⊢
  cases v with
  | clear l => exact ⟨nofun, fun hf => absurd hf spec.2.1⟩
  | note e =>
    rcases spec.2 with ⟨rfl, hf⟩ | ⟨rfl, hn⟩
    · exact ⟨fun _ => hf, fun _ => rfl⟩
    · exact ⟨fun h => absurd (Prod.mk.inj (Verdict.note.inj h)).1 unknown_ne_revoked,
        fun hf => absurd hf hn⟩
  | pass => exact ⟨nofun, fun hf => absurd hf spec.2⟩
  | abort => exact ⟨nofun, fun hf => absurd hf spec.2.1⟩

theorem verdict_clear_iff (st : Option Int) (now : Int) (s : Status) :
    (∃ l, verdict st now s = .clear l) ↔ ClearingStatus st now s := by
  have spec := verdict_spec st now s
  generalize verdict st now s = v at spec ⊢
  cases v with
  | clear l => exact ⟨fun _ => spec.1, fun _ => ⟨l, rfl⟩⟩
  | note e => exact ⟨nofun, fun hc => absurd hc spec.1⟩
  | pass => exact ⟨nofun, fun hc => absurd hc spec.1⟩
  | abort => exact ⟨nofun, fun hc => absurd hc spec.1⟩

theorem verdict_abort_iff (st : Option Int) (now : Int) (s : Status) :
    verdict st now s = .abort ↔ s = .badTime := by
  constructor
  · intro h; have spec := verdict_spec st now s; rw [h] at spec; exact spec.2.2
  · rintro rfl; rfl

theorem revokedStatus_of_reason {st : Option Int} {now revAt : Int} {r : Reason}
    (h : r = .none ∨ (r = .other ∧ ∀ t, st = some t → revAt ≤ t) ∨
      (r = .removeFromCrl ∧ revAt ≤ st.getD now)) :
    RevokedStatus st now (.revoked revAt r) := by
  rcases h with rfl | ⟨rfl, h⟩ | ⟨rfl, h⟩
  · trivial
  · exact h
  · exact h

/-- **A status that says revoked at the signing time is flagged** (`h`: no reason, or the revocation
at or before the signing time / now as in `RevokedStatus`): the OCSP status and these times — not
the scan's own result — determine the `signingCredential.ocsp.revoked` note. -/
theorem revoked_status_flagged (st : Option Int) (now : Int) (revAt : Int) (r : Reason)
    (h : r = .none ∨ (r = .other ∧ ∀ t, st = some t → revAt ≤ t) ∨
      (r = .removeFromCrl ∧ revAt ≤ st.getD now)) :
    verdict st now (.revoked revAt r) = .note (failE cRevoked) :=
  (verdict_revoked_iff st now _).2 (.inl (revokedStatus_of_reason h))

theorem revoked_not_clearing (st : Option Int) (now : Int) (s : Status)
    (h : RevokedStatus st now s) : ¬ ClearingStatus st now s := by
  rw [← verdict_clear_iff, (verdict_revoked_iff st now s).2 (.inl h)]
  rintro ⟨l, hl⟩; cases hl

/-! ### what a response says -/

/-- A `SingleResponse` about the signing certificate that ends the scan with a clearance. -/
def Clears (st : Option Int) (now : Int) (s : Single) : Prop :=
  s.certIdMatches = true ∧ ClearingStatus st now s.status

/-- A `SingleResponse` about the signing certificate whose time value does not re-parse:
`from_der_checked` returns `Err` when the scan reaches it. -/
def Aborts (s : Single) : Prop := s.certIdMatches = true ∧ s.status = .badTime

/-- A `SingleResponse` about the signing certificate for which the scan notes "revoked": the status
says revoked, or it is a `good` status outside its window. -/
def Flagged (st : Option Int) (now : Int) (s : Single) : Prop :=
  s.certIdMatches = true ∧ (RevokedStatus st now s.status ∨ GoodOutOfWindow st now s.status)

/-- A response the implementation can use: it decodes, its signature verifies under the first
embedded certificate, and that certificate passes the OCSP-signing profile and chains to an anchor. -/
def Usable (r : Resp) (rp : Responder) : Prop :=
  (∃ singles, r = .parsed true singles) ∧ rp.profileOk = true ∧ rp.trusted = true

/-- **The response reports the signing certificate revoked**: usable; some `SingleResponse` whose
`certId` matches in all three components carries a status that says revoked at the signing time;
no matching `SingleResponse` clears, and none has an unparsable time. -/
def ReportsRevoked (r : Resp) (rp : Responder) (st : Option Int) (now : Int) : Prop :=
  ∃ singles, r = .parsed true singles ∧ rp.profileOk = true ∧ rp.trusted = true ∧
    (∃ s ∈ singles, s.certIdMatches = true ∧ RevokedStatus st now s.status) ∧
    (∀ s ∈ singles, ¬ Clears st now s) ∧ ∀ s ∈ singles, ¬ Aborts s

/-- **The response does not concern the signing certificate or is not validly signed**: it does
not decode, embeds no certificate to check its signature with, the signature does not verify, the
responder fails its profile or is untrusted, or every `certId` differs from the signing certificate
in the serial number, the issuer name hash or the issuer key hash. -/
def Unbound (r : Resp) (rp : Responder) : Prop :=
  r = .undecodable ∨ (∃ l, r = .noCerts l) ∨ (∃ l, r = .parsed false l) ∨
    rp.profileOk = false ∨ rp.trusted = false ∨
    (∃ l, r = .parsed true l ∧
      ∀ s ∈ l, s.serialEq = false ∨ s.nameHashEq = false ∨ s.keyHashEq = false)

theorem Unbound.certId {l : List Single} {rp : Responder}
    (h : ∀ s ∈ l, s.serialEq = false ∨ s.nameHashEq = false ∨ s.keyHashEq = false) :
    Unbound (.parsed true l) rp :=
  .inr (.inr (.inr (.inr (.inr ⟨l, rfl, h⟩))))

/-- **The `certId` binding needs all three components** (`cert_id_matches_signer`). -/
theorem certId_matches_iff (s : Single) :
    s.certIdMatches = true ↔ s.serialEq = true ∧ s.nameHashEq = true ∧ s.keyHashEq = true := by
  simp [Single.certIdMatches, Bool.and_eq_true, and_assoc]

theorem certId_mismatch_iff (s : Single) :
    s.certIdMatches = false ↔ s.serialEq = false ∨ s.nameHashEq = false ∨ s.keyHashEq = false := by
  rw [← Bool.not_eq_true, certId_matches_iff, Decidable.not_and_iff_not_or_not,
    Decidable.not_and_iff_not_or_not, Bool.not_eq_true, Bool.not_eq_true, Bool.not_eq_true]

/-- A `SingleResponse` at which the scan neither returns early nor fails. -/
def NoStop (st : Option Int) (now : Int) (s : Single) : Prop := ¬ Clears st now s ∧ ¬ Aborts s

/-- **The scan result carries `signingCredential.ocsp.revoked` iff** no matching `SingleResponse`
clears or aborts and one of them is flagged (or the internal log already had the code). -/
theorem scan_revoked_iff (st : Option Int) (now : Int) :
    ∀ (singles : List Single) (internal : List Entry),
      (∃ l, scan st now singles internal = some l ∧ hasCode l cRevoked = true) ↔
        (∀ s ∈ singles, NoStop st now s) ∧
          (hasCode internal cRevoked = true ∨ ∃ s ∈ singles, Flagged st now s) := by
  intro singles internal
  -- one case per branch of `scan`; at a matching `SingleResponse` the spec of its verdict says
  -- which of `Clears`, `Aborts`, `Flagged` holds
  fun_induction scan st now singles internal with
  | case1 internal => simp
  | case2 a rest internal hm ih =>
    have hno {p : Prop} (h : a.certIdMatches = true ∧ p) : False := by rw [h.1] at hm; cases hm
    have hns : NoStop st now a := ⟨hno, hno⟩
    have hnf : ¬ Flagged st now a := hno
    rw [ih, List.forall_mem_cons]
    simp only [List.mem_cons, exists_eq_or_imp, hns, hnf, true_and, false_or]
  | case3 a rest internal hm l hv =>
    rw [Bool.not_eq_true', Bool.not_eq_false] at hm
    have spec := hv ▸ verdict_spec st now a.status
    exact ⟨(fun ⟨_, h, hc⟩ => by cases h; rw [spec.2.2] at hc; cases hc),
      fun h => absurd ⟨hm, spec.1⟩ (h.1 a (List.mem_cons_self ..)).1⟩
  | case4 a rest internal hm e hv ih =>
    rw [Bool.not_eq_true', Bool.not_eq_false] at hm
    have spec := hv ▸ verdict_spec st now a.status
    have hns : NoStop st now a := ⟨fun h => spec.1 h.2, fun h => by rw [h.2] at hv; cases hv⟩
    have hc : hasCode (internal ++ [e]) cRevoked = true ↔
        hasCode internal cRevoked = true ∨ Flagged st now a := by
      rw [hasCode_append, Bool.or_eq_true]
      rcases spec.2 with ⟨rfl, hf⟩ | ⟨rfl, hn⟩
      · exact ⟨(·.imp id fun _ => ⟨hm, hf⟩), (·.imp id fun _ => hasCode_self _ _)⟩
      · rw [hasCode_unknown_revoked]
        exact ⟨(·.elim .inl fun h => nomatch h), (·.elim .inl fun hf => absurd hf.2 hn)⟩
    rw [ih, hc, List.forall_mem_cons]
    simp only [List.mem_cons, exists_eq_or_imp, hns, true_and, or_assoc]
  | case5 a rest internal hm hv ih =>
    have spec := hv ▸ verdict_spec st now a.status
    have hns : NoStop st now a := ⟨fun h => spec.1 h.2, fun h => by rw [h.2] at hv; cases hv⟩
    have hnf : ¬ Flagged st now a := fun hf => spec.2 hf.2
    rw [ih, List.forall_mem_cons]
    simp only [List.mem_cons, exists_eq_or_imp, hns, hnf, true_and, false_or]
  | case6 a rest internal hm hv =>
    rw [Bool.not_eq_true', Bool.not_eq_false] at hm
    exact ⟨(fun ⟨_, h, _⟩ => nomatch h), fun h =>
      absurd ⟨hm, (verdict_abort_iff st now _).1 hv⟩ (h.1 a (List.mem_cons_self ..)).2⟩

theorem checkStapled_parsed (singles : List Single) (rp : Responder) (st : Option Int) (now : Int) :
    checkStapled (.parsed true singles) rp st now
      = if rp.profileOk && rp.trusted then (scan st now singles []).getD [] else [] := by
  simp only [checkStapled, fromDerChecked]
  cases scan st now singles [] <;> cases rp.profileOk <;> cases rp.trusted <;> rfl

theorem checkStapled_gate (r : Resp) (rp : Responder) (st : Option Int) (now : Int)
    (h : (rp.profileOk && rp.trusted) = false) : checkStapled r rp st now = [] := by
  unfold checkStapled
  cases fromDerChecked r st now with
  | none => rfl
  | some x =>
    obtain ⟨certs, lg⟩ := x
    cases certs
    · rfl
    · cases hp : rp.profileOk
      · rfl
      · cases ht : rp.trusted
        · rfl
        · rw [hp, ht] at h; cases h

/-- **`check_stapled_ocsp_response` hands "revoked" to its caller iff** the response is usable, no
matching `SingleResponse` clears or has an unparsable time, and one of them is flagged. -/
theorem checkStapled_revoked_iff (r : Resp) (rp : Responder) (st : Option Int) (now : Int) :
    hasCode (checkStapled r rp st now) cRevoked = true ↔
      ∃ singles, r = .parsed true singles ∧ rp.profileOk = true ∧ rp.trusted = true ∧
        (∀ s ∈ singles, NoStop st now s) ∧ ∃ s ∈ singles, Flagged st now s := by
  constructor
  · intro h
    have hg : rp.profileOk = true ∧ rp.trusted = true := by
      rw [← Bool.and_eq_true, ← Bool.not_eq_false]
      intro hg
      rw [checkStapled_gate r rp st now hg] at h
      cases h
    cases r with
    | parsed sig singles =>
      cases sig
      · cases h
      · rw [checkStapled_parsed, hg.1, hg.2] at h
        cases hs : scan st now singles [] with
        | none => rw [hs] at h; cases h
        | some l =>
          rw [hs] at h
          obtain ⟨h1, h2⟩ := (scan_revoked_iff st now singles []).1 ⟨l, hs, h⟩
          exact ⟨singles, rfl, hg.1, hg.2, h1, h2.resolve_left Bool.false_ne_true⟩
    | _ => cases h
  · rintro ⟨singles, rfl, hp, ht, h1, h2⟩
    obtain ⟨l, hl, hc⟩ := (scan_revoked_iff st now singles []).2 ⟨h1, .inr h2⟩
    rw [checkStapled_parsed, hp, ht, hl]
    exact hc

theorem decide1_reportsRevoked (r : Resp) (rp : Responder) (st : Option Int) (now : Int)
    (h : ReportsRevoked r rp st now) :
    decide1 (checkStapled r rp st now) = some ⟨false, [info cRevoked]⟩ := by
  obtain ⟨singles, rfl, hp, ht, ⟨s, hs, hm, hr⟩, hc, ha⟩ := h
  exact if_pos ((checkStapled_revoked_iff _ rp st now).2
    ⟨singles, rfl, hp, ht, fun x hx => ⟨hc x hx, ha x hx⟩, s, hs, hm, Or.inl hr⟩)

/-- Responses that decide nothing (neither revoked nor not-revoked reaches the caller). -/
def Silent (r : Resp) (rp : Responder) (st : Option Int) (now : Int) : Prop :=
  decide1 (checkStapled r rp st now) = none

/-! Everything a `Reader` reports is a function of the outcome of `check_ocsp_status`. -/

theorem report_congr {staple staple' : Option (Resp × Responder)}
    {asserted asserted' : List (Resp × Responder)} {st : Option Int} {now : Int}
    (h : checkOcspStatus staple asserted st now = checkOcspStatus staple' asserted' st now)
    (rest : List Entry) :
    report staple asserted st now rest = report staple' asserted' st now rest ∧
      reportStore staple asserted st now rest = reportStore staple' asserted' st now rest := by
  simp only [report, reportStore, prePass, claimState, claimLog, h, and_self]

theorem report_none (staple : Option (Resp × Responder)) (asserted : List (Resp × Responder))
    (st : Option Int) (now : Int) (rest : List Entry)
    (h : (checkOcspStatus staple asserted st now).ok = false) :
    report staple asserted st now rest = none ∧
      reportStore staple asserted st now rest = none := by
  simp [report, reportStore, h]

/-! ### the sources in order: the stapled response first, then the asserted ones

`check_ocsp_status` is `process_ocsp_responses` over one list of sources; a silent source can be
taken out wherever it stands, and the first source that decides, decides. -/

theorem checkOcspStatus_eq (staple : Option (Resp × Responder)) (asserted : List (Resp × Responder))
    (st : Option Int) (now : Int) :
    checkOcspStatus staple asserted st now = processList st now (staple.toList ++ asserted) := by
  cases staple <;> rfl

theorem processList_silent (st : Option Int) (now : Int) (x : Resp × Responder)
    (post : List (Resp × Responder)) (h : Silent x.1 x.2 st now) :
    ∀ pre, processList st now (pre ++ x :: post) = processList st now (pre ++ post)
  | [] => by rw [List.nil_append, processList, show decide1 _ = none from h]; rfl
  | a :: pre => by simp only [List.cons_append, processList, processList_silent st now x post h pre]

theorem processList_silent_prefix (st : Option Int) (now : Int) (l : List (Resp × Responder)) :
    ∀ pre : List (Resp × Responder), (∀ x ∈ pre, Silent x.1 x.2 st now) →
      processList st now (pre ++ l) = processList st now l
  | [], _ => rfl
  | x :: pre, h =>
    (processList_silent st now x _ (h x (List.mem_cons_self ..)) []).trans
      (processList_silent_prefix st now l pre fun y hy => h y (List.mem_cons_of_mem _ hy))

theorem checkOcspStatus_silent_staple (r : Resp) (rp : Responder)
    (asserted : List (Resp × Responder)) (st : Option Int) (now : Int) (h : Silent r rp st now) :
    checkOcspStatus (some (r, rp)) asserted st now = checkOcspStatus none asserted st now := by
  rw [checkOcspStatus_eq, checkOcspStatus_eq]
  exact processList_silent st now (r, rp) asserted h []

theorem checkOcspStatus_silent_asserted (staple : Option (Resp × Responder))
    (pre post : List (Resp × Responder)) (r : Resp) (rp : Responder) (st : Option Int) (now : Int)
    (h : Silent r rp st now) :
    checkOcspStatus staple (pre ++ (r, rp) :: post) st now
      = checkOcspStatus staple (pre ++ post) st now := by
  rw [checkOcspStatus_eq, checkOcspStatus_eq, ← List.append_assoc, ← List.append_assoc]
  exact processList_silent st now (r, rp) post h _

/-! ### a response that reports the signing certificate revoked -/

theorem checkOcspStatus_revoked (staple : Option (Resp × Responder))
    (pre : List (Resp × Responder)) (r : Resp) (rp : Responder) (post : List (Resp × Responder))
    (st : Option Int) (now : Int)
    (hst : ∀ x, staple = some x → Silent x.1 x.2 st now)
    (hpre : ∀ x ∈ pre, Silent x.1 x.2 st now) (h : ReportsRevoked r rp st now) :
    (checkOcspStatus staple (pre ++ (r, rp) :: post) st now).ok = false := by
  rw [checkOcspStatus_eq, ← List.append_assoc, processList_silent_prefix st now _ _ fun x hx =>
    (List.mem_append.1 hx).elim (fun hx => hst x (Option.mem_toList.1 hx)) (hpre x), processList,
    decide1_reportsRevoked r rp st now h]

/-- **A stapled response that reports the signing certificate revoked: no Valid/Trusted report.**
The revocation check fails, `verify_claim` returns the error and the read yields no report at all. -/
theorem revoked_never_valid_stapled (r : Resp) (rp : Responder) (asserted : List (Resp × Responder))
    (st : Option Int) (now : Int) (rest : List Entry) (h : ReportsRevoked r rp st now) :
    report (some (r, rp)) asserted st now rest = none :=
  (report_none _ _ _ _ rest
    (by simp only [checkOcspStatus, decide1_reportsRevoked r rp st now h])).1

/-- **In the statement's words** (the contrapositive of `revoked_never_valid_stapled`): a reported
state (in particular Valid or Trusted) excludes a stapled response that reports the signing
certificate revoked. -/
theorem revoked_never_valid (r : Resp) (rp : Responder) (asserted : List (Resp × Responder))
    (st : Option Int) (now : Int) (rest : List Entry) (s : C04.State) (l : List Entry)
    (hrep : report (some (r, rp)) asserted st now rest = some (s, l)) :
    ¬ ReportsRevoked r rp st now := by
  intro h
  rw [revoked_never_valid_stapled r rp asserted st now rest h] at hrep
  cases hrep

theorem reportsRevoked_single (revAt : Int) (r : Reason) (rp : Responder) (st : Option Int)
    (now : Int) (hp : rp.profileOk = true) (ht : rp.trusted = true)
    (hr : RevokedStatus st now (.revoked revAt r)) :
    ReportsRevoked (.parsed true [⟨true, true, true, .revoked revAt r⟩]) rp st now := by
  refine ⟨_, rfl, hp, ht, ⟨_, List.mem_cons_self .., rfl, hr⟩, ?_, ?_⟩
  · exact List.forall_mem_singleton.2 fun hc => revoked_not_clearing st now _ hr hc.2
  · exact List.forall_mem_singleton.2 fun hb => nomatch hb.2

/-- **Headline, no model-defined predicate in the hypotheses**: a usable stapled response with the
single entry "revoked" for the signing certificate (all three `certId` components match; reason
absent, or any reason with the revocation at or before the signing time as the code reads it)
— the read returns no report. -/
theorem single_revoked_response_no_report (revAt : Int) (r : Reason) (rp : Responder)
    (asserted : List (Resp × Responder)) (st : Option Int) (now : Int) (rest : List Entry)
    (hp : rp.profileOk = true) (ht : rp.trusted = true)
    (h : r = .none ∨ (r = .other ∧ ∀ t, st = some t → revAt ≤ t) ∨
      (r = .removeFromCrl ∧ revAt ≤ st.getD now)) :
    report (some (.parsed true [⟨true, true, true, .revoked revAt r⟩], rp)) asserted st now rest
      = none :=
  revoked_never_valid_stapled _ rp asserted st now rest
    (reportsRevoked_single revAt r rp st now hp ht (revokedStatus_of_reason h))

/-- **An asserted response (certificate-status assertion) that reports the signing certificate
revoked: no Valid/Trusted report — provided the stapled value (if any) and the asserted responses
before it decide nothing.** Partial: the unconditional statement is `AssertedRevokedNeverValid`
below, which the code falsifies (`asserted_revoked_never_valid_false`). -/
theorem revoked_never_valid_asserted_partial (staple : Option (Resp × Responder))
    (pre : List (Resp × Responder)) (r : Resp) (rp : Responder) (post : List (Resp × Responder))
    (st : Option Int) (now : Int) (rest : List Entry)
    (hst : ∀ x, staple = some x → Silent x.1 x.2 st now)
    (hpre : ∀ x ∈ pre, Silent x.1 x.2 st now) (h : ReportsRevoked r rp st now) :
    report staple (pre ++ (r, rp) :: post) st now rest = none :=
  (report_none _ _ _ _ rest (checkOcspStatus_revoked staple pre r rp post st now hst hpre h)).1

/-- The statement's "or asserted" clause at full strength: wherever the revoked response stands. -/
def AssertedRevokedNeverValid : Prop :=
  ∀ (staple : Option (Resp × Responder)) (pre : List (Resp × Responder)) (r : Resp)
    (rp : Responder) (post : List (Resp × Responder)) (st : Option Int) (now : Int)
    (rest : List Entry),
    ReportsRevoked r rp st now → report staple (pre ++ (r, rp) :: post) st now rest = none

def okResponder : Responder := ⟨true, true⟩

theorem stale_good_decides :
    decide1 (checkStapled (.parsed true [⟨true, true, true, .good 0 10⟩]) okResponder none 1000)
      = some ⟨true, [info cNotRevoked]⟩ := by
  rw [show checkStapled _ okResponder none 1000 = [succ cNotRevoked] from rfl, decide1,
    hasCode_notRevoked_revoked, if_neg Bool.false_ne_true]
  exact if_pos (hasCode_self _ _)

/-- **The code falsifies `AssertedRevokedNeverValid`**: `check_ocsp_status` returns `Ok` on the
first source that yields `notRevoked`, so a stapled `good` response (here even a stale one: thisUpdate 0, nextUpdate 10,
validated at 1000 without a trusted signing time) shadows an asserted response that says revoked.
Replayed on the implementation by the harness (classes `good-staple-shadows-revoked-assertion`,
`good-assertion-shadows-revoked-assertion`). The witness has a report where the clause demands none;
its state is Invalid for the empty `rest` used here and Valid once `rest` carries the signature codes. -/
theorem asserted_revoked_never_valid_false : ¬ AssertedRevokedNeverValid := by
  intro h
  have := h (some (.parsed true [⟨true, true, true, .good 0 10⟩], okResponder)) [] _ okResponder []
    none 1000 [] (reportsRevoked_single 5 .none okResponder none 1000 rfl rfl trivial)
  rw [report, checkOcspStatus, stale_good_decides] at this
  cases this

/-- An earlier *asserted* `good` response shadows a revoked one in the same way. -/
theorem asserted_good_shadows_revoked :
    (report none [(.parsed true [⟨true, true, true, .good 0 10⟩], okResponder),
        (.parsed true [⟨true, true, true, .revoked 5 .none⟩], okResponder)] none 1000 []).isSome
      = true := by
  rw [report, checkOcspStatus, processList, stale_good_decides]
  rfl

/-- **A stale `good` response clears when there is no trusted signing time**: the rule is
`now ≥ thisUpdate` only; nextUpdate (10) is long past at 1000000. Recorded witness, replayed by the
harness (`stale-good/…` cases). With a trusted signing time after nextUpdate the same response is
filed under "revoked" instead (`stale_good_with_time_flagged`). -/
theorem stale_good_clears_without_time :
    verdict none 1000000 (.good 0 10) = .clear [succ cNotRevoked] := rfl

theorem stale_good_with_time_flagged :
    verdict (some 1000000) 1000000 (.good 0 10) = .note (failE cRevoked) := rfl

/-- Without a signing time a `good` status clears **iff** `thisUpdate ≤ now` — whatever nextUpdate. -/
theorem good_clears_without_time_iff (now thisU nextU : Int) :
    ClearingStatus none now (.good thisU nextU) ↔ thisU ≤ now := Iff.rfl

/-! ### unbound, unsigned or unreadable responses are ignored -/

theorem scan_unmatched_prefix (st : Option Int) (now : Int) (l : List Single)
    (internal : List Entry) : ∀ pre : List Single, (∀ s ∈ pre, s.certIdMatches = false) →
      scan st now (pre ++ l) internal = scan st now l internal
  | [], _ => rfl
  | a :: pre, h => by
    rw [List.cons_append, scan, h a (List.mem_cons_self ..)]
    exact scan_unmatched_prefix st now l internal pre fun s hs => h s (List.mem_cons_of_mem _ hs)

/-- An unbound / unsigned response contributes nothing. -/
theorem checkStapled_unbound (r : Resp) (rp : Responder) (st : Option Int) (now : Int)
    (h : Unbound r rp) : checkStapled r rp st now = [] := by
  rcases h with rfl | ⟨l, rfl⟩ | ⟨l, rfl⟩ | hp | ht | ⟨l, rfl, hl⟩
  · rfl
  · rfl
  · rfl
  · exact checkStapled_gate r rp st now (by rw [hp]; rfl)
  · exact checkStapled_gate r rp st now (by rw [ht, Bool.and_false])
  · rw [checkStapled_parsed, ← List.append_nil l,
      scan_unmatched_prefix st now [] [] l fun s hs => (certId_mismatch_iff s).2 (hl s hs)]
    split <;> rfl

/-- **A response `from_der_checked` fails on (`Err`) contributes nothing**: when the scan
reaches a matching `SingleResponse` with an unparsable time before any clearance, the response is
treated as absent — including any "revoked" it noted before. -/
theorem checkStapled_err (singles : List Single) (rp : Responder) (st : Option Int) (now : Int)
    (h : scan st now singles [] = none) : checkStapled (.parsed true singles) rp st now = [] := by
  simp [checkStapled, fromDerChecked, h]

/-- Input-level case of `checkStapled_err`: the first matching `SingleResponse` has an unparsable time. -/
theorem scan_abort_first (st : Option Int) (now : Int) (pre : List Single) (a : Single)
    (post : List Single) (internal : List Entry)
    (hpre : ∀ s ∈ pre, s.certIdMatches = false) (ha : Aborts a) :
    scan st now (pre ++ a :: post) internal = none := by
  rw [scan_unmatched_prefix st now _ internal pre hpre, scan, ha.1, ha.2]
  rfl

theorem silent_of_unbound (r : Resp) (rp : Responder) (st : Option Int) (now : Int)
    (h : Unbound r rp) : Silent r rp st now := by
  simp [Silent, checkStapled_unbound r rp st now h, decide1, hasCode]

/-- **An unbound / unsigned stapled response never changes the verdict**: revocation outcome,
log, state and report are exactly those of the same manifest without it. -/
theorem unbound_or_unsigned_response_ignored (r : Resp) (rp : Responder)
    (asserted : List (Resp × Responder)) (st : Option Int) (now : Int) (rest : List Entry)
    (h : Unbound r rp) :
    checkOcspStatus (some (r, rp)) asserted st now = checkOcspStatus none asserted st now ∧
    report (some (r, rp)) asserted st now rest = report none asserted st now rest := by
  have h1 := checkOcspStatus_silent_staple r rp asserted st now (silent_of_unbound r rp st now h)
  exact ⟨h1, (report_congr h1 rest).1⟩

/-- **An unbound / unsigned asserted response never changes the verdict**, wherever it stands in
the list. -/
theorem unbound_asserted_response_ignored (staple : Option (Resp × Responder))
    (pre post : List (Resp × Responder)) (r : Resp) (rp : Responder)
    (st : Option Int) (now : Int) (rest : List Entry) (h : Unbound r rp) :
    report staple (pre ++ (r, rp) :: post) st now rest = report staple (pre ++ post) st now rest :=
  (report_congr (checkOcspStatus_silent_asserted staple pre post r rp st now
    (silent_of_unbound r rp st now h)) rest).1

/-- **One matching issuer hash is not enough**: a validly signed "revoked" (or "good") response
whose `certId` has the signer's serial number and issuer *name* hash but another issuer *key* hash
(a second CA with the same distinguished name), or the key hash but another name hash, leaves the
report exactly as without it. -/
theorem one_issuer_hash_is_not_enough (nameEq keyEq : Bool) (status : Status) (rp : Responder)
    (asserted : List (Resp × Responder)) (st : Option Int) (now : Int) (rest : List Entry)
    (h : nameEq = false ∨ keyEq = false) :
    report (some (.parsed true [⟨true, nameEq, keyEq, status⟩], rp)) asserted st now rest
      = report none asserted st now rest := by
  exact (unbound_or_unsigned_response_ignored _ rp asserted st now rest
    (.certId (List.forall_mem_singleton.2 (.inr h)))).2

/-- With no evidence at all (no stapled value, no asserted response) the revocation check succeeds
silently. -/
theorem no_evidence_no_entries (st : Option Int) (now : Int) (rest : List Entry) :
    report none [] st now rest
      = some (C04.state { active := some (toCodes rest), deltas := none }, rest) := by
  simp [report, checkOcspStatus, processList, claimState, claimLog]

/-! ### store level: the evidence carried in a certificate-status assertion -/

/-- **A manifest whose certificate-status assertion carries an unbound / unsigned response reads
exactly as without it** (state, log, or the same read error) — the store's pre-pass over the
assertion logs nothing (in the repaired store.rs) and `check_ocsp_status` ignores the response. -/
theorem unbound_asserted_response_ignored_store (staple : Option (Resp × Responder))
    (pre post : List (Resp × Responder)) (r : Resp) (rp : Responder)
    (st : Option Int) (now : Int) (rest : List Entry) (h : Unbound r rp) :
    reportStore staple (pre ++ (r, rp) :: post) st now rest
      = reportStore staple (pre ++ post) st now rest :=
  (report_congr (checkOcspStatus_silent_asserted staple pre post r rp st now
    (silent_of_unbound r rp st now h)) rest).2

/-- A usable asserted response that reports revoked, behind silent sources: the read fails. -/
theorem revoked_never_valid_asserted_store_partial (staple : Option (Resp × Responder))
    (pre : List (Resp × Responder)) (r : Resp) (rp : Responder) (post : List (Resp × Responder))
    (st : Option Int) (now : Int) (rest : List Entry)
    (hst : ∀ x, staple = some x → Silent x.1 x.2 st now)
    (hpre : ∀ x ∈ pre, Silent x.1 x.2 st now) (h : ReportsRevoked r rp st now) :
    reportStore staple (pre ++ (r, rp) :: post) st now rest = none :=
  (report_none _ _ _ _ rest (checkOcspStatus_revoked staple pre r rp post st now hst hpre h)).2

/-- What the unrepaired pre-pass writes into the validation log (finding
`unbound-assertion-changed-verdict`, fixed in store.rs): for a response signed by an *untrusted*
responder — unbound in the statement's sense — that says revoked, a `signingCredential.ocsp.revoked`
failure entry; that the manifest then reads Invalid is observed by the harness
(`e2a:untrusted-revoked`), not stated here. -/
theorem prepass_leak_witness :
    Unbound (.parsed true [⟨true, true, true, .revoked 5 .none⟩]) ⟨true, false⟩ ∧
      prePassLeak [(.parsed true [⟨true, true, true, .revoked 5 .none⟩], ⟨true, false⟩)] 1000
        = [failE cRevoked] :=
  ⟨Or.inr (Or.inr (Or.inr (Or.inr (Or.inl rfl)))), rfl⟩

/-! ### non-vacuity -/

theorem report_silent_alone (r : Resp) (rp : Responder) (st : Option Int) (now : Int)
    (rest : List Entry) (h : Silent r rp st now) :
    (report (some (r, rp)) [] st now rest).map (·.1)
      = some (C04.state { active := some (toCodes rest), deltas := none }) := by
  rw [(report_congr (checkOcspStatus_silent_staple r rp [] st now h) rest).1,
    no_evidence_no_entries]
  rfl

theorem sig_codes_valid : C04.state
    { active := some (toCodes [succ C04.cSigValidated, succ C04.cInsideValidity]), deltas := none }
      = .valid := by
  unfold C04.state C04.isTrusted C04.isValid C04.cSigValidated C04.cInsideValidity C04.cTrusted
  decide_run

example : ReportsRevoked (.parsed true [⟨true, true, true, .revoked 100 .other⟩]) okResponder
    (some 200) 300 :=
  reportsRevoked_single 100 .other okResponder (some 200) 300 rfl rfl
    fun t ht => by cases ht; decide

example : report (some (.parsed true [⟨true, true, true, .revoked 100 .other⟩], okResponder)) []
    (some 200) 300 [succ C04.cSigValidated, succ C04.cInsideValidity] = none :=
  single_revoked_response_no_report 100 .other okResponder [] (some 200) 300 _ rfl rfl
    (.inr (.inl ⟨rfl, fun t ht => by cases ht; decide⟩))

/-- Signed before the revocation (time-stamped at 50, revoked at 100): not treated as revoked. -/
example : (report (some (.parsed true [⟨true, true, true, .revoked 100 .other⟩], okResponder)) []
    (some 50) 300 [succ C04.cSigValidated, succ C04.cInsideValidity]).map (·.1) = some .valid := by
  rw [report_silent_alone]
  · exact congrArg some sig_codes_valid
  · rfl

example : Unbound (.parsed true [⟨false, true, true, .revoked 100 .none⟩]) okResponder :=
  .certId (by simp)

/-- The same revoked response about *another* certificate leaves the manifest Valid. -/
example : (report (some (.parsed true [⟨false, true, true, .revoked 100 .none⟩], okResponder)) []
    none 300 [succ C04.cSigValidated, succ C04.cInsideValidity]).map (·.1) = some .valid := by
  rw [report_silent_alone]
  · exact congrArg some sig_codes_valid
  · rfl

/-- Same serial number and issuer name, other issuer key: ignored (Valid as without it). -/
example : (report (some (.parsed true [⟨true, true, false, .revoked 100 .none⟩], okResponder)) []
    none 300 [succ C04.cSigValidated, succ C04.cInsideValidity]).map (·.1) = some .valid := by
  rw [report_silent_alone]
  · exact congrArg some sig_codes_valid
  · rfl

/-- A response that notes "revoked" and then meets an unparsable time is dropped as a whole. -/
example : checkStapled (.parsed true [⟨true, true, true, .revoked 100 .none⟩,
    ⟨true, true, true, .badTime⟩]) okResponder none 300 = [] := rfl

end C2pa.C37
