import C2paModel.Model.C05
import C2paModel.Props.C06
/-
C05 — property theorems. The statement (properties.jsonl):

  A signing credential is reported trusted only if its certificate is on the configured
  end-entity allow list, or chains through the certificates supplied in the manifest to a
  configured trust anchor (system or user) with an accepted extended key usage, and it is
  otherwise reported untrusted. Trust-anchor-only mode never accepts user anchors, and with trust
  verification disabled no trust verdict is issued.

Chain building (`sysValid`, `userValid`) is an oracle input; the theorems hold for all its
values, all policies and all queries, except `trusted_iff_statement` (no-check policy excluded,
oracle coherent with the anchor stores: `OracleCoherent`).

In order: `checkTrust` succeeds exactly under `TrustedBy` (OpenSSL backend; the theorems for both
backends are transported through `Query.seenBy`, the query as rust_native reads it);
trust-anchor-only mode, the EKU, composition with C06 into the credential's state; the statement's
condition without the order of the tests (`StatementTrusted`); settings loading (`fromContext`: the
flags, the default, the EKU list, the allow-list and anchor loaders and what a bad entry leaves
loaded); `cert_chain_from_sign1`, and `verify_signature` followed by `verify_internal` as a
refinement of C06's code assembly.
-/
namespace C2pa.C05

open C2pa.C06 (Eku hasAllowedEku Mode Trust)

def EkuAccepted (p : Policy) (q : Query) : Prop :=
  q.eeParses = true ∧ ∃ e, q.eku = some e ∧ hasAllowedEku p.allowedEkus e = true

/-- The statement's condition for "trusted", for the OpenSSL backend. `passthrough` is the
internal no-check policy (never built from reader settings). -/
def TrustedBy (p : Policy) (q : Query) (a : Anchor) : Prop :=
  (p.passthrough = true ∧ a = .noCheck) ∨
  (p.passthrough = false ∧ q.certHash ∈ p.allowSet ∧ a = .endEntity) ∨
  (p.passthrough = false ∧ q.certHash ∉ p.allowSet ∧ (p.nSys ≠ 0 ∨ p.nUser ≠ 0) ∧ EkuAccepted p q ∧
    q.chainParses = true ∧ q.sysAnchorsParse = true ∧
    ((q.sysValid = true ∧ a = .system) ∨
     (q.sysValid = false ∧ p.anchorsOnly = false ∧ q.userAnchorsParse = true ∧ q.userValid = true ∧ a = .user)))

theorem ekuGate_none_iff (p : Policy) (q : Query) : ekuGate p q = none ↔ EkuAccepted p q := by
  unfold ekuGate EkuAccepted
  cases q.eku <;> simp [C06.ite_eq_iff_of_ne]

theorem opensslCheck_ok_iff (p : Policy) (q : Query) (a : Anchor) :
    opensslCheck p q = .ok a ↔
      (p.nSys ≠ 0 ∨ p.nUser ≠ 0) ∧ EkuAccepted p q ∧ q.chainParses = true ∧ q.sysAnchorsParse = true ∧
      ((q.sysValid = true ∧ a = .system) ∨
       (q.sysValid = false ∧ p.anchorsOnly = false ∧ q.userAnchorsParse = true ∧ q.userValid = true ∧ a = .user)) := by
  rw [← ekuGate_none_iff]
  unfold opensslCheck
  by_cases h0 : (p.nSys == 0 && p.nUser == 0) = true
  · have : ¬ (p.nSys ≠ 0 ∨ p.nUser ≠ 0) := by
      simp only [Bool.and_eq_true, beq_iff_eq] at h0
      omega
    simp [h0, this]
  · have hne : p.nSys ≠ 0 ∨ p.nUser ≠ 0 := by
      simp only [Bool.and_eq_true, beq_iff_eq, not_and] at h0
      omega
    simp only [h0, Bool.false_eq_true, if_false, hne, true_and]
    cases hg : ekuGate p q with
    | some e => simp
    | none =>
      cases q.chainParses
      · simp
      cases q.sysAnchorsParse
      · simp
      cases q.sysValid
      · cases p.anchorsOnly
        · cases q.userAnchorsParse
          · simp
          cases q.userValid <;> simp [eq_comm (a := Anchor.user)]
        · simp
      · simp [eq_comm (a := Anchor.system)]

/-- **`check_certificate_trust` succeeds exactly under the statement's condition**, and reports
which kind of anchor did it. -/
theorem checkTrust_ok_iff (p : Policy) (q : Query) (a : Anchor) :
    checkTrust .openssl p q = .ok a ↔ TrustedBy p q a := by
  unfold checkTrust TrustedBy
  cases p.passthrough
  · by_cases hm : q.certHash ∈ p.allowSet <;>
      simp [hm, opensslCheck_ok_iff, eq_comm (a := Anchor.endEntity)]
  · simp [eq_comm (a := Anchor.noCheck)]

theorem trustedBy_system (p : Policy) (q : Query) :
    TrustedBy p q .system ↔ p.passthrough = false ∧ q.certHash ∉ p.allowSet ∧ (p.nSys ≠ 0 ∨ p.nUser ≠ 0) ∧
      EkuAccepted p q ∧ q.chainParses = true ∧ q.sysAnchorsParse = true ∧ q.sysValid = true := by
  simp [TrustedBy]

theorem trustedBy_user (p : Policy) (q : Query) :
    TrustedBy p q .user ↔ p.passthrough = false ∧ q.certHash ∉ p.allowSet ∧ (p.nSys ≠ 0 ∨ p.nUser ≠ 0) ∧
      EkuAccepted p q ∧ q.chainParses = true ∧ q.sysAnchorsParse = true ∧
      q.sysValid = false ∧ p.anchorsOnly = false ∧ q.userAnchorsParse = true ∧ q.userValid = true := by
  simp [TrustedBy]

/-- OpenSSL backend: `signingCredential.trusted` is logged exactly when trust is being
verified and the statement's condition holds for some anchor kind. -/
theorem trusted_iff_policy (mode : Mode) (p : Policy) (q : Query) :
    verifyTrust mode .openssl p q = .trusted ↔ mode = .trustPolicy ∧ ∃ a, TrustedBy p q a := by
  simp only [← checkTrust_ok_iff, verifyTrust]
  cases mode <;> cases checkTrust .openssl p q <;> simp

/-- The query as a backend reads it. rust_native has no decoding step of its own for the chain
and the anchors (there the chain oracle absorbs those failures): its control flow is that of the
OpenSSL backend with nothing undecodable; the two-backend theorems are obtained that way from the
OpenSSL ones. -/
def Query.seenBy (q : Query) : Backend → Query
  | .openssl => q
  | .rustNative => { q with chainParses := true, sysAnchorsParse := true, userAnchorsParse := true }

theorem checkTrust_seenBy (b : Backend) (p : Policy) (q : Query) :
    checkTrust b p q = checkTrust .openssl p (q.seenBy b) := by
  cases b
  · rfl
  · have hg : ekuGate p (q.seenBy .rustNative) = ekuGate p q := rfl
    have : rustNativeCheck p q = opensslCheck p (q.seenBy .rustNative) := by
      unfold rustNativeCheck opensslCheck
      rw [hg]
      -- `simp` leaves the two sides equal up to the `Decidable` instances of the tests
      cases hao : p.anchorsOnly <;> simp [Query.seenBy] <;> rfl
    unfold checkTrust
    rw [this]
    rfl

/-- `checkTrust_ok_iff` for the rust_native backend (modelled control flow): `TrustedBy` without the
three decodability tests. -/
theorem checkTrust_native_ok_iff (p : Policy) (q : Query) (a : Anchor) :
    checkTrust .rustNative p q = .ok a ↔
      (p.passthrough = true ∧ a = .noCheck) ∨
      (p.passthrough = false ∧ q.certHash ∈ p.allowSet ∧ a = .endEntity) ∨
      (p.passthrough = false ∧ q.certHash ∉ p.allowSet ∧ (p.nSys ≠ 0 ∨ p.nUser ≠ 0) ∧ EkuAccepted p q ∧
        ((q.sysValid = true ∧ a = .system) ∨
         (q.sysValid = false ∧ p.anchorsOnly = false ∧ q.userValid = true ∧ a = .user))) := by
  rw [checkTrust_seenBy, checkTrust_ok_iff]
  simp only [TrustedBy, Query.seenBy, true_and]
  exact Iff.rfl

theorem verdict_total (b : Backend) (p : Policy) (q : Query) :
    verifyTrust .trustPolicy b p q = .trusted ∨ verifyTrust .trustPolicy b p q = .untrusted := by
  unfold verifyTrust
  cases checkTrust b p q <;> simp

/-- **…and it is otherwise reported untrusted**: when trust is verified exactly one of the two
verdicts is logged. -/
theorem otherwise_untrusted (p : Policy) (q : Query) :
    verifyTrust .trustPolicy .openssl p q = .untrusted ↔ ¬ ∃ a, TrustedBy p q a := by
  rw [← (trusted_iff_policy .trustPolicy p q).trans (and_iff_right rfl)]
  rcases verdict_total .openssl p q with h | h <;> simp [h]

theorem checkTrust_anchorsOnly_user_irrelevant (p : Policy) (q : Query) (h : p.anchorsOnly = true)
    (uv up : Bool) :
    checkTrust .openssl p { q with userValid := uv, userAnchorsParse := up } = checkTrust .openssl p q := by
  have hg : ekuGate p { q with userValid := uv, userAnchorsParse := up } = ekuGate p q := rfl
  unfold checkTrust opensslCheck
  simp only [hg, h]
  rfl

/-- In trust-anchor-only mode the answer is never `User`, and it
does not depend on anything about the user anchors (whether they parse, whether the chain
verifies against them) — for both backends. -/
theorem anchors_only_never_user (b : Backend) (p : Policy) (q : Query) (h : p.anchorsOnly = true) :
    checkTrust b p q ≠ .ok .user ∧
    ∀ uv up, checkTrust b p { q with userValid := uv, userAnchorsParse := up } = checkTrust b p q := by
  constructor
  · rw [checkTrust_seenBy, Ne, checkTrust_ok_iff, trustedBy_user]
    rintro ⟨_, _, _, _, _, _, _, ho, _⟩
    rw [h] at ho; cases ho
  · intro uv up
    cases b
    · exact checkTrust_anchorsOnly_user_irrelevant p q h uv up
    · rw [checkTrust_seenBy, checkTrust_seenBy _ p q]
      exact checkTrust_anchorsOnly_user_irrelevant p (q.seenBy .rustNative) h uv true

/-- A system verdict does not depend on the user anchors either (OpenSSL backend: the system
store is tried first, the user store only after it failed). Not claimed for rust_native, whose
walk goes certificate by certificate from the top of the chain and tries both stores at each, so
that which *kind* of anchor answers when both stores would verify depends on the positions. -/
theorem system_first (p : Policy) (q : Query) (h : checkTrust .openssl p q = .ok .system) :
    ∀ uv up, checkTrust .openssl p { q with userValid := uv, userAnchorsParse := up } = .ok .system := by
  intro uv up
  -- the condition for `System` reads no user field
  rw [checkTrust_ok_iff, trustedBy_system] at h ⊢
  exact h

/-- A chain verdict (system or user anchor) needs an accepted EKU — both backends. -/
theorem eku_required_for_chain_trust (b : Backend) (p : Policy) (q : Query)
    (h : checkTrust b p q = .ok .system ∨ checkTrust b p q = .ok .user) : EkuAccepted p q := by
  rw [checkTrust_seenBy, checkTrust_ok_iff, checkTrust_ok_iff, trustedBy_system, trustedBy_user] at h
  have he : EkuAccepted p (q.seenBy b) := by
    rcases h with ⟨_, _, _, he, _⟩ | ⟨_, _, _, he, _⟩ <;> exact he
  cases b <;> exact he

/-- `C06.state_signatureCodes`, under the name the C05 registry lists. -/
theorem state_of_codes (mode : Mode) (prof : C06.Res) (trust : Trust) (sigOk : Bool) :
    C04.state (C06.resultsOf (C06.signatureCodes mode prof trust sigOk)) =
      if !sigOk then .invalid
      else if mode ≠ .ignore ∧ prof.rejected then .invalid
      else if mode = .trustPolicy ∧ trust = .trusted then .trusted
      else .valid :=
  C06.state_signatureCodes mode prof trust sigOk

/-- With trust verification disabled (`verify_trust = false` selects
`VerifyCertificateProfileOnly`; `cert_check = false` selects `IgnoreProfileAndTrustPolicy`) no
verdict is logged: neither `signingCredential.trusted` nor `signingCredential.untrusted` is among
the signature codes, whatever the policy, the credential and the oracle say. -/
theorem disabled_no_verdict (mode : Mode) (hm : mode ≠ .trustPolicy) (b : Backend)
    (tst : Option Int) (now : Int) (f : C06.CertFacts) (p : Policy) (q : Query) (sigOk : Bool) :
    verifyTrust mode b p q = .none ∧
    C04.cTrusted ∉ (credentialCodes mode b tst now f p q sigOk).success ∧
    C04.cUntrusted ∉ (credentialCodes mode b tst now f p q sigOk).failure := by
  refine ⟨?_, fun h => hm ((C06.trusted_mem_success _ _ _ _).1 h).1,
    fun h => hm ((C06.untrusted_mem_failure _ _ _ _).1 h).1⟩
  cases mode
  · exact absurd rfl hm
  · rfl
  · rfl

/-- The profile check and the trust check agree on the EKU: a certificate that conforms to the
profile under the policy's EKU configuration passes the trust backends' EKU gate. (In the code
both read the same `CertificateTrustPolicy` and the same certificate bytes; the model has one
`p` and derives the trust query's certificate view from `f`.) -/
theorem conforming_eku_accepted (p : Policy) (tst : Option Int) (now : Int) (f : C06.CertFacts)
    (q : Query) (c : C06.Conforming (envOf p tst now) f) : EkuAccepted p (queryOf f q) := by
  obtain ⟨e, he, _, hal, _⟩ := c.eku
  refine ⟨?_, e, ?_, hal⟩
  · simp [queryOf, c.parses]
  · simp [queryOf, he, ekuOfFacts]

/-- **The state is Trusted exactly when** trust is verified, the policy trusts the credential, the
certificate conforms to the profile (C06) under the *same* policy, and the signature verifies. -/
theorem credential_trusted_iff (mode : Mode) (tst : Option Int) (now : Int) (f : C06.CertFacts)
    (p : Policy) (q : Query) (sigOk : Bool) :
    credentialState mode .openssl tst now f p q sigOk = .trusted ↔
      mode = .trustPolicy ∧ (∃ a, TrustedBy p (queryOf f q) a) ∧
        C06.Conforming (envOf p tst now) f ∧ sigOk = true := by
  have hv : (verifyTrust mode .openssl p (queryOf f q)).toTrust = .trusted ↔
      mode = .trustPolicy ∧ ∃ a, TrustedBy p (queryOf f q) a := by
    rw [← trusted_iff_policy]
    cases verifyTrust mode .openssl p (queryOf f q) <;> simp [Verdict.toTrust]
  unfold credentialState credentialCodes
  rw [state_of_codes, ← C06.accepted_iff_conforming]
  cases sigOk
  · simp
  · cases C06.checkEndEntity (envOf p tst now) f with
    | ok => simp [C06.Res.rejected, hv]
    | err k c r => cases mode <;> simp [C06.Res.rejected]

/-- A Trusted state (OpenSSL backend) implies an EKU on the signing certificate that the
policy's own configuration accepts, whichever way trust was established (allow list included). -/
theorem eku_required (mode : Mode) (tst : Option Int) (now : Int) (f : C06.CertFacts) (p : Policy)
    (q : Query) (sigOk : Bool) (h : credentialState mode .openssl tst now f p q sigOk = .trusted) :
    ∃ e, f.eku = .some e ∧ e.any = false ∧ hasAllowedEku p.allowedEkus e = true := by
  obtain ⟨_, _, c, _⟩ := (credential_trusted_iff mode tst now f p q sigOk).1 h
  obtain ⟨e, he, ha, hal, _⟩ := c.eku
  exact ⟨e, he, ha, hal⟩

/-- OpenSSL backend: a conforming, correctly signed credential that the policy does not trust is Valid with
`signingCredential.untrusted`. -/
theorem conforming_untrusted_valid (tst : Option Int) (now : Int) (f : C06.CertFacts) (p : Policy)
    (q : Query) (hc : C06.Conforming (envOf p tst now) f) (hn : ¬ ∃ a, TrustedBy p (queryOf f q) a) :
    credentialState .trustPolicy .openssl tst now f p q true = .valid ∧
    C04.cUntrusted ∈ (credentialCodes .trustPolicy .openssl tst now f p q true).failure := by
  have hu := (otherwise_untrusted p (queryOf f q)).2 hn
  unfold credentialState credentialCodes
  rw [C06.conforming_accepted _ f hc, hu]
  exact ⟨by rw [state_of_codes]; rfl, (C06.untrusted_mem_failure _ _ _ _).2 ⟨rfl, rfl⟩⟩

/-- Input-level coherence of the chain oracle with the configuration: a chain can only verify
against a store that holds at least one anchor. (The implementation's oracle, OpenSSL, cannot
answer "verified" from an empty store.) -/
def OracleCoherent (p : Policy) (q : Query) : Prop :=
  (q.sysValid = true → p.nSys ≠ 0) ∧ (q.userValid = true → p.nUser ≠ 0)

/-- The property statement's condition, without reference to the order of the tests in the code:
on the allow list, **or** an accepted EKU and a chain (all inputs decodable) to a system anchor or
— unless trust-anchor-only — to a user anchor. -/
def StatementTrusted (p : Policy) (q : Query) : Prop :=
  q.certHash ∈ p.allowSet ∨
  (EkuAccepted p q ∧ q.chainParses = true ∧ q.sysAnchorsParse = true ∧
    (q.sysValid = true ∨ (p.anchorsOnly = false ∧ q.userAnchorsParse = true ∧ q.userValid = true)))

theorem trustedBy_iff_statement (p : Policy) (q : Query) (hp : p.passthrough = false)
    (hc : OracleCoherent p q) : (∃ a, TrustedBy p q a) ↔ StatementTrusted p q := by
  unfold TrustedBy StatementTrusted
  constructor
  · rintro ⟨a, h | h | h⟩
    · rw [hp] at h; cases h.1
    · exact Or.inl h.2.1
    · obtain ⟨_, _, _, he, hcp, hsp, h⟩ := h
      refine Or.inr ⟨he, hcp, hsp, ?_⟩
      rcases h with ⟨hs, _⟩ | ⟨_, ho, hup, hu, _⟩
      · exact Or.inl hs
      · exact Or.inr ⟨ho, hup, hu⟩
  · intro h
    by_cases hm : q.certHash ∈ p.allowSet
    · exact ⟨.endEntity, Or.inr (Or.inl ⟨hp, hm, rfl⟩)⟩
    · rcases h with h | ⟨he, hcp, hsp, h⟩
      · exact absurd h hm
      · cases hs : q.sysValid
        · rcases h with h | ⟨ho, hup, hu⟩
          · rw [hs] at h; cases h
          · exact ⟨.user, Or.inr (Or.inr ⟨hp, hm, Or.inr (hc.2 hu), he, hcp, hsp,
              Or.inr ⟨rfl, ho, hup, hu, rfl⟩⟩)⟩
        · exact ⟨.system, Or.inr (Or.inr ⟨hp, hm, Or.inl (hc.1 hs), he, hcp, hsp, Or.inl ⟨rfl, rfl⟩⟩)⟩

/-- For every policy a reader can configure (`passthrough` is the
internal no-check policy), on the OpenSSL backend and for an oracle that reports no chain to an
empty anchor store (`OracleCoherent`), `signingCredential.trusted` is logged exactly under the
statement's condition, and `signingCredential.untrusted` exactly otherwise. -/
theorem trusted_iff_statement (p : Policy) (q : Query) (hp : p.passthrough = false)
    (hc : OracleCoherent p q) :
    (verifyTrust .trustPolicy .openssl p q = .trusted ↔ StatementTrusted p q) ∧
    (verifyTrust .trustPolicy .openssl p q = .untrusted ↔ ¬ StatementTrusted p q) := by
  rw [← trustedBy_iff_statement p q hp hc]
  exact ⟨by simpa using trusted_iff_policy .trustPolicy p q, otherwise_untrusted p q⟩

/-- An allow-listed certificate is trusted as `EndEntity` whatever
else is true of it (EKU, chain, anchors, decodability), on both backends. -/
theorem allowlisted_regardless (p : Policy) (q : Query) (h : p.passthrough = false)
    (hm : q.certHash ∈ p.allowSet) :
    ∀ (b : Backend) (q' : Query), q'.certHash = q.certHash → checkTrust b p q' = .ok .endEntity := by
  intro b q' hq
  have hm' : q'.certHash ∈ p.allowSet := by rw [hq]; exact hm
  unfold checkTrust
  simp [h, hm']

/-- A policy with no allow-list entry and no anchor trusts nothing. -/
theorem empty_policy_untrusted (p : Policy) (h0 : p.passthrough = false) (h1 : p.allowSet = [])
    (h2 : p.nSys = 0) (h3 : p.nUser = 0) :
    ∀ (b : Backend) (q : Query), verifyTrust .trustPolicy b p q = .untrusted := by
  intro b q
  unfold verifyTrust checkTrust opensslCheck rustNativeCheck
  cases b <;> simp [h0, h1, h2, h3]

/-- A positive answer is preserved when the chain oracle's answers
only move from "does not verify" to "verifies" (everything else unchanged). -/
theorem trust_monotone_in_oracle (b : Backend) (p : Policy) (q : Query) (a : Anchor) (sv uv : Bool)
    (h : checkTrust b p q = .ok a) (hs : q.sysValid = true → sv = true)
    (hu : q.userValid = true → uv = true) :
    ∃ a', checkTrust b p { q with sysValid := sv, userValid := uv } = .ok a' := by
  rw [checkTrust_seenBy] at h ⊢
  simp only [checkTrust_ok_iff] at h ⊢
  cases b <;>
  · rcases h with ⟨hp, _⟩ | ⟨hp, hm, _⟩ | ⟨hp, hm, hn, he, hcp, hsp, hv⟩
    · exact ⟨_, Or.inl ⟨hp, rfl⟩⟩
    · exact ⟨_, Or.inr (Or.inl ⟨hp, hm, rfl⟩)⟩
    · cases hsv : sv
      · -- the system store still fails, so it failed before: the user branch it was, and still is
        rcases hv with ⟨h1, _⟩ | ⟨_, hao, hup, huv, _⟩
        · rw [hs h1] at hsv; cases hsv
        · exact ⟨_, Or.inr (Or.inr ⟨hp, hm, hn, he, hcp, hsp, Or.inr ⟨rfl, hao, hup, hu huv, rfl⟩⟩)⟩
      · exact ⟨_, Or.inr (Or.inr ⟨hp, hm, hn, he, hcp, hsp, Or.inl ⟨rfl, rfl⟩⟩)⟩

/-! ### Settings loading (`Store::from_context`) -/

/-- No reader setting selects the no-check policy or trust-anchor-only mode. -/
theorem fromContext_flags (d : List String) (s : TrustSettings) :
    (fromContext d s).passthrough = false ∧ (fromContext d s).anchorsOnly = false := ⟨rfl, rfl⟩

/-- **The default configuration trusts nothing**: with no `trust` setting every credential is
reported untrusted. -/
theorem fromContext_default_untrusted (d : List String) (b : Backend) (q : Query) :
    verifyTrust .trustPolicy b (fromContext d {}) q = .untrusted :=
  empty_policy_untrusted _ rfl rfl rfl rfl b q

/-- The built-in EKU list is always accepted; `trust_config` only adds to it. -/
theorem fromContext_ekus (d : List String) (s : TrustSettings) :
    (∀ o ∈ d, o ∈ (fromContext d s).allowedEkus) ∧
    (∀ ls, s.trustConfig = some ls → ∀ l ∈ ls, l.b64ok = true → l.text ∈ (fromContext d s).allowedEkus) := by
  refine ⟨fun o ho => List.mem_append_left _ ho, ?_⟩
  intro ls hls l hl hok
  unfold fromContext
  simp only [hls]
  apply List.mem_append_right
  unfold loadEkus
  exact List.mem_map.2 ⟨l, List.mem_filter.2 ⟨hl, hok⟩, rfl⟩

/-- The `match` is how `fromContext` computes `nSys` / `nUser` from an anchor setting. -/
theorem anchors_loaded_or_empty (o : Option (List Bool)) :
    (∃ bs, o = some bs ∧ (loadAnchors bs).2 ≠ 0) ∨
    (match o with | none => 0 | some bs => (loadAnchors bs).2) = 0 := by
  cases o with
  | none => exact .inr rfl
  | some bs => exact (Decidable.em ((loadAnchors bs).2 = 0)).elim .inr fun hz => .inl ⟨bs, rfl, hz⟩

/-- A reader-configured policy (OpenSSL backend) trusts a credential only through an `allowed_list`
entry of the settings, or — with an accepted EKU — a chain the oracle verifies against the system
or the user store; that this store was filled by `trust_anchors` / `user_anchors` holds up to the
last two arms, which `OracleCoherent` excludes. -/
theorem fromContext_trusted_only_if (d : List String) (s : TrustSettings) (q : Query)
    (h : verifyTrust .trustPolicy .openssl (fromContext d s) q = .trusted) :
    (∃ ls ps, s.allowedList = some (ls, ps) ∧ q.certHash ∈ (loadAllowListR ls ps).2) ∨
    (EkuAccepted (fromContext d s) q ∧
      ((∃ bs, s.trustAnchors = some bs ∧ (loadAnchors bs).2 ≠ 0 ∧ q.sysValid = true) ∨
       (∃ bs, s.userAnchors = some bs ∧ (loadAnchors bs).2 ≠ 0 ∧ q.userValid = true) ∨
       -- the oracle answered "verifies" for a store the settings left empty (excluded by `OracleCoherent`)
       (q.sysValid = true ∧ (fromContext d s).nSys = 0) ∨ (q.userValid = true ∧ (fromContext d s).nUser = 0))) := by
  obtain ⟨_, a, ha⟩ := (trusted_iff_policy .trustPolicy _ q).1 h
  rcases ha with ha | ha | ⟨_, _, _, he, _, _, hv⟩
  · cases ha.1
  · left
    have hm := ha.2.1
    unfold fromContext at hm
    cases hal : s.allowedList with
    | none => simp [hal] at hm
    | some lp => exact ⟨lp.1, lp.2, rfl, by simpa [hal] using hm⟩
  · refine .inr ⟨he, ?_⟩
    rcases hv with ⟨hs, _⟩ | ⟨_, _, _, hu, _⟩
    · rcases anchors_loaded_or_empty s.trustAnchors with ⟨bs, hb, hz⟩ | h0
      · exact .inl ⟨bs, hb, hz, hs⟩
      · exact .inr (.inr (.inl ⟨hs, h0⟩))
    · rcases anchors_loaded_or_empty s.userAnchors with ⟨bs, hb, hz⟩ | h0
      · exact .inr (.inl ⟨bs, hb, hz, hu⟩)
      · exact .inr (.inr (.inr ⟨hu, h0⟩))

theorem scanLines_sound : ∀ (ls : List Line) (inside : Bool) (x : String),
    x ∈ scanLines ls inside → ∃ l ∈ ls, l.text = x ∧ l.text.length = 44 ∧ l.b64ok = true := by
  intro ls
  induction ls with
  | nil => intro inside x h; simp [scanLines] at h
  | cons l ls ih =>
    intro inside x h
    unfold scanLines at h
    split at h
    · rename_i hc
      rcases List.mem_cons.1 h with rfl | h
      · simp only [Bool.and_eq_true, beq_iff_eq] at hc
        exact ⟨l, List.mem_cons_self .., rfl, hc.1.2, hc.2⟩
      · obtain ⟨l', hl', h'⟩ := ih _ x h
        exact ⟨l', List.mem_cons_of_mem _ hl', h'⟩
    · obtain ⟨l', hl', h'⟩ := ih _ x h
      exact ⟨l', List.mem_cons_of_mem _ hl', h'⟩

/-- **The allow list holds exactly what was configured**: every PEM certificate's hash is in
it, and every entry is a PEM certificate's hash or a 44-character base64 line of the text. -/
theorem loadAllowList_spec (lines : List Line) (pems : List String) :
    (∀ h ∈ pems, h ∈ loadAllowList lines pems) ∧
    (∀ x ∈ loadAllowList lines pems,
      x ∈ pems ∨ ∃ l ∈ lines, l.text = x ∧ l.text.length = 44 ∧ l.b64ok = true) := by
  unfold loadAllowList
  refine ⟨fun h hh => List.mem_append_right _ hh, ?_⟩
  intro x hx
  rcases List.mem_append.1 hx with h | h
  · exact Or.inr (scanLines_sound lines false x h)
  · exact Or.inl h

theorem nextInside_of_not_begin (l : Line) (h : l.isBegin = false) : nextInside l false = false := by
  unfold nextInside; cases l.isEnd <;> simp [h]

theorem scanLines_no_begin (pre : List Line) (hpre : ∀ x ∈ pre, x.isBegin = false) (rest : List Line) :
    ∀ y, y ∈ scanLines rest false → y ∈ scanLines (pre ++ rest) false := by
  induction pre with
  | nil => intro y hy; exact hy
  | cons a pre ih =>
    intro y hy
    have hn := nextInside_of_not_begin a (hpre a (List.mem_cons_self ..))
    have ih' := ih (fun x hx => hpre x (List.mem_cons_of_mem _ hx)) y hy
    simp only [List.cons_append]
    unfold scanLines
    rw [hn]
    split
    · exact List.mem_cons_of_mem _ ih'
    · exact ih'

/-- A hash line that stands outside every PEM block (no BEGIN line before it) is loaded. -/
theorem hash_line_loaded (pre post : List Line) (l : Line) (pems : List String)
    (hpre : ∀ x ∈ pre, x.isBegin = false) (hb : l.isBegin = false)
    (hlen : l.text.length = 44) (hok : l.b64ok = true) :
    l.text ∈ loadAllowList (pre ++ l :: post) pems := by
  unfold loadAllowList
  apply List.mem_append_left
  apply scanLines_no_begin pre hpre
  unfold scanLines
  rw [nextInside_of_not_begin l hb]
  simp [hlen, hok]

theorem loadPems_spec : ∀ (ps : List (Option String)),
    ((loadPems ps).1 = true ↔ ∀ x ∈ ps, x ≠ none) ∧
    (loadPems ps).2 = (ps.takeWhile Option.isSome).filterMap id := by
  intro ps
  induction ps with
  | nil => simp [loadPems]
  | cons x xs ih =>
    cases x with
    | none => simp [loadPems]
    | some h => simp [loadPems, ih.1, ih.2]

/-- With every block decodable the loader is the total `loadAllowList` and returns `Ok`. -/
theorem loadAllowListR_ok (lines : List Line) (pems : List String) :
    loadAllowListR lines (pems.map some) = (true, loadAllowList lines pems) := by
  have h : loadPems (pems.map some) = (true, pems) := by
    induction pems with
    | nil => rfl
    | cons x xs ih => simp [loadPems, ih]
  unfold loadAllowListR loadAllowList
  rw [h]

/-- **A bad PEM block**: the call returns `Err` exactly when some block is rejected; the hash
lines and the blocks *before* the first bad one are in the set all the same, nothing after it
is, and nothing else ever is. -/
theorem loadAllowListR_spec (lines : List Line) (ps : List (Option String)) :
    ((loadAllowListR lines ps).1 = true ↔ ∀ x ∈ ps, x ≠ none) ∧
    (∀ x ∈ scanLines lines false, x ∈ (loadAllowListR lines ps).2) ∧
    (∀ (pre : List String) (rest : List (Option String)), ps = pre.map some ++ rest →
      ∀ h ∈ pre, h ∈ (loadAllowListR lines ps).2) ∧
    (∀ (pre : List String) (rest : List (Option String)), ps = pre.map some ++ none :: rest →
      (loadAllowListR lines ps).2 = scanLines lines false ++ pre) ∧
    (∀ x ∈ (loadAllowListR lines ps).2,
      some x ∈ ps ∨ ∃ l ∈ lines, l.text = x ∧ l.text.length = 44 ∧ l.b64ok = true) := by
  have hp := loadPems_spec ps
  refine ⟨hp.1, fun x hx => List.mem_append_left _ hx, ?_, ?_, ?_⟩
  · intro pre rest he h hh
    unfold loadAllowListR
    rw [hp.2, he]
    simp [hh]
  · intro pre rest he
    unfold loadAllowListR
    rw [hp.2, he]
    simp
  · intro x hx
    unfold loadAllowListR at hx
    rcases List.mem_append.1 hx with h | h
    · exact Or.inr (scanLines_sound lines false x h)
    · left
      rw [hp.2] at h
      obtain ⟨y, hy, hyx⟩ := List.mem_filterMap.1 h
      cases hyx
      exact (List.takeWhile_sublist _).mem hy

theorem loadAnchors_spec : ∀ (bs : List Bool),
    ((loadAnchors bs).1 = true ↔ ∀ x ∈ bs, x = true) ∧
    (loadAnchors bs).2 = (bs.takeWhile id).length := by
  intro bs
  induction bs with
  | nil => simp [loadAnchors]
  | cons x xs ih => cases x <;> simp [loadAnchors, ih.1, ih.2]

/-! ### `cert_chain_from_sign1` / `Verifier::verify_signature`: when is there a verdict at all -/

/-- The protected header is looked at first; a chain in the unprotected header next to *any*
protected `x5chain` entry — even one `cert_chain_from_cbor_value` rejects — is an error. -/
theorem chain_ok_iff (prot unprot : HeaderChain) :
    certChainFromSign1 prot unprot = .ok () ↔
      (prot = .chain ∧ unprot ≠ .chain) ∨ (prot = .absent ∧ unprot = .chain) := by
  cases prot <;> cases unprot <;> simp [certChainFromSign1]

/-- What `Claim::verify_internal` adds to the log for the outcome of `verify_signature`. -/
def afterVerifyInternal (o : VerifyOut) : C04.Codes :=
  match o.result with
  | .ok _ => { success := o.success ++ [C04.cInsideValidity, C04.cSigValidated], informational := [],
               failure := o.failure }
  | .error _ => { success := o.success, informational := [], failure := o.failure ++ [C06.cMismatch] }

/-- The outcome of `verify_signature` as the single `sigOk` bit of the code assembly. -/
def VerifyOut.isOk (o : VerifyOut) : Bool :=
  match o.result with
  | .ok _ => true
  | .error _ => false

/-- **Refinement**: when the chain can be extracted, the function-level model of
`verify_signature` followed by `verify_internal` is the end-to-end code assembly
(`C06.signatureCodes`) with `sigOk` = "`verify_signature` returned `Ok`" — i.e. an undecodable
certificate, a wrong signature and a subject without organisation are exactly the `sigOk = false`
cases. -/
theorem verifySignature_refines (mode : Mode) (b : Backend) (tst : Option Int) (now : Int)
    (f : C06.CertFacts) (p : Policy) (q : Query) (prot unprot : HeaderChain) (sigOk hasOrg : Bool)
    (hc : certChainFromSign1 prot unprot = .ok ()) :
    afterVerifyInternal (verifySignature mode b tst now f p q prot unprot sigOk hasOrg) =
      credentialCodes mode b tst now f p q (f.parses && sigOk && hasOrg) := by
  unfold verifySignature afterVerifyInternal credentialCodes C06.signatureCodes
  rw [hc]
  cases f.parses <;> cases sigOk <;> cases hasOrg <;> simp

/-- With trust verification on, `verify_signature` logs exactly one of
`signingCredential.trusted` / `signingCredential.untrusted` when the signature carries a usable
certificate chain — and *neither* when it does not; then it returns an error, so the claim
signature is reported as mismatching and the manifest is Invalid (never Trusted). -/
theorem verdict_iff_chain (b : Backend) (tst : Option Int) (now : Int) (f : C06.CertFacts)
    (p : Policy) (q : Query) (prot unprot : HeaderChain) (sigOk hasOrg : Bool) :
    let o := verifySignature .trustPolicy b tst now f p q prot unprot sigOk hasOrg
    (certChainFromSign1 prot unprot = .ok () →
      (C04.cTrusted ∈ o.success ↔ verifyTrust .trustPolicy b p (queryOf f q) = .trusted) ∧
      (C04.cUntrusted ∈ o.failure ↔ verifyTrust .trustPolicy b p (queryOf f q) = .untrusted)) ∧
    (certChainFromSign1 prot unprot ≠ .ok () →
      o.success = [] ∧ o.failure = [] ∧ o.isOk = false ∧
      C04.state (C06.resultsOf (afterVerifyInternal o)) = .invalid) := by
  dsimp only
  unfold verifySignature
  constructor
  · intro hc
    rw [hc]
    simp only [C06.trusted_mem_trustCodes, List.mem_append, C06.untrusted_mem_trustCodes,
      C06.untrusted_not_mem_profileFailure, false_or, true_and]
    rcases verdict_total b p (queryOf f q) with hv | hv <;> rw [hv] <;> simp [Verdict.toTrust]
  · intro hc
    cases hcc : certChainFromSign1 prot unprot with
    | ok u => exact absurd hcc hc
    | error e =>
      cases e <;> exact ⟨rfl, rfl, rfl,
        C04.invalid_of_failure _ C06.cMismatch (List.mem_append_left _ (List.mem_singleton.2 rfl))
          C06.mismatch_not_tolerated⟩

def exPolicy : Policy := { nSys := 1, nUser := 1, allowedEkus := ["1.3.6.1.5.5.7.3.36"] }
def exQuery : Query := { certHash := "h", eku := some { other := ["1.3.6.1.5.5.7.3.36"] }, userValid := true }

example : checkTrust .openssl exPolicy exQuery = .ok .user := rfl
example : TrustedBy exPolicy exQuery .user := (checkTrust_ok_iff _ _ _).1 rfl
example : checkTrust .openssl { exPolicy with anchorsOnly := true } exQuery = .error .certificateNotTrusted := rfl
example : checkTrust .openssl exPolicy { exQuery with sysValid := true } = .ok .system := rfl
example : checkTrust .openssl { exPolicy with allowSet := ["h"] } { exQuery with userValid := false } = .ok .endEntity := rfl
example : checkTrust .openssl exPolicy { exQuery with eku := some { serverAuth := true } } = .error .invalidEku := rfl
example : verifyTrust .profileOnly .openssl exPolicy exQuery = .none := rfl
example : credentialState .trustPolicy .openssl none 50 C06.exConforming exPolicy exQuery true = .trusted := by
  unfold credentialState credentialCodes; rw [state_of_codes]; rfl
example : credentialState .trustPolicy .openssl none 50 C06.exConforming { exPolicy with anchorsOnly := true } exQuery true = .valid := by
  unfold credentialState credentialCodes; rw [state_of_codes]; rfl
example : OracleCoherent exPolicy exQuery := ⟨by decide, by decide⟩
example : StatementTrusted exPolicy exQuery := ((trusted_iff_statement _ _ rfl ⟨by decide, by decide⟩).1).1 rfl
example : loadAllowListR [{ text := "BBBBBBBBBBBBBBBBBBBBBBBBBBBBBBBBBBBBBBBBBBB=", b64ok := true }] [some "p", none, some "r"]
    = (false, ["BBBBBBBBBBBBBBBBBBBBBBBBBBBBBBBBBBBBBBBBBBB=", "p"]) := by decide +kernel
example : loadAnchors [true, true, false, true] = (false, 2) := by decide
example : certChainFromSign1 .absent .absent = .error .missing := rfl
example : certChainFromSign1 .chain .chain = .error .multiple := rfl
example : certChainFromSign1 .bad .chain = .error .multiple := rfl
example : certChainFromSign1 .absent .chain = .ok () := rfl
example : (verifySignature .trustPolicy .openssl none 50 C06.exConforming exPolicy exQuery .bad .absent true true).failure = [] := rfl
example : (verifySignature .trustPolicy .openssl none 50 C06.exConforming exPolicy exQuery .chain .absent true true).success
    = [C04.cTrusted] := rfl
example : (fromContext ["1.3.6.1.5.5.7.3.36"] { userAnchors := some [true] }).nUser = 1 := rfl
example : loadAllowList [{ text := "-----BEGIN CERTIFICATE-----", isBegin := true },
    { text := "AAAAAAAAAAAAAAAAAAAAAAAAAAAAAAAAAAAAAAAAAAA=", b64ok := true },
    { text := "-----END CERTIFICATE-----", isEnd := true },
    { text := "BBBBBBBBBBBBBBBBBBBBBBBBBBBBBBBBBBBBBBBBBBB=", b64ok := true }] ["p"]
    = ["BBBBBBBBBBBBBBBBBBBBBBBBBBBBBBBBBBBBBBBBBBB=", "p"] := by decide +kernel

end C2pa.C05
