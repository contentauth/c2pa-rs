import C2paModel.Lemmas.C16
import C2paModel.Lemmas.C16Place
/-
C16 — Merkle proofs accept exactly the committed leaves.  Statement (properties.jsonl):

  For any number of leaves and any stored tree row, the proof the SDK generates for each leaf
  verifies against the stored hashes at that leaf's index. No other leaf value, index, or
  altered proof verifies.

All theorems are over every leaf list (any length), every leaf index, every `max_proof_len`
(`d`; the stored row is layer `min d (layers-1)`, so every row of the tree is covered), every
candidate value and every candidate proof, present (`some p`) or absent (`none`, the wire form
of the empty proof).  The positive half holds for every combining function.  The negative half
is stated three times, from the most abstract to the byte level:
  * `verifies_iff_committed_on` — for a combining function that is collision free relative to a
    class `D` of well-formed digests (`InjectiveOn2`); proof elements are *unrestricted*
    (wrong-length byte strings included), only the candidate value must be well formed;
  * `verifies_iff_committed` — `D = everything` (the free term algebra `Dig` is an instance);
  * `forged_acceptance_yields_collision` — byte level: `comb a b = H (a ++ b)` exactly as
    `concat_and_hash` (no framing), `H` any function with outputs of length `L`; an accepted forgery
    yields two different byte strings with the same `H`.  No unsatisfiable hypothesis.
The absent proof needs no assumption at all: `none_proof_iff`.

Reading of "no other index verifies" (DESIGN §5): verification at index `j` with value `v`
succeeds iff `v` is the committed leaf `j` — with duplicate leaves the literal reading is false
for every Merkle tree.  "Altered proof" is about the elements the playback consumes
(`check_merkle_tree` ignores trailing elements; the iff says exactly which proofs are accepted).

`checkMerkleTreePre` and `chunksGoPre` / `validateGroupPre` are the two functions before the repairs
named in Model/C16; the `pre_fix_*` theorems are about them (the `None` arm accepted an inner node
as a leaf: a two-leaf witness; with the leaf index taken from the unhashed `location` field every
rearrangement of committed chunks verified).  The harness replays both witnesses on the implementation.
-/
namespace C2pa.C16

variable {α : Type}

/-- The stored row a proof of depth `d` is checked against.  For a generated tree it is `rowAt`,
the form the other theorems use: `(Tree.fromLeaves comb l).row d = some (rowAt comb l d)`
(`genTree_row`). -/
def Tree.row (t : Tree α) (d : Nat) : Option (List α) :=
  t.layers[min d (t.layers.length - 1)]?

/-- `to_layout(n)` (used by the verifier) is the list of layer sizes `generate_tree`
produces for `n` leaves. -/
theorem layout_matches_tree (comb : α → α → α) (leaves : List α) :
    layout leaves.length = (Tree.fromLeaves comb leaves).layers.map List.length := by
  show layout leaves.length = (genTree comb leaves).map List.length
  fun_induction genTree comb leaves with
  | case1 cur h ih => rw [layout_big _ h, ← nextLayer_length, ih]; simp
  | case2 cur h => rw [layout_small _ h]; simp

/-- the `is_empty` guard of `get_proof_by_index` is covered by the range guard -/
theorem getProof_fromLeaves (comb : α → α → α) (leaves : List α) (i d : Nat) :
    (Tree.fromLeaves comb leaves).getProof i d =
      if leaves.length ≤ i then none else some (proofGo (genTree comb leaves) i d) := by
  cases leaves with
  | nil => rfl
  | cons a l => simp [Tree.getProof, Tree.fromLeaves]

theorem getProof_none_iff (comb : α → α → α) (leaves : List α) (i d : Nat) :
    (Tree.fromLeaves comb leaves).getProof i d = none ↔ leaves.length ≤ i := by
  rw [getProof_fromLeaves]
  split <;> simp [*]

theorem hashCheck_iff [DecidableEq α] (hashes : List α) (j : Nat) (h : α) :
    hashCheck hashes j h = true ↔ hashes[j]? = some h := by
  unfold hashCheck
  split <;> simp_all

/-- `check_merkle_tree` in one line: the range guard, the playback of the proof (an absent proof
plays as the empty one, `playProof_nil`), then `hash_check` of where it ends -/
theorem check_iff [DecidableEq α] (comb : α → α → α) (count : Nat) (hashes : List α) (v : α)
    (loc : Nat) (proof : Option (List α)) :
    checkMerkleTree comb count hashes v loc proof = true ↔
      loc < count ∧ ∃ j h, playProof comb (layout count) hashes.length loc v (proof.getD [])
        = some (j, h) ∧ hashes[j]? = some h := by
  have end_in_row (r : Option (Nat × α)) :
      (match r with | some (j, h) => hashCheck hashes j h | none => false) = true
        ↔ ∃ j h, r = some (j, h) ∧ hashes[j]? = some h := by
    cases r with
    | none => simp
    | some jh => exact ⟨fun hh => ⟨_, _, rfl, (hashCheck_iff ..).mp hh⟩,
        fun ⟨_, _, e, hh⟩ => Option.some.inj e ▸ (hashCheck_iff ..).mpr hh⟩
  unfold checkMerkleTree
  by_cases hlt : loc < count
  · rw [if_neg (Nat.not_le.mpr hlt), ← end_in_row]
    cases proof with
    | some p => simp only [hlt, true_and, Option.getD_some]; exact Iff.rfl
    | none =>
      simp only [Option.getD_none, playProof_nil, hlt, true_and]
      cases playEmpty (layout count) hashes.length loc <;> rfl
  · simp [hlt, Nat.le_of_not_lt hlt]

/-- completeness in the form the iff needs: the committed leaf is accepted with any proof, present
or absent, that starts with the generated one (what follows it is never looked at) -/
theorem honest_verifies [DecidableEq α] (comb : α → α → α) (leaves : List α) (d loc : Nat) (v : α)
    (proof : Option (List α)) (hv : leaves[loc]? = some v)
    (hp : proofGo (genTree comb leaves) loc d <+: proof.getD []) :
    checkMerkleTree comb leaves.length (rowAt comb leaves d) v loc proof = true := by
  obtain ⟨extra, he⟩ := hp
  exact (check_iff ..).mpr
    ⟨(List.getElem?_eq_some_iff.mp hv).1, he ▸ play_complete comb d leaves loc v extra hv⟩

/-- **The generated proof verifies** — any number of leaves, any index, any `max_proof_len`
(hence any stored row), any combining function.  (Followed by extra elements it still does:
`honest_verifies`.) -/
theorem proof_verifies [DecidableEq α] (comb : α → α → α) (leaves : List α) (i d : Nat)
    (hi : i < leaves.length) :
    ∃ p row, (Tree.fromLeaves comb leaves).getProof i d = some p
      ∧ (Tree.fromLeaves comb leaves).row d = some row
      ∧ checkMerkleTree comb leaves.length row leaves[i] i (some p) = true :=
  ⟨_, _, by rw [getProof_fromLeaves, if_neg (Nat.not_le.mpr hi)], genTree_row comb leaves d,
    honest_verifies comb leaves d i _ (some _) (List.getElem?_eq_getElem hi) (List.prefix_refl _)⟩

/-- `proof_verifies` for an explicitly chosen stored row `r` of the tree. -/
theorem proof_verifies_row [DecidableEq α] (comb : α → α → α) (leaves : List α) (i r : Nat)
    (hi : i < leaves.length) (row : List α)
    (hrow : (Tree.fromLeaves comb leaves).layers[r]? = some row) :
    ∃ p, (Tree.fromLeaves comb leaves).getProof i r = some p
      ∧ checkMerkleTree comb leaves.length row leaves[i] i (some p) = true := by
  cases hrow.symm.trans (genTree_getElem? comb leaves r (List.getElem?_eq_some_iff.mp hrow).1)
  exact ⟨_, by rw [getProof_fromLeaves, if_neg (Nat.not_le.mpr hi)],
    honest_verifies comb leaves r i _ (some _) (List.getElem?_eq_getElem hi) (List.prefix_refl _)⟩

/-! ### the absent proof is the empty proof -/

/-- Refinement between the two arms of `check_merkle_tree`: an absent proof is verified exactly
like the empty proof — for every stored row (also one that is not a row of the tree), count,
value, index and combining function. -/
theorem none_proof_eq_empty_proof [DecidableEq α] (comb : α → α → α) (count : Nat)
    (hashes : List α) (v : α) (loc : Nat) :
    checkMerkleTree comb count hashes v loc none
      = checkMerkleTree comb count hashes v loc (some []) :=
  Bool.eq_iff_iff.mpr (by rw [check_iff, check_iff]; rfl)

/-- **Wire form of the generated proof verifies**: producers store `hashes = None` when the
generated proof is empty (bmff_hash.rs `if !proof.is_empty() { mm.hashes = Some(..) }`); what
reaches the verifier verifies, for every combining function. -/
theorem wire_proof_verifies [DecidableEq α] (comb : α → α → α) (leaves : List α) (i d : Nat)
    (hi : i < leaves.length) :
    checkMerkleTree comb leaves.length (rowAt comb leaves d) leaves[i] i
      (if (proofGo (genTree comb leaves) i d).isEmpty then none
        else some (proofGo (genTree comb leaves) i d)) = true := by
  refine honest_verifies comb leaves d i _ _ (List.getElem?_eq_getElem hi) ?_
  split
  · next he => rw [List.isEmpty_iff.mp he]; exact List.nil_prefix
  · exact List.prefix_refl _

/-! ### exactly the committed leaf verifies -/

/-- The iff behind both arms of `check_merkle_tree`.  Collision freeness is needed only when the
proof has an element to consume. -/
theorem verifies_iff_inj_if_consumed [DecidableEq α] (comb : α → α → α) (D : α → Prop)
    (hD : ∀ a b, D (comb a b)) (leaves : List α) (hl : ∀ x ∈ leaves, D x) (d loc : Nat) (v : α)
    (hv : D v) (proof : Option (List α)) (hinj : proof.getD [] ≠ [] → InjectiveOn2 D comb) :
    checkMerkleTree comb leaves.length (rowAt comb leaves d) v loc proof = true
      ↔ leaves[loc]? = some v ∧ proofGo (genTree comb leaves) loc d <+: proof.getD [] := by
  constructor
  · intro hc
    obtain ⟨hlt, j, h, hplay, hrow⟩ := (check_iff ..).mp hc
    exact play_sound_inj_if_consumed comb D hD d leaves loc v _ hinj j h hlt hl hv hplay hrow
  · exact fun ⟨hv, hp⟩ => honest_verifies comb leaves d loc v proof hv hp

/-- **Exactly the committed leaf verifies.**  `D` is the class of well-formed digests (think
"has the digest length"; among the byte strings of one length `L ≥ 1`, though, no `comb` meets `hD` and
`hinj` together: byte level is `forged_acceptance_yields_collision`); `comb` produces well-formed
digests and is collision free relative to `D` (`InjectiveOn2`).  Leaves and the candidate value are
well formed; the proof — present or
absent, with elements of *any* shape — is unrestricted.  Against the stored row of depth `d`,
verification at index `loc` of value `v` succeeds iff `v` is the committed leaf `loc` and the
proof starts with the generated proof for `loc`. -/
theorem verifies_iff_committed_on [DecidableEq α] (comb : α → α → α) (D : α → Prop)
    (hD : ∀ a b, D (comb a b)) (hinj : InjectiveOn2 D comb)
    (leaves : List α) (hl : ∀ x ∈ leaves, D x) (d loc : Nat) (v : α) (hv : D v)
    (proof : Option (List α)) :
    checkMerkleTree comb leaves.length (rowAt comb leaves d) v loc proof = true
      ↔ leaves[loc]? = some v ∧ proofGo (genTree comb leaves) loc d <+: proof.getD [] :=
  verifies_iff_inj_if_consumed comb D hD leaves hl d loc v hv _ fun _ => hinj

/-- `verifies_iff_committed_on` for a `comb` that is injective on all pairs (no class needed). -/
theorem verifies_iff_committed [DecidableEq α] (comb : α → α → α) (hinj : Injective2 comb)
    (leaves : List α) (d loc : Nat) (v : α) (proof : Option (List α)) :
    checkMerkleTree comb leaves.length (rowAt comb leaves d) v loc proof = true
      ↔ leaves[loc]? = some v ∧ proofGo (genTree comb leaves) loc d <+: proof.getD [] :=
  verifies_iff_committed_on comb (fun _ => True) (fun _ _ => trivial)
    (fun a b c d _ _ _ h => hinj a b c d h) leaves (fun _ _ => trivial) d loc v trivial proof

theorem Dig.comb_injective : Injective2 Dig.comb := by
  intro a b c d h
  cases h
  exact ⟨rfl, rfl⟩

/-- The statement for digests as free terms. -/
theorem index_verifies_iff_committed_free (leaves : List Dig) (d loc : Nat) (v : Dig)
    (p : List Dig) :
    checkMerkleTree Dig.comb leaves.length (rowAt Dig.comb leaves d) v loc (some p) = true
      ↔ leaves[loc]? = some v ∧ proofGo (genTree Dig.comb leaves) loc d <+: p :=
  verifies_iff_committed Dig.comb Dig.comb_injective leaves d loc v (some p)

/-- **The absent proof, without any assumption on the combining function**: `None` against the
stored row of depth `d` is accepted iff the value is the committed leaf and that leaf needs no
sibling up to the stored row (its generated proof is empty: the stored row is the leaf row, or
the node is carried up unpaired).  In particular an inner node is never accepted as a leaf,
collisions or not. -/
theorem none_proof_iff [DecidableEq α] (comb : α → α → α) (leaves : List α) (d loc : Nat)
    (v : α) :
    checkMerkleTree comb leaves.length (rowAt comb leaves d) v loc none = true
      ↔ leaves[loc]? = some v ∧ proofGo (genTree comb leaves) loc d = [] := by
  rw [verifies_iff_inj_if_consumed comb (fun _ => True) (fun _ _ => trivial) leaves
    (fun _ _ => trivial) d loc v trivial none (fun h => absurd rfl h)]
  exact and_congr_right fun _ => List.prefix_nil

/-- Empty-proof playback against the leaf row (the path `validate_merkle_maps_mdat_boxes`
uses for mdat leaves): accepted iff the value is the committed leaf. No assumption on `comb`. -/
theorem none_proof_leaf_row_iff [DecidableEq α] (comb : α → α → α) (leaves : List α) (loc : Nat)
    (v : α) :
    checkMerkleTree comb leaves.length leaves v loc none = true ↔ leaves[loc]? = some v := by
  simpa [rowAt, proofGo_zero] using none_proof_iff comb leaves 0 loc v

/-- A value that is not the committed leaf at `loc` is rejected, whatever the proof. -/
theorem wrong_leaf_rejected [DecidableEq α] (comb : α → α → α) (hinj : Injective2 comb)
    (leaves : List α) (d loc : Nat) (v : α) (proof : Option (List α))
    (hne : leaves[loc]? ≠ some v) :
    checkMerkleTree comb leaves.length (rowAt comb leaves d) v loc proof = false :=
  Bool.eq_false_iff.mpr fun hc => hne ((verifies_iff_committed comb hinj leaves d loc v proof).mp hc).1

/-- A proof that differs from the generated proof in an element the playback consumes
(position `k` below the generated proof's length), or is shorter than it, is rejected. -/
theorem wrong_consumed_proof_elem_rejected [DecidableEq α] (comb : α → α → α)
    (hinj : Injective2 comb) (leaves : List α) (d loc : Nat) (v : α) (p : List α) (k : Nat)
    (hk : k < (proofGo (genTree comb leaves) loc d).length)
    (hne : p[k]? ≠ (proofGo (genTree comb leaves) loc d)[k]?) :
    checkMerkleTree comb leaves.length (rowAt comb leaves d) v loc (some p) = false := by
  refine Bool.eq_false_iff.mpr fun hc => ?_
  obtain ⟨extra, rfl⟩ := ((verifies_iff_committed comb hinj leaves d loc v (some _)).mp hc).2
  exact hne (List.getElem?_append_left hk)

/-- Every accepted proof is the generated proof followed by ignored elements
(stated for the committed value; the other direction is `proof_verifies`). -/
theorem accepted_proofs_extend_honest [DecidableEq α] (comb : α → α → α) (hinj : Injective2 comb)
    (leaves : List α) (d loc : Nat) (v : α) (p : List α)
    (hc : checkMerkleTree comb leaves.length (rowAt comb leaves d) v loc (some p) = true) :
    ∃ extra, p = proofGo (genTree comb leaves) loc d ++ extra :=
  ((verifies_iff_committed comb hinj leaves d loc v (some p)).mp hc).2.imp fun _ => Eq.symm

/-- An index at or beyond `count` is rejected for every stored row, value and proof
(including the absent proof). -/
theorem out_of_range_rejected [DecidableEq α] (comb : α → α → α) (count : Nat) (hashes : List α)
    (v : α) (loc : Nat) (proof : Option (List α)) (h : count ≤ loc) :
    checkMerkleTree comb count hashes v loc proof = false := by
  simp [checkMerkleTree, h]

/-! ### byte level: `concat_and_hash` without framing -/

/-- `concat_and_hash(alg, left, Some(right))` = `hash_by_alg(alg, left ‖ right)`: plain
concatenation, no length prefix, no leaf/node domain separation. -/
def concatHash (H : List UInt8 → List UInt8) (a b : List UInt8) : List UInt8 := H (a ++ b)

/-- the split point of `a ‖ b` is known as soon as one side has length `L` -/
theorem concatHash_injectiveOn (H : List UInt8 → List UInt8) (L : Nat)
    (hH : ∀ x y, H x = H y → x = y) :
    InjectiveOn2 (fun x => x.length = L) (concatHash H) := by
  intro a b c d hc hd hab h
  have e : a ++ b = c ++ d := hH _ _ h
  rcases hab with ha | hb
  · exact List.append_inj e (by rw [ha, hc])
  · exact List.append_inj' e (by rw [hb, hd])

theorem injective_or_collision (H : List UInt8 → List UInt8) :
    (∀ x y, H x = H y → x = y) ∨ ∃ x y, x ≠ y ∧ H x = H y :=
  Classical.or_iff_not_imp_right.mpr fun hc x y h =>
    Classical.byContradiction fun hne => hc ⟨x, y, hne, h⟩

/-- **Byte-level statement, no idealised hypothesis.**  Nodes are byte strings, the combining
function is the code's unframed `H (a ‖ b)`, `H` is *any* function with `L`-byte outputs (e.g.
SHA-256, `L = 32`), leaves and the candidate value are `L`-byte digests (at every call site the
value is `hash_stream_by_alg(alg, …)`), the proof is any option of any list of byte strings of
any lengths.  Then an accepted verification is the committed leaf with an extension of the
generated proof — or two different byte strings with the same `H` exist. -/
theorem forged_acceptance_yields_collision (H : List UInt8 → List UInt8) (L : Nat)
    (hL : ∀ x, (H x).length = L) (leaves : List (List UInt8)) (hl : ∀ x ∈ leaves, x.length = L)
    (d loc : Nat) (v : List UInt8) (hv : v.length = L) (proof : Option (List (List UInt8)))
    (hacc : checkMerkleTree (concatHash H) leaves.length (rowAt (concatHash H) leaves d) v loc
      proof = true) :
    (leaves[loc]? = some v ∧ proofGo (genTree (concatHash H) leaves) loc d <+: proof.getD [])
      ∨ ∃ x y, x ≠ y ∧ H x = H y :=
  (injective_or_collision H).imp_left fun hH =>
    (verifies_iff_committed_on (concatHash H) (fun x => x.length = L)
      (fun a b => hL (a ++ b)) (concatHash_injectiveOn H L hH) leaves hl d loc v hv proof).mp hacc

-- non-vacuity of the hypotheses of `forged_acceptance_yields_collision`: a 2-byte "hash"
example : ∃ H : List UInt8 → List UInt8, ∀ x, (H x).length = 2 :=
  ⟨fun x => [x.headD 0, (x.drop 1).headD 0], fun _ => rfl⟩

/-- What an unframed `comb` does with a candidate value that is not well formed (an illustration:
`concatHash id` does not keep the length 2, so `hD` / `hL` fail for it as well): with plain
concatenation as (perfectly collision-free) `H` and leaves of length 2, the
1-element value `[4]` with the over-long proof element `[1,2,3]` verifies at index 1 of the tree
over `[1,2],[3,4]` although the committed leaf is `[3,4]`.  (Function-level only: no call site
passes a value that is not an `alg` digest.) -/
theorem value_length_hypothesis_needed :
    checkMerkleTree (concatHash id) 2 (rowAt (concatHash id) [[1, 2], [3, 4]] 1) [4] 1
      (some [[1, 2, 3]]) = true := by decide +kernel

/-! ### the defect of `checkMerkleTreePre` -/

/-- The property clause for the `None` arm, about `checkMerkleTreePre`. -/
def PreFixNoneArmSound : Prop :=
  ∀ (leaves : List Dig) (d loc : Nat) (v : Dig),
    checkMerkleTreePre Dig.comb leaves.length (rowAt Dig.comb leaves d) v loc none = true →
      leaves[loc]? = some v

/-- Before the repair the clause was false: with two leaves and the root row stored, the root
`comb 0 1` was accepted as the value of leaf 0 by an absent proof. -/
theorem pre_fix_none_arm_unsound : ¬ PreFixNoneArmSound := by
  intro h
  have := h [.leaf 0, .leaf 1] 1 0 (.comb (.leaf 0) (.leaf 1)) (by decide +kernel)
  exact absurd this (by decide)

theorem fixed_rejects_pre_fix_witness :
    checkMerkleTree Dig.comb 2 (rowAt Dig.comb [.leaf 0, .leaf 1] 1) (.comb (.leaf 0) (.leaf 1))
      0 none = false := by decide +kernel

/-- The two functions differ only in the `None` arm. -/
theorem pre_fix_same_on_present_proofs [DecidableEq α] (comb : α → α → α) (count : Nat)
    (hashes : List α) (v : α) (loc : Nat) (p : List α) :
    checkMerkleTreePre comb count hashes v loc (some p)
      = checkMerkleTree comb count hashes v loc (some p) := rfl

/-! ### the leaf index of a chunk is its position

Asset level.  `verifies_iff_committed_on` is about one call `check_merkle_tree(value, location,
proof)`; what the property needs of an asset is that the chunk standing at position `i` is the
committed leaf `i`.  Both `location` and the proof are read from the chunk's `merkle` uuid box,
which is outside every hash, so this holds only if the validator ties `location` to the position
it is hashing: `chunksGo` does (fixes/C16-merkle-location-bound-to-chunk.patch). -/

theorem chunksGo_iff [DecidableEq α] (comb : α → α → α) (count : Nat) (hashes : List α) (i : Nat)
    (chunks : List α) (boxes : List (Box α)) :
    chunksGo comb count hashes i chunks boxes = true ↔
      chunks.length ≤ boxes.length ∧ ∀ k c b, chunks[k]? = some c → boxes[k]? = some b →
        b.location = i + k ∧ checkMerkleTree comb count hashes c (i + k) b.hashes = true := by
  fun_induction chunksGo comb count hashes i chunks boxes with
  | case1 => simp
  | case2 => simp
  | case3 i c cs b bs hloc =>
    -- the box of the head chunk names another position
    exact ⟨(fun h => nomatch h), fun h => absurd (h.2 0 c b rfl rfl).1 hloc⟩
  | case4 i c cs b bs hloc hchk ih =>
    -- the head passes at `i`; the rest runs from `i + 1`: index `k` there is `k + 1` here
    have hloc : b.location = i := Decidable.not_not.mp hloc
    rw [ih, List.length_cons, List.length_cons, Nat.succ_le_succ_iff]
    refine and_congr_right fun _ => ⟨fun h k c' b' hc hb => ?_, fun h k c' b' hc hb => ?_⟩
    · cases k with
      | zero => cases hc; cases hb; exact ⟨hloc, hloc ▸ hchk⟩
      | succ k => have := h k c' b' hc hb; rwa [show i + 1 + k = i + (k + 1) by omega] at this
    · have := h (k + 1) c' b' hc hb; rwa [show i + (k + 1) = i + 1 + k by omega] at this
  | case5 i c cs b bs hloc hchk =>
    -- the head chunk does not verify at the index its box names
    exact ⟨(fun h => nomatch h), fun h => absurd (let t := h.2 0 c b rfl rfl; t.1 ▸ t.2) hchk⟩

/-- placement alone: if a chunk that passes `check_merkle_tree` at an index is the committed leaf
there (whatever the proof; `committed_binds`), the chunks the loop accepts from position `i` on are
the committed leaves from `i` on — whatever the boxes (locations, proofs) say -/
theorem chunksGo_sound [DecidableEq α] (comb : α → α → α) (count : Nat)
    (hashes leaves chunks : List α) (boxes : List (Box α)) (i : Nat)
    (hbind : ∀ k c proof, c ∈ chunks → checkMerkleTree comb count hashes c k proof = true →
      leaves[k]? = some c)
    (h : chunksGo comb count hashes i chunks boxes = true) (k : Nat) (c : α)
    (hk : chunks[k]? = some c) : leaves[i + k]? = some c := by
  obtain ⟨hle, hall⟩ := (chunksGo_iff ..).mp h
  have hb : k < boxes.length := Nat.lt_of_lt_of_le (List.getElem?_eq_some_iff.mp hk).1 hle
  exact hbind _ c _ (List.mem_of_getElem? hk) (hall k c _ hk (List.getElem?_eq_getElem hb)).2

theorem chunksGo_full [DecidableEq α] (comb : α → α → α) (count : Nat)
    (hashes leaves chunks : List α) (boxes : List (Box α))
    (hbind : ∀ k c proof, c ∈ chunks → checkMerkleTree comb count hashes c k proof = true →
      leaves[k]? = some c)
    (hlen : chunks.length = leaves.length)
    (h : chunksGo comb count hashes 0 chunks boxes = true) : chunks = leaves :=
  List.ext_getElem hlen fun k hk hk' => Option.some.inj <| by
    have := chunksGo_sound comb count hashes leaves chunks boxes 0 hbind h k _
      (List.getElem?_eq_getElem hk)
    rw [Nat.zero_add, List.getElem?_eq_getElem hk'] at this
    exact this.symm

/-- what `verifies_iff_committed_on` says to the placement loop -/
theorem committed_binds [DecidableEq α] (comb : α → α → α) (D : α → Prop)
    (hD : ∀ a b, D (comb a b)) (hinj : InjectiveOn2 D comb)
    (leaves : List α) (hl : ∀ x ∈ leaves, D x) (d : Nat) (chunks : List α)
    (hc : ∀ c ∈ chunks, D c) (k : Nat) (c : α) (proof : Option (List α)) (hm : c ∈ chunks)
    (h : checkMerkleTree comb leaves.length (rowAt comb leaves d) c k proof = true) :
    leaves[k]? = some c :=
  ((verifies_iff_committed_on comb D hD hinj leaves hl d k c (hc c hm) proof).mp h).1

/-- **Asset level, mdat path with proof boxes (`validate_merkle_maps_mdat_boxes`).**  For any
number of mdat boxes / MerkleMaps, any `merkle` uuid boxes (any locations, any proofs — absent,
present, elements of any shape, any number of boxes): if the validator accepts, then for every
MerkleMap whose stored row is a row of the tree over its committed leaves, the chunks of its mdat
box are exactly the committed leaves, position by position.  Hypotheses are about inputs only:
the chunk digests and leaves are well-formed digests, `comb` is collision free relative to
them. -/
theorem accepted_mdats_chunks_are_committed [DecidableEq α] (comb : α → α → α) (D : α → Prop)
    (hD : ∀ a b, D (comb a b)) (hinj : InjectiveOn2 D comb)
    (mdats : List (Mdat α)) (boxes : List (Box α))
    (hacc : validateMdatsUuid comb mdats boxes = true)
    (m : Mdat α) (hm : m ∈ mdats) (leaves : List α) (hl : ∀ x ∈ leaves, D x) (d : Nat)
    (hcount : m.count = leaves.length) (hrow : m.hashes = rowAt comb leaves d)
    (hc : ∀ c ∈ m.chunks, D c) : m.chunks = leaves := by
  simp only [validateMdatsUuid] at hacc
  split at hacc
  · simp at hacc
  · rename_i groups hsplit
    by_cases hlen : mdats.length = groups.length
    · simp only [hlen, ne_eq, not_true_eq_false, if_false, List.all_eq_true] at hacc
      have hmm := hacc m hm
      obtain ⟨g, hlook, hglen⟩ := splitBoxes_group mdats boxes groups hsplit hlen m hm
      -- the group stored under the id of `m` has `count` boxes, so the length test of
      -- `validateGroup` says that `m` has `count` chunks
      simp only [hlook, validateGroup, hcount, hrow] at hmm
      split at hmm
      · cases hmm
      · next hcl =>
        exact chunksGo_full comb _ _ leaves m.chunks g
          (committed_binds comb D hD hinj leaves hl d m.chunks hc)
          (by rw [Decidable.not_not.mp hcl, hglen, hcount]) hmm
    · simp [hlen] at hacc

/-- The fragmented single-file branch: accepted ⇒ the fragments are the committed leaves in
order. -/
theorem accepted_fragments_are_committed [DecidableEq α] (comb : α → α → α) (D : α → Prop)
    (hD : ∀ a b, D (comb a b)) (hinj : InjectiveOn2 D comb)
    (leaves : List α) (hl : ∀ x ∈ leaves, D x) (d : Nat) (chunks : List α)
    (hc : ∀ c ∈ chunks, D c) (boxes : List (Box α))
    (hacc : validateFragments comb leaves.length (rowAt comb leaves d) chunks boxes = true) :
    chunks = leaves := by
  unfold validateFragments at hacc
  split at hacc
  · cases hacc
  · next hlen =>
    simp only [Bool.or_eq_true, decide_eq_true_eq, not_or, ne_eq, Decidable.not_not] at hlen
    exact chunksGo_full comb _ _ leaves chunks boxes
      (committed_binds comb D hD hinj leaves hl d chunks hc) hlen.1 hacc

/-- **Byte level, no idealised hypothesis** (the form of `forged_acceptance_yields_collision`; chunk
digests are outputs of the hash, `L` bytes).  If the validator accepts the stream then the
chunks of every MerkleMap's mdat box are exactly its committed leaves — or two different byte
strings with the same `H` exist. -/
theorem moved_chunk_acceptance_yields_collision (H : List UInt8 → List UInt8) (L : Nat)
    (hL : ∀ x, (H x).length = L) (mdats : List (Mdat (List UInt8)))
    (boxes : List (Box (List UInt8)))
    (hacc : validateMdatsUuid (concatHash H) mdats boxes = true)
    (m : Mdat (List UInt8)) (hm : m ∈ mdats) (leaves : List (List UInt8))
    (hl : ∀ x ∈ leaves, x.length = L) (d : Nat) (hcount : m.count = leaves.length)
    (hrow : m.hashes = rowAt (concatHash H) leaves d) (hc : ∀ c ∈ m.chunks, c.length = L) :
    m.chunks = leaves ∨ ∃ x y, x ≠ y ∧ H x = H y :=
  (injective_or_collision H).imp_left fun hH =>
    accepted_mdats_chunks_are_committed (concatHash H) (fun x => x.length = L)
      (fun a b => hL (a ++ b)) (concatHash_injectiveOn H L hH) mdats boxes hacc m hm leaves hl d
      hcount hrow hc

/-- the box the SDK writes for leaf `i` (`create_merkle_map_for_mdat_box`: `location: i`,
`hashes` present only when the generated proof is not empty) -/
def honestBox (comb : α → α → α) (leaves : List α) (d i : Nat) : Box α :=
  { location := i
    hashes := if (proofGo (genTree comb leaves) i d).isEmpty then none
      else some (proofGo (genTree comb leaves) i d) }

/-- **The honest stream verifies** (one mdat box, any stored row, any combining function): the
committed chunks in order with the boxes the SDK writes are accepted. -/
theorem honest_stream_accepted [DecidableEq α] (comb : α → α → α) (leaves : List α)
    (d lid : Nat) :
    validateMdatsUuid comb [⟨lid, leaves.length, rowAt comb leaves d, leaves⟩]
      ((List.range leaves.length).map (honestBox comb leaves d)) = true := by
  -- one MerkleMap: all boxes form its group, stored under `lid`; then the position loop, where
  -- box `k` names `k` and carries the wire form of the generated proof
  have hsplit : splitBoxes [(⟨lid, leaves.length, rowAt comb leaves d, leaves⟩ : Mdat α)]
      ((List.range leaves.length).map (honestBox comb leaves d)) []
      = some [(lid, (List.range leaves.length).map (honestBox comb leaves d))] := by
    have ht : ((List.range leaves.length).map (honestBox comb leaves d)).take leaves.length
        = (List.range leaves.length).map (honestBox comb leaves d) :=
      List.take_of_length_le (by simp)
    simp [splitBoxes, mapInsert, ht]
  simp only [validateMdatsUuid, hsplit, List.length_cons, List.length_nil, ne_eq,
    not_true_eq_false, if_false, List.all_cons, List.all_nil, Bool.and_true]
  simp only [List.lookup, beq_self_eq_true, validateGroup, List.length_map, List.length_range,
    ne_eq, not_true_eq_false, if_false]
  refine (chunksGo_iff ..).mpr ⟨by simp, fun k c b hc hb => ?_⟩
  obtain ⟨hk, rfl⟩ := List.getElem?_eq_some_iff.mp hc
  rw [List.getElem?_map, List.getElem?_range hk] at hb
  cases hb
  rw [Nat.zero_add]
  exact ⟨rfl, wire_proof_verifies comb leaves k d hk⟩

/-! #### the defect of `chunksGoPre`: `location` free ⇒ every rearrangement accepted -/

/-- the loop before the repair checks each chunk at the index its own box names and nowhere else, so
any list of (chunk, box) pairs that verify one by one passes, in any order and with repetitions -/
theorem chunksGoPre_complete [DecidableEq α] (comb : α → α → α) (count : Nat) (hashes : List α)
    {ι : Type} (c : ι → α) (b : ι → Box α) :
    ∀ (js : List ι),
      (∀ j ∈ js, checkMerkleTree comb count hashes (c j) (b j).location (b j).hashes = true) →
      chunksGoPre comb count hashes (js.map c) (js.map b) = true
  | [], _ => by simp [chunksGoPre]
  | j :: js, h => by
    simp only [List.map_cons, chunksGoPre, h j List.mem_cons_self, if_true]
    exact chunksGoPre_complete comb count hashes c b js fun q hq => h q (List.mem_cons_of_mem _ hq)

/-- **`validateGroupPre`**: take *any* sequence `js` of leaf indices (repetitions allowed, any
order, any length); put at position `k` the committed chunk `js[k]` together with the box the
SDK wrote for leaf `js[k]`.  `validateGroupPre` accepts it, for every combining function —
nothing ties a chunk to its position. -/
theorem pre_fix_every_rearrangement_accepted [DecidableEq α] (comb : α → α → α)
    (leaves : List α) (d lid : Nat) (js : List (Fin leaves.length)) :
    validateGroupPre comb
      ⟨lid, leaves.length, rowAt comb leaves d, js.map fun j => leaves[j.val]⟩
      (js.map fun j => honestBox comb leaves d j.val) = true := by
  simp only [validateGroupPre, List.length_map, ne_eq, not_true_eq_false, if_false]
  exact chunksGoPre_complete comb leaves.length (rowAt comb leaves d) (fun j => leaves[j.val])
    (fun j => honestBox comb leaves d j.val) js fun j _ => wire_proof_verifies comb leaves j.val d j.isLt

/-- The placement clause about the loop **before** the repair. -/
def PreFixPlacementSound : Prop :=
  ∀ (leaves chunks : List Dig) (d : Nat) (group : List (Box Dig)),
    group.length = leaves.length →
    validateGroupPre Dig.comb ⟨0, leaves.length, rowAt Dig.comb leaves d, chunks⟩ group = true →
      chunks = leaves

/-- `PreFixPlacementSound` is false, even in the free algebra (no collisions): three chunks, root row
stored, all three positions filled with chunk 0 and its box — accepted. -/
theorem pre_fix_placement_unsound : ¬ PreFixPlacementSound := by
  intro h
  have := h [.leaf 0, .leaf 1, .leaf 2] [.leaf 0, .leaf 0, .leaf 0] 2
    [⟨0, some [.leaf 1, .leaf 2]⟩, ⟨0, some [.leaf 1, .leaf 2]⟩, ⟨0, some [.leaf 1, .leaf 2]⟩]
    rfl (by decide +kernel)
  exact absurd this (by decide)

/-- `validateMdatsUuid` rejects the witness of `pre_fix_placement_unsound`, and the swap of two chunks with
their boxes. -/
theorem fixed_rejects_placement_witness :
    validateMdatsUuid Dig.comb
      [⟨0, 3, rowAt Dig.comb [.leaf 0, .leaf 1, .leaf 2] 2, [.leaf 0, .leaf 0, .leaf 0]⟩]
      [⟨0, some [.leaf 1, .leaf 2]⟩, ⟨0, some [.leaf 1, .leaf 2]⟩, ⟨0, some [.leaf 1, .leaf 2]⟩]
      = false
    ∧ validateMdatsUuid Dig.comb
      [⟨0, 2, rowAt Dig.comb [.leaf 0, .leaf 1] 0, [.leaf 1, .leaf 0]⟩]
      [⟨1, none⟩, ⟨0, none⟩] = false := by
  constructor <;> decide +kernel

-- non-vacuity of `accepted_mdats_chunks_are_committed`: an accepted two-mdat stream whose
-- MerkleMaps have the local ids 17 and 12 (rows 1 and 0), boxes in file order
example :
    validateMdatsUuid Dig.comb
      [⟨17, 2, rowAt Dig.comb [.leaf 0, .leaf 1] 1, [.leaf 0, .leaf 1]⟩,
       ⟨12, 2, rowAt Dig.comb [.leaf 1000, .leaf 1001] 0, [.leaf 1000, .leaf 1001]⟩]
      [⟨0, some [.leaf 1]⟩, ⟨1, some [.leaf 0]⟩, ⟨0, none⟩, ⟨1, none⟩] = true := by
  decide +kernel

-- two MerkleMaps with the same local id: the second group overwrites the first, rejected
example :
    validateMdatsUuid Dig.comb
      [⟨5, 1, [.leaf 0], [.leaf 0]⟩, ⟨5, 1, [.leaf 0], [.leaf 0]⟩]
      [⟨0, none⟩, ⟨0, none⟩] = false := by
  decide +kernel

/-! ### non-vacuity -/

/-- Injectivity is needed: with a collapsing `comb` a wrong leaf is accepted. -/
example :
    checkMerkleTree (fun _ _ => (0 : Nat)) 2 (rowAt (fun _ _ => 0) [1, 2] 1) 7 0 (some [9])
      = true := by decide +kernel

-- `InjectiveOn2` is satisfiable where `Injective2` is not: plain concatenation of byte
-- strings, relative to the strings of length 2 …
example : InjectiveOn2 (fun x : List UInt8 => x.length = 2) (concatHash id) :=
  concatHash_injectiveOn id 2 (fun _ _ h => h)

-- … is not injective on all pairs.
example : ¬ Injective2 (concatHash id) := by
  intro h
  have := h [1] [2, 3] [1, 2] [3] (by decide)
  exact absurd this.1 (by decide)

-- Non-vacuity: a 5-leaf tree (odd-node promotion on two levels), row 2, leaf 4 (promoted twice).
example :
    (Tree.fromLeaves Dig.comb ((List.range 5).map Dig.leaf)).layers.map List.length = [5, 3, 2, 1] := by
  decide +kernel

example :
    (Tree.fromLeaves Dig.comb ((List.range 5).map Dig.leaf)).getProof 4 9
      = some [.comb (.comb (.leaf 0) (.leaf 1)) (.comb (.leaf 2) (.leaf 3))] := by
  decide +kernel

-- leaf 4 of 5 against row 2 has the empty proof; its wire form `none` verifies, and `none`
-- for leaf 3 (which has siblings) or for the inner node above leaf 0 does not
example :
    checkMerkleTree Dig.comb 5 (rowAt Dig.comb ((List.range 5).map Dig.leaf) 2) (.leaf 4) 4 none
      = true := by decide +kernel

example :
    checkMerkleTree Dig.comb 5 (rowAt Dig.comb ((List.range 5).map Dig.leaf) 2) (.leaf 3) 3 none
      = false := by decide +kernel

example :
    checkMerkleTree Dig.comb 5 (rowAt Dig.comb ((List.range 5).map Dig.leaf) 2)
      (.comb (.comb (.leaf 0) (.leaf 1)) (.comb (.leaf 2) (.leaf 3))) 0 none = false := by
  decide +kernel

example :
    checkMerkleTree Dig.comb 5 (rowAt Dig.comb ((List.range 5).map Dig.leaf) 2) (.leaf 2) 2
      (some [.leaf 3, .comb (.leaf 0) (.leaf 1)]) = true := by decide +kernel

-- a wrong value, a wrong index and an altered consumed proof element are rejected
example :
    checkMerkleTree Dig.comb 5 (rowAt Dig.comb ((List.range 5).map Dig.leaf) 2) (.leaf 3) 2
      (some [.leaf 3, .comb (.leaf 0) (.leaf 1)]) = false := by decide +kernel

example :
    checkMerkleTree Dig.comb 5 (rowAt Dig.comb ((List.range 5).map Dig.leaf) 2) (.leaf 2) 0
      (some [.leaf 3, .comb (.leaf 0) (.leaf 1)]) = false := by decide +kernel

example :
    checkMerkleTree Dig.comb 5 (rowAt Dig.comb ((List.range 5).map Dig.leaf) 2) (.leaf 2) 2
      (some [.leaf 3, .comb (.leaf 1) (.leaf 0)]) = false := by decide +kernel

end C2pa.C16
