import C2paModel.Model.C24
import C2paModel.Gen.C24SharedState
/-
C24 — property theorems (context isolation).

Statement: operations run concurrently on many threads with shared contexts produce exactly
the results of running them sequentially; cancelling or reconfiguring one context never
affects operations using another context; building settings values never changes the legacy
thread-local settings of any thread.

Part 1 (state model, `Model/C24.lean`): for every number of contexts and threads, every list of
programs and EVERY schedule the interleaved run gives each program exactly the outputs of the
sequential run, provided any two operations of different programs are `compat`: they touch
different cells, or both are `sharedSafe` (reads, checkpoints, and the lazily initialised cells
whose initialiser is the code's own function of the context's settings). In particular programs
made of such operations only may share every context and need no independence hypothesis at all
(`shared_safe_eq_sequential`, `runSchedN_shared_eq_sequential`); a cell initialised with a value the
caller chooses is not among them (`free_init_is_schedule_dependent`). Cancelling a shared context while
others run changes nothing but checkpoints, which may report "cancelled" (`cancel_shared_relaxed`).

Part 2 (tables regenerated from sdk/src on every run, `Gen/C24SharedState.lean`): which functions
reach the thread-local settings, which take a context, which interior-mutable cells and statics
exist, and — for C38, whose table obligations are theorems of this file — which functions read the
clock, the environment, a random source or iterate a hash container, each with a reviewed verdict
(`NdVerdict`, `reviewedNondet`). They are obligations about the source.

The Rust/OS memory model is not modelled; the harness samples real schedules.
-/
namespace C2pa.C24

/-! ## Part 1 — the state model under every schedule -/

/-- Semantic form of an operation: a function on one context, on one thread's legacy
settings, or a pure computation. `sem` has the right-hand sides of `step` with `onCtx s c` /
`onTls s t` stripped, so that `step_eq_sem` holds by `rfl` and facts about the eleven operations are
facts about three forms. -/
inductive Sem
  | ctx (c : Nat) (f : Ctx → Ctx × Out)
  | tls (t : Nat) (g : Nat → Nat × Out)
  | pure (o : Out)

def sem : Op → Sem
  | .checkProgress c => .ctx c (fun x => (x, .flag x.cancel))
  | .cancel c => .ctx c (fun x => ({ x with cancel := true }, .unit))
  | .getSigner c init =>
    .ctx c (fun x => ({ x with signer := some (getOrInit x.signer init) }, .val (getOrInit x.signer init)))
  | .getResolver c init =>
    .ctx c (fun x => ({ x with resolver := some (getOrInit x.resolver init) }, .val (getOrInit x.resolver init)))
  | .getSignerS c =>
    .ctx c (fun x => ({ x with signer := some (getOrInit x.signer (initOf x.settings)) },
      .val (getOrInit x.signer (initOf x.settings))))
  | .getResolverS c =>
    .ctx c (fun x => ({ x with resolver := some (getOrInit x.resolver (initOf x.settings)) },
      .val (getOrInit x.resolver (initOf x.settings))))
  | .readSettings c => .ctx c (fun x => (x, .val x.settings))
  | .buildSettings _ v => .pure (.val v)
  | .readTls t => .tls t (fun v => (v, .val v))
  | .setTls t v => .tls t (fun _ => (v, .unit))
  | .leakyRead t => .tls t (fun v => (v, .flag (capAllows v)))

def runSem (s : Sys) : Sem → Sys × Out
  | .ctx c f => onCtx s c f
  | .tls t g => onTls s t g
  | .pure o => (s, o)

theorem step_eq_sem (s : Sys) (op : Op) : step s op = runSem s (sem op) := by
  cases op <;> rfl

theorem onCtx_ctxs_getElem? (s : Sys) (c : Nat) (f : Ctx → Ctx × Out) (d : Nat) :
    (onCtx s c f).1.ctxs[d]? = if d = c then (s.ctxs[c]?).map (fun x => (f x).1) else s.ctxs[d]? := by
  unfold onCtx
  cases hc : s.ctxs[c]? with
  | none => by_cases hd : d = c <;> simp [hd, hc]
  | some x =>
    have hlt : c < s.ctxs.length := (List.getElem?_eq_some_iff.1 hc).1
    by_cases hd : d = c
    · simp [hd, List.getElem?_set_self hlt]
    · simp [hd, List.getElem?_set_ne (Ne.symm hd)]

theorem onTls_ctxs (s : Sys) (t : Nat) (g : Nat → Nat × Out) : (onTls s t g).1.ctxs = s.ctxs := by
  unfold onTls; split <;> rfl

theorem onCtx_tls (s : Sys) (c : Nat) (f : Ctx → Ctx × Out) : (onCtx s c f).1.tls = s.tls := by
  unfold onCtx; split <;> rfl

theorem onCtx_fst_of_fix (s : Sys) (c : Nat) (f : Ctx → Ctx × Out) (hf : ∀ x, (f x).1 = x) :
    (onCtx s c f).1 = s := by
  unfold onCtx
  split
  · next x hx =>
    obtain ⟨hlt, rfl⟩ := List.getElem?_eq_some_iff.1 hx
    simp [hf, List.set_getElem_self]
  · rfl

theorem onTls_fst_of_fix (s : Sys) (t : Nat) (g : Nat → Nat × Out) (hg : ∀ v, (g v).1 = v) :
    (onTls s t g).1 = s := by
  unfold onTls
  split
  · next v hv =>
    obtain ⟨hlt, rfl⟩ := List.getElem?_eq_some_iff.1 hv
    simp [hg, List.set_getElem_self]
  · rfl

/-- `A` and `B` commute: the same final state in either order, and each observes what it observes
alone. Stated for transformers of any state with any kind of output, so that functions on one cell
(`Ctx → Ctx × Out`), cell updates (`onCtx · c f`), single operations (`step · a`) and whole programs
(`runProg · p`) are instances. -/
def Comm {σ β γ : Type} (A : σ → σ × β) (B : σ → σ × γ) : Prop :=
  ∀ s, (B (A s).1).1 = (A (B s).1).1 ∧ (B (A s).1).2 = (B s).2 ∧ (A (B s).1).2 = (A s).2

/-- A condition on two semantic forms that suffices for `Comm` (`runSem_comm`). -/
def semComm : Sem → Sem → Prop
  | .ctx c f, .ctx d g => c ≠ d ∨ Comm f g
  | .tls t f, .tls u g => t ≠ u ∨ Comm f g
  | _, _ => True

theorem Comm.symm {σ β γ : Type} {A : σ → σ × β} {B : σ → σ × γ} (h : Comm A B) : Comm B A :=
  fun s => ⟨(h s).1.symm, (h s).2.2, (h s).2.1⟩

theorem Comm.seq {σ β γ δ ε : Type} {A : σ → σ × β} {B : σ → σ × γ} {C : σ → σ × δ}
    (g : γ → δ → ε) (hB : Comm A B) (hC : Comm A C) :
    Comm A (fun s => ((C (B s).1).1, g (B s).2 (C (B s).1).2)) := by
  intro s
  obtain ⟨b1, b2, b3⟩ := hB s
  obtain ⟨c1, c2, c3⟩ := hC (B s).1
  exact ⟨by simp only [b1, c1], by simp only [b1, b2, c2], c3.trans b3⟩

theorem onCtx_comm (c d : Nat) (f g : Ctx → Ctx × Out) (h : c ≠ d) :
    Comm (onCtx · c f) (onCtx · d g) := by
  intro s
  simp only [onCtx]
  cases hc : s.ctxs[c]? <;> cases hd : s.ctxs[d]? <;>
    simp [hc, hd, List.getElem?_set_ne h, List.getElem?_set_ne (Ne.symm h), List.set_comm _ _ h]

theorem onCtx_same_comm (c : Nat) (f g : Ctx → Ctx × Out) (h : Comm f g) :
    Comm (onCtx · c f) (onCtx · c g) := by
  intro s
  simp only [onCtx]
  cases hc : s.ctxs[c]? with
  | none => simp [hc]
  | some x =>
    have hlt : c < s.ctxs.length := (List.getElem?_eq_some_iff.1 hc).1
    obtain ⟨h1, h2, h3⟩ := h x
    simp [List.getElem?_set_self hlt, List.set_set, h1, h2, h3]

theorem onCtx_onTls_comm (c t : Nat) (f : Ctx → Ctx × Out) (g : Nat → Nat × Out) :
    Comm (onCtx · c f) (onTls · t g) := by
  intro s
  simp only [onCtx, onTls]
  cases hc : s.ctxs[c]? <;> cases ht : s.tls[t]? <;> simp [hc]

theorem onTls_comm (t u : Nat) (f g : Nat → Nat × Out) (h : t ≠ u) :
    Comm (onTls · t f) (onTls · u g) := by
  intro s
  simp only [onTls]
  cases ht : s.tls[t]? <;> cases hu : s.tls[u]? <;>
    simp [ht, hu, List.getElem?_set_ne h, List.getElem?_set_ne (Ne.symm h), List.set_comm _ _ h]

theorem onTls_same_comm (t : Nat) (f g : Nat → Nat × Out) (h : Comm f g) :
    Comm (onTls · t f) (onTls · t g) := by
  intro s
  simp only [onTls]
  cases ht : s.tls[t]? with
  | none => simp [ht]
  | some x =>
    have hlt : t < s.tls.length := (List.getElem?_eq_some_iff.1 ht).1
    obtain ⟨h1, h2, h3⟩ := h x
    simp [List.getElem?_set_self hlt, List.set_set, h1, h2, h3]

theorem runSem_comm (a b : Sem) (h : semComm a b) : Comm (runSem · a) (runSem · b) := by
  cases a with
  | ctx c f =>
    cases b with
    | ctx d g =>
      by_cases hcd : c = d
      · subst hcd; exact onCtx_same_comm c f g (h.resolve_left (fun h => h rfl))
      · exact onCtx_comm c d f g hcd
    | tls t g => exact onCtx_onTls_comm c t f g
    | pure o => exact fun _ => ⟨rfl, rfl, rfl⟩
  | tls t f =>
    cases b with
    | ctx d g => exact (onCtx_onTls_comm d t g f).symm
    | tls u g =>
      by_cases htu : t = u
      · subst htu; exact onTls_same_comm t f g (h.resolve_left (fun h => h rfl))
      · exact onTls_comm t u f g htu
    | pure o => exact fun _ => ⟨rfl, rfl, rfl⟩
  | pure o => exact fun _ => ⟨rfl, rfl, rfl⟩

def Sem.cell : Sem → Cell
  | .ctx c _ => .ctx c
  | .tls t _ => .thread t
  | .pure _ => .none

theorem sem_cell (a : Op) : (sem a).cell = a.cell := by cases a <;> rfl

theorem indep_semComm (a b : Op) (h : indep a b = true) : semComm (sem a) (sem b) := by
  unfold indep at h
  rw [← sem_cell a, ← sem_cell b] at h
  revert h
  cases sem a <;> cases sem b <;> simp [Sem.cell, semComm] <;> exact Or.inl

/-- The safe operations commute on a shared cell: two reads leave it as it is; an initialiser
changes nothing a read observes, and finds, when it runs second, the value it would have created;
the two initialisers fill different fields. -/
theorem sharedSafe_semComm (a b : Op) (ha : sharedSafe a = true) (hb : sharedSafe b = true) :
    semComm (sem a) (sem b) := by
  -- 7 × 7 pairs: on cells of different kinds `semComm` is `True`; on one cell both orders reduce to
  -- the same state and outputs (`getOrInit (some v) i` is `v`)
  cases a <;> cases ha <;> cases b <;> cases hb <;> simp only [sem, semComm] <;>
    exact Or.inr fun x => ⟨rfl, rfl, rfl⟩

/-- Compatible operations commute: same final state, and each observes what it would
observe alone. -/
theorem step_compat_comm (a b : Op) (h : compat a b = true) : Comm (step · a) (step · b) := by
  unfold compat at h
  rw [Bool.or_eq_true, Bool.and_eq_true] at h
  simp only [step_eq_sem]
  exact runSem_comm (sem a) (sem b) (h.elim (indep_semComm a b) fun h => sharedSafe_semComm a b h.1 h.2)

theorem indep_compat (a b : Op) (h : indep a b = true) : compat a b = true := by
  simp [compat, h]

theorem sharedSafe_compat {a b : Op} (ha : sharedSafe a = true) (hb : sharedSafe b = true) :
    compat a b = true := by
  simp [compat, ha, hb]

def CompatOf (b : Op) (p : List Op) : Prop := ∀ a ∈ p, compat a b = true
def IndepOf (b : Op) (p : List Op) : Prop := ∀ a ∈ p, indep a b = true

theorem step_runProg_comm (b : Op) : ∀ p : List Op, CompatOf b p → Comm (step · b) (runProg · p)
  | [], _ => fun _ => ⟨rfl, rfl, rfl⟩
  | a :: p, h =>
    Comm.seq List.cons (step_compat_comm a b (h a (List.mem_cons_self ..))).symm
      (step_runProg_comm b p fun x hx => h x (List.mem_cons_of_mem _ hx))

def ProgsCompat (p q : List Op) : Prop := ∀ a ∈ p, ∀ b ∈ q, compat a b = true
def ProgsIndep (p q : List Op) : Prop := ∀ a ∈ p, ∀ b ∈ q, indep a b = true

theorem runProg_comm : ∀ (pre p : List Op), ProgsCompat pre p → Comm (runProg · pre) (runProg · p)
  | _, [], _ => fun _ => ⟨rfl, rfl, rfl⟩
  | pre, o :: p, h =>
    Comm.seq List.cons (step_runProg_comm o pre fun a ha => h a ha o (List.mem_cons_self ..)).symm
      (runProg_comm pre p fun a ha b hb => h a ha b (List.mem_cons_of_mem _ hb))

/-- **Every interleaving of two programs equals the sequential run**: if any two operations of
the two programs are compatible (different cells, or both safe on a shared cell), then under
every schedule each program observes exactly the outputs of running `p` to completion and then
`q`, and the final state is the same. -/
theorem runSched_eq_sequential : ∀ (sch : List Bool) (p q : List Op) (s : Sys), ProgsCompat p q →
    runSched s p q sch =
      ((runProg (runProg s p).1 q).1, (runProg s p).2, (runProg (runProg s p).1 q).2) := by
  intro sch p q s h
  match sch, p, q with
  | _, [], _ | _, _ :: _, [] => simp [runSched, runProg]
  | [], _ :: _, _ :: _ => simp [runSched]
  | true :: sch, a :: p, b :: q =>
    simp only [runSched, runProg, runSched_eq_sequential sch p (b :: q) (step s a).1
      fun x hx => h x (List.mem_cons_of_mem _ hx)]
  | false :: sch, a :: p, b :: q =>
    -- the step of `q` taken first is moved behind the whole of `a :: p`
    obtain ⟨k1, k2, k3⟩ := step_runProg_comm b (a :: p) (fun x hx => h x hx b (List.mem_cons_self ..)) s
    simp only [runSched, runSched_eq_sequential sch (a :: p) q (step s b).1
      fun x hx y hy => h x hx y (List.mem_cons_of_mem _ hy)]
    simp only [runProg] at k1 k2 k3 ⊢
    rw [k1, k2, k3]

/-- **Shared contexts, no independence hypothesis**: two programs made of reads, checkpoints,
settings builders and the lazily initialised signer / resolver (initialised by the code's own
function of the context's settings) may share every context and every thread-local value; every
interleaving gives both exactly their sequential outputs. -/
theorem shared_safe_eq_sequential (sch : List Bool) (p q : List Op) (s : Sys)
    (hp : ∀ o ∈ p, sharedSafe o = true) (hq : ∀ o ∈ q, sharedSafe o = true) :
    runSched s p q sch =
      ((runProg (runProg s p).1 q).1, (runProg s p).2, (runProg (runProg s p).1 q).2) :=
  runSched_eq_sequential sch p q s fun a ha b hb => sharedSafe_compat (hp a ha) (hq b hb)

/-- The hypothesis cannot be dropped for cells initialised with a caller-chosen value: two
callers offering different values see a schedule-dependent winner. (The code's initialisers
are functions of the context's settings, `getSignerS` / `getResolverS`.) -/
theorem free_init_is_schedule_dependent :
    (runSched (initSys 1 1) [.getSigner 0 1] [.getSigner 0 2] [true]).2 ≠
      (runSched (initSys 1 1) [.getSigner 0 1] [.getSigner 0 2] [false]).2 := by decide

/-! ### n threads -/

theorem popAt_eq_some : ∀ {ps : List (List Op)} {i : Nat} {o : Op} {ps' : List (List Op)},
    popAt ps i = some (o, ps') →
    ∃ pre p post, ps = pre ++ (o :: p) :: post ∧ pre.length = i ∧ ps' = pre ++ p :: post := by
  intro ps i
  fun_induction popAt ps i with
  | case1 | case2 | case5 => intro o ps' h; cases h
  | case3 a p ps => rintro o ps' ⟨⟩; exact ⟨[], p, ps, rfl, rfl, rfl⟩
  | case4 p ps i o1 ps1 hp ih =>
    rintro o ps' ⟨⟩
    obtain ⟨pre, q, post, rfl, rfl, rfl⟩ := ih hp
    exact ⟨p :: pre, q, post, rfl, rfl, rfl⟩

theorem pairwise_pop {pre post : List (List Op)} {o : Op} {p : List Op}
    (h : (pre ++ (o :: p) :: post).Pairwise ProgsCompat) : (pre ++ p :: post).Pairwise ProgsCompat := by
  simp only [List.pairwise_append, List.pairwise_cons, List.mem_cons] at h ⊢
  obtain ⟨h1, ⟨h2, h3⟩, h4⟩ := h
  refine ⟨h1, ⟨fun r hr a ha => h2 r hr a (List.mem_cons_of_mem _ ha), h3⟩, fun a ha b hb => ?_⟩
  rcases hb with rfl | hb
  · exact fun x hx y hy => h4 a ha _ (Or.inl rfl) x hx y (List.mem_cons_of_mem _ hy)
  · exact h4 a ha b (Or.inr hb)

/-- Taking the next step of a thread first, then running everything sequentially, equals the
sequential run: the step moves in front of the programs `pre` before its own. -/
theorem runSeq_pop (o : Op) (p : List Op) (post : List (List Op)) : ∀ (pre : List (List Op)) (s : Sys),
    (∀ q ∈ pre, CompatOf o q) →
    runSeq s (pre ++ (o :: p) :: post) = ((runSeq (step s o).1 (pre ++ p :: post)).1,
      consAt (runSeq (step s o).1 (pre ++ p :: post)).2 pre.length (step s o).2)
  | [], s, _ => by simp [runSeq, runProg, consAt]
  | q :: pre, s, h => by
    obtain ⟨k1, k2, k3⟩ := step_runProg_comm o q (h q (List.mem_cons_self ..)) s
    simp only [List.cons_append, runSeq, List.length_cons, consAt,
      runSeq_pop o p post pre (runProg s q).1 fun r hr => h r (List.mem_cons_of_mem _ hr), k1, k2, k3]

/-- **Every interleaving of n programs (threads) equals the sequential run**, for every n,
every schedule and every state, when operations of different programs are pairwise compatible. -/
theorem runSchedN_eq_sequential : ∀ (sch : List Nat) (ps : List (List Op)) (s : Sys),
    ps.Pairwise ProgsCompat → runSchedN s ps sch = runSeq s ps := by
  intro sch
  induction sch with
  | nil => intro ps s _; simp [runSchedN]
  | cons i sch ih =>
    intro ps s hpw
    simp only [runSchedN]
    cases hp : popAt ps i with
    | none => simp only []; exact ih ps s hpw
    | some r =>
      obtain ⟨o, ps'⟩ := r
      obtain ⟨pre, p, post, rfl, rfl, rfl⟩ := popAt_eq_some hp
      simp only []
      rw [ih _ (step s o).1 (pairwise_pop hpw), runSeq_pop o p post pre s fun q hq a ha =>
        (List.pairwise_append.1 hpw).2.2 q hq _ (List.mem_cons_self ..) a ha o (List.mem_cons_self ..)]

/-- **Any number of threads on shared contexts**: no independence hypothesis. -/
theorem runSchedN_shared_eq_sequential (sch : List Nat) (ps : List (List Op)) (s : Sys)
    (h : ∀ p ∈ ps, ∀ o ∈ p, sharedSafe o = true) : runSchedN s ps sch = runSeq s ps :=
  runSchedN_eq_sequential sch ps s <| List.pairwise_of_forall_mem_list
    fun p hp q hq a ha b hb => sharedSafe_compat (h p hp a ha) (h q hq b hb)

/-! ### Cancelling a shared context while others run -/

def isCancel : Op → Bool
  | .cancel _ => true
  | _ => false

/-- `s'` is `s` with possibly more cancel flags raised (nothing else differs). -/
def CancelLe (s s' : Sys) : Prop :=
  s'.tls = s.tls ∧ s'.ctxs.length = s.ctxs.length ∧
  ∀ (c : Nat) (x : Ctx), s.ctxs[c]? = some x → ∃ y : Ctx, s'.ctxs[c]? = some y ∧ y.signer = x.signer ∧
    y.resolver = x.resolver ∧ y.settings = x.settings ∧ (x.cancel = true → y.cancel = true)

/-- `y` is `x` with possibly the cancel flag raised: the third clause of `CancelLe`, for one context. -/
def CtxLe (x y : Ctx) : Prop :=
  y.signer = x.signer ∧ y.resolver = x.resolver ∧ y.settings = x.settings ∧ (x.cancel = true → y.cancel = true)

/-- The observed output is the baseline output, or the operation is a checkpoint that reports
"cancelled". -/
def Relaxed (o : Op) (base out : Out) : Prop :=
  out = base ∨ ((∃ d, o = .checkProgress d) ∧ out = .flag true)

def RelaxedList : List Op → List Out → List Out → Prop
  | [], [], [] => True
  | o :: os, b :: bs, x :: xs => Relaxed o b x ∧ RelaxedList os bs xs
  | _, _, _ => False

theorem CancelLe.refl (s : Sys) : CancelLe s s :=
  ⟨rfl, rfl, fun _ x hx => ⟨x, hx, rfl, rfl, rfl, id⟩⟩

/-- Stated for two functions and an arbitrary relation `R` between the outputs: `step_cancelLe` uses
`f = g` with `R = Relaxed o`, `cancel_step_cancelLe` the identity against the cancel with `R` trivial. -/
theorem cancelLe_onCtx {s s' : Sys} (h : CancelLe s s') (c : Nat) (f g : Ctx → Ctx × Out)
    (R : Out → Out → Prop) (hmiss : R .missing .missing)
    (hfg : ∀ x y, CtxLe x y → CtxLe (f x).1 (g y).1 ∧ R (f x).2 (g y).2) :
    R (onCtx s c f).2 (onCtx s' c g).2 ∧ CancelLe (onCtx s c f).1 (onCtx s' c g).1 := by
  obtain ⟨h1, h2, h3⟩ := h
  unfold onCtx
  cases hc : s.ctxs[c]? with
  | none =>
    have : s'.ctxs[c]? = none := by rw [List.getElem?_eq_none_iff] at hc ⊢; rwa [h2]
    simp only [this]
    exact ⟨hmiss, h1, h2, h3⟩
  | some x =>
    obtain ⟨y, hy, hxy⟩ := h3 c x hc
    simp only [hy]
    have hlt : c < s.ctxs.length := (List.getElem?_eq_some_iff.1 hc).1
    refine ⟨(hfg x y hxy).2, h1, by simp [h2], fun d z hz => ?_⟩
    by_cases hd : c = d
    · subst hd
      simp only [List.getElem?_set_self hlt, Option.some.injEq] at hz
      subst hz
      exact ⟨(g y).1, by simp [List.getElem?_set_self (h2 ▸ hlt)], (hfg x y hxy).1⟩
    · simp only [List.getElem?_set_ne hd] at hz
      obtain ⟨w, hw, r⟩ := h3 d z hz
      exact ⟨w, by simp [List.getElem?_set_ne hd, hw], r⟩

theorem cancelLe_onTls {s s' : Sys} (h : CancelLe s s') (t : Nat) (g : Nat → Nat × Out) :
    (onTls s' t g).2 = (onTls s t g).2 ∧ CancelLe (onTls s t g).1 (onTls s' t g).1 := by
  obtain ⟨h1, h2, h3⟩ := h
  unfold onTls
  rw [h1]
  cases s.tls[t]? with
  | none => exact ⟨rfl, h1, h2, h3⟩
  | some v => exact ⟨rfl, by simp, h2, h3⟩

theorem sem_ctx_mono (o : Op) (c : Nat) (f : Ctx → Ctx × Out) (ho : sem o = .ctx c f) (x y : Ctx)
    (h : CtxLe x y) : CtxLe (f x).1 (f y).1 ∧ Relaxed o (f x).2 (f y).2 := by
  obtain ⟨e1, e2, e3, e4⟩ := h
  cases o <;> cases ho
  case checkProgress =>
    refine ⟨⟨e1, e2, e3, e4⟩, (?_ : Relaxed _ (.flag x.cancel) (.flag y.cancel))⟩
    cases hy : y.cancel
    · cases hx : x.cancel
      · exact Or.inl rfl
      · rw [e4 hx] at hy; cases hy
    · exact Or.inr ⟨⟨c, rfl⟩, rfl⟩
  case cancel => exact ⟨⟨e1, e2, e3, fun _ => rfl⟩, Or.inl rfl⟩
  -- the cells are filled from fields that are equal in `x` and `y`, and the output is read from them
  case getSigner | getResolver | getSignerS | getResolverS | readSettings =>
    exact ⟨⟨by simp [*], by simp [*], e3, e4⟩, Or.inl (by simp [*])⟩

theorem step_cancelLe (s s' : Sys) (o : Op) (h : CancelLe s s') :
    Relaxed o (step s o).2 (step s' o).2 ∧ CancelLe (step s o).1 (step s' o).1 := by
  rw [step_eq_sem, step_eq_sem]
  cases ho : sem o with
  | ctx c f => exact cancelLe_onCtx h c f f (Relaxed o) (Or.inl rfl) (sem_ctx_mono o c f ho)
  | tls t g => exact ⟨Or.inl (cancelLe_onTls h t g).1, (cancelLe_onTls h t g).2⟩
  | pure v => exact ⟨Or.inl rfl, h⟩

theorem cancel_step_cancelLe (s s' : Sys) (o : Op) (ho : isCancel o = true) (h : CancelLe s s') :
    CancelLe s (step s' o).1 := by
  cases o <;> cases ho
  rename_i c
  have := (cancelLe_onCtx h c (fun x => (x, .unit)) (fun y => ({ y with cancel := true }, .unit))
    (fun _ _ => True) trivial fun x y ⟨e1, e2, e3, _⟩ => ⟨⟨e1, e2, e3, fun _ => rfl⟩, trivial⟩).2
  rwa [onCtx_fst_of_fix s c _ fun _ => rfl] at this

theorem runProg_relaxed : ∀ (p : List Op) (s s' : Sys), CancelLe s s' →
    RelaxedList p (runProg s p).2 (runProg s' p).2 ∧ CancelLe (runProg s p).1 (runProg s' p).1 := by
  intro p
  induction p with
  | nil => intro s s' h; exact ⟨trivial, h⟩
  | cons o p ih =>
    intro s s' h
    obtain ⟨r, hn⟩ := step_cancelLe s s' o h
    obtain ⟨rl, hl⟩ := ih (step s o).1 (step s' o).1 hn
    exact ⟨⟨r, rl⟩, hl⟩

theorem runProg_cancels_cancelLe : ∀ (q : List Op) (s s' : Sys), (∀ o ∈ q, isCancel o = true) →
    CancelLe s s' → CancelLe s (runProg s' q).1 := by
  intro q
  induction q with
  | nil => intro s s' _ h; exact h
  | cons o q ih =>
    intro s s' hq h
    exact ih s (step s' o).1 (fun x hx => hq x (List.mem_cons_of_mem _ hx))
      (cancel_step_cancelLe s s' o (hq o (List.mem_cons_self ..)) h)

/-- **Cancelling shared contexts while a program runs**: whatever contexts a concurrent
canceller hits (including the ones the program uses) and under every schedule, each operation of
the program ends with its baseline result — the one it has when nobody cancels — except that
a checkpoint may report "cancelled". Nothing else can differ. -/
theorem cancel_shared_relaxed : ∀ (sch : List Bool) (p q : List Op) (s s' : Sys),
    CancelLe s s' → (∀ o ∈ q, isCancel o = true) →
    RelaxedList p (runProg s p).2 (runSched s' p q sch).2.1 := by
  intro sch p q s s' h hq
  match sch, p, q with
  | _, [], _ => simp [runSched, runProg, RelaxedList]
  | _, a :: p, [] | [], a :: p, _ :: _ => simp only [runSched]; exact (runProg_relaxed (a :: p) s s' h).1
  | true :: sch, a :: p, b :: q =>
    obtain ⟨r, hn⟩ := step_cancelLe s s' a h
    exact ⟨r, cancel_shared_relaxed sch p (b :: q) _ _ hn hq⟩
  | false :: sch, a :: p, b :: q =>
    exact cancel_shared_relaxed sch (a :: p) q s _
      (cancel_step_cancelLe s s' b (hq b (List.mem_cons_self ..)) h) fun x hx => hq x (List.mem_cons_of_mem _ hx)

def Sem.Preserves (P : Ctx → Prop) : Sem → Prop
  | .ctx _ f => ∀ x, P x → P (f x).1
  | _ => True

theorem step_preserves (P : Ctx → Prop) (s : Sys) (op : Op) (hP : (sem op).Preserves P)
    (c : Nat) (x : Ctx) (hx : s.ctxs[c]? = some x) (px : P x) :
    ∃ y, (step s op).1.ctxs[c]? = some y ∧ P y := by
  rw [step_eq_sem]
  cases hs : sem op with
  | ctx d f =>
    rw [hs] at hP
    simp only [runSem, onCtx_ctxs_getElem?]
    by_cases hd : c = d
    · subst hd; exact ⟨(f x).1, by simp [hx], hP x px⟩
    · exact ⟨x, by simp [hd, hx], px⟩
  | tls t g => exact ⟨x, by simp only [runSem, onTls_ctxs, hx], px⟩
  | pure o => exact ⟨x, hx, px⟩

/-- The cancel flag is sticky: no operation clears it. -/
theorem cancel_flag_sticky (s : Sys) (op : Op) (c : Nat) (x : Ctx)
    (hx : s.ctxs[c]? = some x) (hc : x.cancel = true) :
    ∃ y, (step s op).1.ctxs[c]? = some y ∧ y.cancel = true :=
  step_preserves (·.cancel = true) s op
    (by
      cases op
      case cancel => exact fun _ _ => rfl
      case checkProgress | getSigner | getResolver | getSignerS | getResolverS | readSettings =>
        exact fun _ h => h
      -- thread-local and pure operations touch no context
      all_goals trivial)
    c x hx hc

/-- Cancelling one context is invisible to checkpoints of another. -/
theorem cancel_other_context_invisible (s : Sys) (c d : Nat) (h : c ≠ d) :
    (step (step s (.cancel c)).1 (.checkProgress d)).2 = (step s (.checkProgress d)).2 :=
  (step_compat_comm (.cancel c) (.checkProgress d) (by simp [compat, indep, Op.cell, h]) s).2.1

/-! ### Single operations: a context operation and the thread-local settings; write-once cells -/

/-- Operations on a context never change any thread's legacy settings. -/
theorem ctx_ops_preserve_tls (s : Sys) (op : Op) (c : Nat) (h : op.cell = .ctx c) :
    (step s op).1.tls = s.tls := by
  rw [← sem_cell] at h
  rw [step_eq_sem]
  cases hs : sem op with
  | ctx d f => exact onCtx_tls s d f
  | tls t g => rw [hs] at h; cases h
  | pure o => rfl

theorem getOrInit_idem (cell : Option Nat) (i : Nat) :
    getOrInit (some (getOrInit cell i)) i = getOrInit cell i := by
  cases cell <;> rfl

/-- Write-once cells: whoever initialises first, every caller observes the same value. -/
theorem once_cell_first_wins (s : Sys) (c v w : Nat) (x : Ctx) (hx : s.ctxs[c]? = some x) :
    (step (step s (.getSigner c v)).1 (.getSigner c w)).2 = (step s (.getSigner c v)).2 := by
  have hlt : c < s.ctxs.length := (List.getElem?_eq_some_iff.1 hx).1
  simp [step, onCtx, hx, List.getElem?_set_self hlt, getOrInit]

/-! ## Part 2 — tables regenerated from sdk/src on every run

The reviewed lists below are compared with the regenerated tables by *equality* (`rfl` after the
structural part — `filter` / `map` on `Bool` / `Kind` columns — has been reduced; string literals are
compared as literals): a new row, a missing row and a changed classification all fail. The
translator emits every table in a fixed order: files by path; within a file the inventory rows
(`sharedState`, `lazyInits`) in source order, the rows of the other tables by name. -/

/-! ### Shared-state inventory -/

/-- Reviewed process-wide items that are not plain constants, with their classification. -/
def reviewed : List (String × String × Kind) := [
  ("assertions/labels.rs", "METADATA_LABEL_REGEX", .lazyConst),
  ("assertions/labels.rs", "VERSION_RE", .lazyConst),
  ("assertions/metadata.rs", "ALLOWED_SCHEMAS", .lazyConst),
  ("assertions/metadata.rs", "BACKCOMPAT_LIST", .lazyConst),
  ("context.rs", "SyncResolverState::Default", .perContextCell),
  ("context.rs", "AsyncResolverState::Default", .perContextCell),
  ("context.rs", "SignerState::FromSettings", .perContextCell),
  ("context.rs", "AsyncSignerState::FromSettings", .perContextCell),
  ("context.rs", "cancel_flag", .perContextCell),
  ("http/reqwest.rs", "SYNC_CLIENT", .lazyConst),
  ("http/reqwest.rs", "SYNC_CLIENT_REDIRECTS", .lazyConst),
  ("http/reqwest.rs", "ASYNC_CLIENT", .lazyConst),
  ("http/reqwest.rs", "ASYNC_CLIENT_REDIRECTS", .lazyConst),
  ("identity/claim_aggregation/w3c_vc/did.rs", "VALID_DID", .lazyConst),
  ("identity/identity_assertion/signer_payload.rs", "ABSOLUTE_URL_PREFIX", .lazyConst),
  ("jumbf_io.rs", "HANDLER_PROTOTYPES", .lazyConst),
  ("jumbf_io.rs", "CAI_READERS", .lazyConst),
  ("jumbf_io.rs", "CAI_WRITERS", .lazyConst),
  ("jumbf_io.rs", "CONTAINER_MAP", .lazyConst),
  ("settings/mod.rs", "SETTINGS", .threadLocal)
]

/-- **The inventory is closed, and complete**: the process-wide items of the current source that
are not plain constants are exactly the reviewed cells with the reviewed classification — no
unreviewed global, and (check of the translator itself) no reviewed item that the translator fails
to find: one that stops reading a file at its first inline test module loses
`http/reqwest.rs ASYNC_CLIENT*`. -/
theorem inventory_closed : Gen.sharedState.filter (fun r => r.2.2 != Kind.const) = reviewed := rfl

/-- The direction of `inventory_closed` that does not depend on the order of the rows, decided on its
own so that it holds when the translator emits the rows in another order. -/
theorem inventory_contains_reviewed :
    reviewed.all (fun e => (Gen.sharedState.filter (fun r => r.2.2 != Kind.const)).contains e) = true := by
  decide +kernel

theorem no_mutable_globals :
    Gen.sharedState.all (fun r => r.2.2 != Kind.mutableGlobal) = true := by decide +kernel

/-- Lazily initialised statics: no initialiser mentions settings, a context, thread-local state,
the environment, the clock or a random source — their value does not depend on who initialises
them or when. (Syntactic; what a third-party constructor such as the reqwest client builder reads
internally is not visible.) -/
theorem lazy_inits_pure : Gen.lazyInits.all (fun r => !r.2.2.1 && !r.2.2.2) = true := by decide +kernel

/-- Every lazily initialised static of the inventory has an initialiser row (and vice versa). -/
theorem lazy_inits_cover :
    Gen.lazyInits.map (fun l => (l.1, l.2.1)) =
      (Gen.sharedState.filter (fun r => r.2.2 == Kind.lazyConst)).map (fun r => (r.1, r.2.1)) := rfl

/-! ### Interior-mutable fields and caches of SDK types -/

/-- Reviewed interior-mutable fields (struct fields / enum payloads whose type mentions
`RefCell`/`Cell`/`Mutex`/`RwLock`/`Atomic*`/`OnceLock`/`OnceCell`/`Lazy*`), crate-wide.
The `Context` cells are the cells of the model (`Ctx.cancel`, `Ctx.signer`, `Ctx.resolver`; sync and
async variants are separate cells of the same kind). The two identity-signer lists are written
only through `&mut self` (`add_identity_assertion`) and read by cloning. -/
def reviewedInterior : List (String × String × String) := [
  ("context.rs", "AsyncResolverState::Default", "OnceLock"),
  ("context.rs", "AsyncSignerState::FromSettings", "OnceLock"),
  ("context.rs", "Context::cancel_flag", "AtomicBool"),
  ("context.rs", "SignerState::FromSettings", "OnceLock"),
  ("context.rs", "SyncResolverState::Default", "OnceLock"),
  ("identity/builder/async_identity_assertion_signer.rs", "AsyncIdentityAssertionSigner::identity_assertions", "RwLock"),
  ("identity/builder/identity_assertion_signer.rs", "IdentityAssertionSigner::identity_assertions", "RwLock")
]

/-- **No unreviewed interior-mutable field** in any struct / enum of the SDK (`Store`, `Reader`,
`Builder`, `Claim`, `Ingredient`, … have none: whatever they cache is written through `&mut`). -/
theorem interior_fields_reviewed : Gen.interiorFields = reviewedInterior := rfl

/-- Fields named like a cache, and who writes them. `Store::manifest_box_hash_cache` is filled
while the JUMBF is parsed (`Store::from_jumbf_impl`, on the store being built) and never written
afterwards: it is a function of the parsed bytes. -/
def reviewedCacheWriters : List (String × String × String) := [
  ("store.rs", "Store::manifest_box_hash_cache", "Store::from_jumbf_impl")
]

theorem cache_fields_written_only_at_load :
    Gen.cacheFields = ["Store::manifest_box_hash_cache"] ∧ Gen.cacheFieldWriters = reviewedCacheWriters :=
  ⟨rfl, rfl⟩

/-! ### Who reaches the thread-local settings -/

/-- The reviewed legacy API: every function, other than a trait-impl method with a `self` receiver
(those are `knownDynLeaks`), from which `settings::SETTINGS` is reachable through
statically resolved calls. All of them are context-free entry points kept for backward
compatibility (deprecated constructors that *define* their behaviour by the thread-local
settings) or crate-private helpers of those. `true` = may write. -/
def reviewedLegacy : List (String × String × Bool) := [
  ("builder.rs", "Builder::from_archive", false),
  ("builder.rs", "Builder::from_json", false),
  ("builder.rs", "Builder::new", false),
  ("ingredient.rs", "Ingredient::from_manifest_and_asset_bytes_async", false),
  ("ingredient.rs", "Ingredient::from_manifest_and_asset_stream_async", false),
  ("ingredient.rs", "Ingredient::from_memory_async", false),
  ("ingredient.rs", "Ingredient::from_stream", false),
  ("ingredient.rs", "Ingredient::from_stream_async", false),
  ("reader.rs", "Reader::from_file", false),
  ("reader.rs", "Reader::from_fragmented_files", false),
  ("reader.rs", "Reader::from_manifest_data_and_stream", false),
  ("reader.rs", "Reader::from_stream", false),
  ("settings/mod.rs", "Settings::from_file", true),
  ("settings/mod.rs", "Settings::from_string", true),
  ("settings/mod.rs", "Settings::from_toml", true),
  ("settings/mod.rs", "Settings::get_thread_local_value", false),
  ("settings/mod.rs", "Settings::reset", true),
  ("settings/mod.rs", "Settings::set_thread_local_value", true),
  ("settings/mod.rs", "Settings::signer", false),
  ("settings/mod.rs", "Settings::to_pretty_toml", false),
  ("settings/mod.rs", "Settings::to_toml", false),
  ("settings/mod.rs", "get_thread_local_settings", false),
  ("settings/signer.rs", "SignerSettings::signer", false),
  ("store.rs", "Store::from_jumbf", false)
]

/-- **The functions that reach the thread-local settings, trait-impl methods with a `self` receiver
apart, are exactly the reviewed legacy API** (a new caller, a caller that disappears, or a reader
that starts writing, fails here). -/
theorem tls_touchers_are_reviewed_legacy : Gen.tlsTouchers = reviewedLegacy := rfl

/-- **No function that is handed a context or a settings value (parameter of type `Context` /
`Settings`, or `self` of a type holding one) reaches the thread-local settings through
statically resolved calls.** No exception list. (`Gen.ctxOrTls` has one row per function that
takes a context or reaches the thread-local settings, with the two flags.) -/
theorem context_paths_do_not_read_tls_partial :
    Gen.ctxOrTls.all (fun r => !(r.2.2.1 && r.2.2.2)) = true := by decide +kernel

/-- The rows flagged "reaches the thread-local settings" are the rows of `Gen.tlsTouchers`. -/
theorem ctx_or_tls_consistent :
    (Gen.ctxOrTls.filter (fun r => r.2.2.2)).map (fun r => (r.1, r.2.1)) =
      Gen.tlsTouchers.map (fun r => (r.1, r.2.1)) := rfl

/-- Non-vacuity: several hundred functions take a context, among them the entry points the
property is about. -/
theorem takes_context_populated :
    300 ≤ (Gen.ctxOrTls.filter (fun r => r.2.2.1)).length ∧
    (Gen.ctxOrTls.filter (fun r => r.2.2.1 && r.1 == "reader.rs")).any (fun r => r.2.1 == "Reader::with_stream") = true := by
  constructor <;> decide +kernel

/-- The full statement: no context path reaches the thread-local settings, *including* calls
dispatched through the asset-handler traits. -/
def ContextPathsTlsFree : Prop :=
  Gen.ctxOrTls.all (fun r => !(r.2.2.1 && r.2.2.2)) = true ∧ Gen.tlsDynTouchers = []

/-- Trait methods (dynamic dispatch, called from context paths with no context argument) that reach
the thread-local settings. Known defect: `BmffIO::read_cai` / `write_cai` re-parse the original and
update manifest stores with `Store::from_jumbf`, whose decompression cap comes from the thread-local
settings — every context-based read / write of such a BMFF asset depends on them. -/
def knownDynLeaks : List (String × String × String) := [
  ("asset_handlers/bmff_io.rs", "BmffIO::read_cai", "CAIReader"),
  ("asset_handlers/bmff_io.rs", "BmffIO::write_cai", "CAIWriter")
]

/-- The trait-impl methods that call into the legacy API themselves are exactly the known ones (a
new one fails here). The table does not follow them further: `BmffIO::read_cai_store` /
`save_cai_store`, which call `self.read_cai` / `self.write_cai`, are rows of no table. -/
theorem dyn_tls_touchers_are_known : Gen.tlsDynTouchers = knownDynLeaks := rfl

/-- **The code falsifies the full statement** (open finding `context-read-depends-on-thread-local-settings`):
witness = the two BMFF handler methods. When the defect is repaired this theorem stops compiling
and `context_paths_do_not_read_tls_partial` is to be replaced by the full statement. -/
theorem context_paths_tls_free_false : ¬ ContextPathsTlsFree :=
  fun h => List.cons_ne_nil _ _ h.2

/-- The same defect in the state model: a context-based read (`leakyRead`) observes an earlier
legacy settings write of its thread. -/
theorem context_read_depends_on_tls :
    ∃ s t v, (step (step s (.setTls t v)).1 (.leakyRead t)).2 ≠ (step s (.leakyRead t)).2 :=
  ⟨initSys 1 1, 0, 401, by decide⟩

/-! ### Settings builders -/

/-- The public functions of `Settings` / `Context` / `IntoSettings` that do not reach the
thread-local settings at all: the settings-building API the property is about. -/
def tlsFreeApi : List String := [
  "Context::async_signer", "Context::cancel", "Context::into_shared", "Context::is_cancelled",
  "Context::new", "Context::resolver", "Context::resolver_async", "Context::set_async_signer",
  "Context::set_progress_callback", "Context::set_resolver", "Context::set_resolver_async",
  "Context::set_settings", "Context::set_signer", "Context::settings", "Context::settings_mut",
  "Context::signer", "Context::with_async_signer", "Context::with_progress_callback",
  "Context::with_resolver", "Context::with_resolver_async", "Context::with_settings",
  "Context::with_signer", "Settings::into_settings", "String::into_settings", "Value::into_settings",
  "str::into_settings", "Settings::get_value", "Settings::new", "Settings::set_value",
  "Settings::update_from_str", "Settings::with_file", "Settings::with_json", "Settings::with_toml",
  "Settings::with_value"
]

/-- The public functions that do reach them: (name, deprecated, writes). -/
def tlsUsingApi : List (String × Bool × Bool) := [
  ("Settings::from_file", true, true), ("Settings::from_string", true, true),
  ("Settings::from_toml", true, true), ("Settings::signer", true, false),
  ("Settings::to_pretty_toml", true, false), ("Settings::to_toml", true, false)
]

/-- **Building settings values / contexts never touches the thread-local settings** — not even
reads: every public function of `Settings` / `Context` / `IntoSettings` is in the thread-local-free
list, or is one of six `#[deprecated]` legacy functions. Source-derived: a new public builder that
touches the thread-local settings fails here. -/
theorem builders_do_not_touch_tls :
    (Gen.settingsApi.filter (fun a => !a.2.2.2.1)).map (fun a => a.2.1) = tlsFreeApi ∧
    (Gen.settingsApi.filter (fun a => a.2.2.2.1)).map (fun a => (a.2.1, a.2.2.1, a.2.2.2.2)) = tlsUsingApi :=
  ⟨rfl, rfl⟩

/-- The legacy thread-local setters: `Settings::from_string` / `from_toml` / `from_file`. They
return a `Settings` value *and* merge it into the thread-local settings — that is their documented
purpose ("Load thread-local Settings …"), they are what the property calls "the legacy
thread-local settings", and the model's `setTls`. Decision: not a violation of "building settings
values never changes the legacy thread-local settings" as long as the public functions that
reach the thread-local settings are all `#[deprecated]` in favour of the pure builders and the
writers are exactly these three. -/
theorem settings_api_tls_users_are_deprecated_legacy :
    tlsUsingApi.all (fun r => r.2.1) = true ∧
    (tlsUsingApi.filter (fun r => r.2.2)).map (·.1) =
      ["Settings::from_file", "Settings::from_string", "Settings::from_toml"] :=
  ⟨by decide, rfl⟩

/-- Witness that the legacy API is history-dependent by design: a legacy read observes an earlier
legacy write on the same thread (replayed on the implementation by the C38 harness, `rt` probes). -/
theorem tls_history_visible :
    ∃ s, (step (step s (.setTls 0 5)).1 (.readTls 0)).2 ≠ (step s (.readTls 0)).2 :=
  ⟨initSys 1 1, by decide⟩

/-! ### Non-state sources of nondeterminism (clock, environment, randomness, hash iteration) -/

inductive NdVerdict
  | validationTime    -- produces the validation time stamp, exempt by the statement
  | signingFresh      -- time / random identifiers / salts / nonces put into a NEW manifest while signing
  | clockValidity     -- compares a certificate / credential validity window with the current time:
                      -- the verdict changes only when the wall clock crosses such a boundary
  | diagnostics       -- timing / logging only
  | orderFree         -- iterates a hash container; the result does not depend on the order
  | apiOrder          -- hands the hash order to the caller of a helper API; not part of the report
  | signingOrder      -- hash order decides the ORDER of items written into a new manifest while signing
  | decidesReport     -- hash order can decide the content of a read report: defect
  deriving DecidableEq, Repr

def reviewedNondet : List ((String × String × String) × NdVerdict) := [
  (("assertions/assertion_metadata.rs", "AssertionMetadata::new", "clock"), .signingFresh),
  (("assertions/metadata.rs", "Metadata::is_valid", "hashIter"), .orderFree),
  (("asset_handlers/bmff_io.rs", "get_top_level_box_offsets", "hashIter"), .orderFree),
  (("asset_handlers/bmff_io.rs", "get_top_level_boxes", "hashIter"), .orderFree),
  (("builder.rs", "Builder::add_auto_actions_assertions_settings", "hashIter"), .signingOrder),
  (("builder.rs", "Builder::data_hashed_placeholder", "random"), .signingFresh),
  (("builder.rs", "Builder::maybe_add_timestamp", "hashIter"), .orderFree),
  (("builder.rs", "Builder::set_asset_from_dest", "random"), .signingFresh),
  (("builder.rs", "Builder::sign_box_hashed_embeddable", "random"), .signingFresh),
  (("builder.rs", "default_instance_id", "random"), .signingFresh),
  (("claim.rs", "Claim::new", "random"), .signingFresh),
  (("crjson.rs", "CrJsonExporter::build_validation_results_per_manifest", "clock"), .validationTime),
  (("crjson.rs", "build_manifest_validation_results", "clock"), .validationTime),
  (("crypto/cose/certificate_profile.rs", "check_certificate_profile_inner", "clock"), .clockValidity),
  (("crypto/internal/time.rs", "utc_now", "clock"), .clockValidity),
  (("crypto/time_stamp/provider.rs", "default_rfc3161_message", "random"), .signingFresh),
  (("identity/claim_aggregation/ica_signature_verifier.rs", "IcaSignatureVerifier::check_valid_from", "clock"), .clockValidity),
  (("identity/claim_aggregation/ica_signature_verifier.rs", "IcaSignatureVerifier::check_valid_until", "clock"), .clockValidity),
  (("ingredient.rs", "Ingredient::add_to_claim", "hashIter"), .orderFree),
  (("ingredient.rs", "default_instance_id", "random"), .signingFresh),
  (("manifest.rs", "default_instance_id", "random"), .signingFresh),
  (("reader.rs", "Reader::iter_manifests", "hashIter"), .apiOrder),
  (("resource_store.rs", "ResourceStore::iter_resource_ids", "hashIter"), .apiOrder),
  (("salt.rs", "DefaultSalt::generate_salt", "random"), .signingFresh),
  (("settings/builder.rs", "ClaimGeneratorInfo::try_from", "hashIter"), .orderFree),
  -- keeps the earliest valid time stamp of a manifest, in whichever order the map is iterated
  (("store.rs", "Store::get_store_validation_info", "hashIter"), .orderFree),
  (("store.rs", "Store::is_uri_redacted", "hashIter"), .orderFree),
  (("store.rs", "Store::load_ingredient_to_claim", "hashIter"), .signingOrder),
  (("store.rs", "Store::save_to_bmff_fragmented", "hashIter"), .orderFree),
  (("utils/ephemeral_cert.rs", "default_validity", "clock"), .signingFresh),
  (("utils/ephemeral_cert.rs", "fill_random", "random"), .signingFresh),
  (("utils/time_it.rs", "TimeIt::new", "clock"), .diagnostics),
  (("validation_results.rs", "ValidationResults::from_store", "clock"), .validationTime)
]

/-- **Every clock / environment / randomness / hash-iteration site of the source is reviewed**
(a new one fails here). -/
theorem nondet_sites_reviewed : Gen.nondetSites = reviewedNondet.map (·.1) := rfl

/-- None of the reviewed sites reads the process environment. -/
theorem no_environment_reads : (reviewedNondet.filter (fun e => e.1.2.2 == "env")).length = 0 := by
  decide +kernel

/-- **The reviewed list holds no entry with the verdict `.decidesReport`** (hash order could decide
the content of a read report). The verdicts are the reviewer's, written by hand in `reviewedNondet`;
the theorem guards the list against such an entry, it does not analyse the sites.
(`Store::get_store_validation_info` iterates `svi.manifest_map.values()`, but of several
time-stamp assertions naming the same manifest it keeps the earliest valid one, hence `.orderFree`;
fixes/C38-timestamp-assertion-earliest-wins.patch.) -/
theorem report_deciding_hash_order_sites :
    (reviewedNondet.filter (fun e => e.2 == .decidesReport)).map (·.1.2.1) = [] := by decide

/-! ### Non-vacuity -/
example : ProgsCompat [.cancel 0, .getSigner 0 7] [.checkProgress 1, .setTls 0 5, .buildSettings 1 3] := by
  intro a ha b hb
  simp at ha hb
  rcases ha with rfl | rfl <;> rcases hb with rfl | rfl | rfl <;> decide
example : ∀ o ∈ [Op.checkProgress 0, .getSignerS 0, .getResolverS 0, .readSettings 0, .readTls 0],
    sharedSafe o = true := by decide
example :
    (runSched (initSys 2 1) [.cancel 0, .checkProgress 0] [.checkProgress 1, .readTls 0]
      [false, true, false, true]).2 = ([.unit, .flag true], [.flag false, .val 200]) := by decide +kernel
example :
    (runSchedN (initSys 1 1) [[.getSignerS 0, .checkProgress 0], [.getSignerS 0], [.readSettings 0, .getResolverS 0]]
      [2, 1, 0, 2, 0]).2 = [[.val 100, .flag false], [.val 100], [.val 100, .val 100]] := by decide +kernel
/-- a shared context cancelled mid-run: the second checkpoint reports "cancelled", the rest is baseline -/
example :
    (runSched (initSys 1 1) [.checkProgress 0, .getSignerS 0, .checkProgress 0] [.cancel 0] [true, false]).2.1 =
      [.flag false, .val 100, .flag true] := by decide +kernel

end C2pa.C24
