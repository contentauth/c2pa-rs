import C2paModel.Props.C25
/-
C25 — what an update leaves alone. Frames at every depth for `set_at_path` and for the merge (a path
the overlay does not *name*), read-back after `set_value` for an arbitrary `norm`, and from these the
histories of updates: failing steps are no-ops, and a value set at a path is still read back after any
later steps that avoid the path. `get_merge` of Props/C25 speaks of every path at which the overlay
holds a value; left open is only a path that runs through a non-object of the overlay.
-/
namespace C2pa.C25

/-- **set_frame.** `set_at_path(p, v)` leaves every path `q` alone that is neither a prefix of
`p` nor below `p` — siblings at every depth, for every target (object or not). -/
theorem set_frame (p q : List String) (t v r : Json)
    (h : setAtPath t p v = .ok r) (hpq : ¬ p <+: q) (hqp : ¬ q <+: p) :
    getAtPath r q = getAtPath t q := by
  induction p generalizing q t r with
  | nil => exact absurd List.nil_prefix hpq
  | cons s p ih =>
    cases q with
    | nil => exact absurd List.nil_prefix hqp
    | cons s' q =>
      obtain ⟨c, rfl, hc⟩ := setAtPath_cons_ok h
      rw [getAtPath_obj_cons, getAtPath_cons_fieldsOrEmpty]
      by_cases hs : s' = s
      · subst hs
        have hpq' : ¬ p <+: q := fun hp => hpq (List.cons_prefix_cons.2 ⟨rfl, hp⟩)
        have hqp' : ¬ q <+: p := fun hp => hqp (List.cons_prefix_cons.2 ⟨rfl, hp⟩)
        rw [lookup_upsert_self, Option.bind_some,
          ih q _ c (hc fun e => hpq' (e ▸ List.nil_prefix)) hpq' hqp']
        exact getAtPath_getD_empty _ fun e => hqp' (e ▸ List.nil_prefix)
      · rw [lookup_upsert_ne _ _ hs]

-- non-vacuity: a sibling two levels down is kept, the path set is read back
example : setAtPath (.obj [("a", .obj [("x", .num "1"), ("y", .num "2")])]) ["a", "x"] (.bool true)
    = .ok (.obj [("a", .obj [("x", .bool true), ("y", .num "2")])]) := by rfl
example : ¬ ["a", "x"] <+: ["a", "y"] := by
  intro h
  have := (List.cons_prefix_cons.1 (List.cons_prefix_cons.1 h).2).1
  simp at this

theorem set_frame_path (path qpath : String) (t v r : Json)
    (h : setAtPath t (splitPath path) v = .ok r)
    (hpq : ¬ splitPath path <+: splitPath qpath) (hqp : ¬ splitPath qpath <+: splitPath path) :
    getAtPath r (splitPath qpath) = getAtPath t (splitPath qpath) :=
  set_frame _ _ t v r h hpq hqp

/-! ## frame of the merge: what the overlay does not name stays -/

/-- the overlay *names* a path when walking it along the path ends at the path's end or at a
non-object (which replaces the whole subtree); it does not when an object on the way lacks the
next segment. -/
def names : Json → List String → Bool
  | _, [] => true
  | .obj kvs, s :: rest =>
    match lookup s kvs with
    | some c => names c rest
    | none => false
  | _, _ :: _ => true

theorem names_false_obj {o : Json} {s : String} {rest : List String} (h : names o (s :: rest) = false) :
    ∃ kvs, o = .obj kvs := by
  cases o with
  | obj kvs => exact ⟨kvs, rfl⟩
  | _ => simp [names] at h

theorem names_false_get_none (q : List String) (o : Json) (h : names o q = false) :
    getAtPath o q = none := by
  induction q generalizing o with
  | nil => simp [names] at h
  | cons s rest ih =>
    obtain ⟨kvs, rfl⟩ := names_false_obj h
    rw [getAtPath_obj_cons]
    rw [names.eq_2] at h
    cases hl : lookup s kvs with
    | none => rfl
    | some c =>
      rw [hl] at h
      simp only [Option.bind_some]
      exact ih c h

/-- **merge_frame.** A path the overlay does not name holds after the merge what it held in the
target — for every target, as long as the path stays within the depth limit (at the limit an
overlay object replaces the target's object wholesale: see the `example` below). -/
theorem merge_frame (q : List String) (t o : Json) (d : Nat) (ho : WF o)
    (hd : d + q.length ≤ mergeMaxDepth) (hn : names o q = false) :
    getAtPath (mergeDepth t o d) q = getAtPath t q := by
  induction q generalizing t o d with
  | nil => cases hn
  | cons s q ih =>
    obtain ⟨ok, rfl⟩ := names_false_obj hn
    rw [List.length_cons] at hd
    by_cases ht : t.isObj = true
    · obtain ⟨tk, rfl⟩ := (isObj_iff t).1 ht
      rw [WF_obj_lookup] at ho
      rw [get_merge_cons _ _ _ _ _ (by omega) ho.1]
      rw [names.eq_2] at hn
      cases hl : lookup s ok with
      | none => rfl
      | some c =>
        rw [hl] at hn
        dsimp only at hn ⊢
        rw [ih _ c (d + 1) (ho.2 s c hl) (by omega) hn, getAtPath_obj_cons]
        cases lookup s tk with
        | some tc => rfl
        | none => cases q with
          | nil => cases hn
          | cons _ _ => rfl
    · -- the target is no object: the overlay replaces it, and neither holds anything at `q`
      rw [merge_replace _ _ _ fun hc => ht hc.1, names_false_get_none _ _ hn,
        getAtPath_not_obj t s q (by simpa using ht)]

theorem mergeJson_frame (q : List String) (t o : Json) (ho : WF o)
    (hd : q.length ≤ mergeMaxDepth) (hn : names o q = false) :
    getAtPath (mergeJson t o) q = getAtPath t q :=
  merge_frame q t o 0 ho (by omega) hn

-- non-vacuity: the overlay names `verify.b` but not `verify.a`
example : names (.obj [("verify", .obj [("b", .bool false)])]) ["verify", "a"] = false := by rfl
example : names (.obj [("verify", .obj [("b", .bool false)])]) ["verify", "b"] = true := by rfl
example : names (.obj [("verify", .null)]) ["verify", "a"] = true := by rfl
-- the depth bound is needed: at the limit the un-named sibling `a` is lost
example : getAtPath (mergeDepth (.obj [("a", .num "1")]) (.obj [("b", .num "2")]) 64) ["a"] = none := by rfl
example : names (.obj [("b", .num "2")]) ["a"] = false := by rfl

/-! ## read-back after `set_value`, for an arbitrary `norm` -/

/-- **setValue_getValue_kept.** If deserialize → validate → serialize accepts the edited
document and keeps what it holds at the path, `set_value(path, v)` succeeds and
`get_value(path)` returns `v`. (`hkeep` is what the harness evaluates on the real serde for
every accepted `set_value`; each failure of it is counted and has to be explained.) -/
theorem setValue_getValue_kept (norm : Norm) (path : String) (v self m s : Json)
    (hm : setAtPath self (splitPath path) v = .ok m) (hn : norm m = .ok s)
    (hkeep : getAtPath s (splitPath path) = getAtPath m (splitPath path)) :
    setValue norm path v self = (.ok (), s) ∧ getValue s path = .ok v := by
  constructor
  · simp [setValue, withValue, hm, hn]
  · simp [getValue, hkeep, get_of_set hm]

/-- **setValue_getValue_iff.** After a successful `set_value(path, v)`, `get_value(path)` returns
`v` exactly when `norm` kept the path of the edited document. -/
theorem setValue_getValue_iff (norm : Norm) (path : String) (v self s : Json)
    (h : setValue norm path v self = (.ok (), s)) :
    getValue s path = .ok v ↔
      ∃ m, setAtPath self (splitPath path) v = .ok m ∧ norm m = .ok s ∧
        getAtPath s (splitPath path) = getAtPath m (splitPath path) := by
  obtain ⟨m, hm, hn⟩ := (setValue_ok_spec norm path v self s).1 h
  have hget := get_of_set hm
  constructor
  · intro hg
    refine ⟨m, hm, hn, ?_⟩
    rw [hget]
    unfold getValue at hg
    cases hl : getAtPath s (splitPath path) with
    | none => rw [hl] at hg; cases hg
    | some x => rw [hl] at hg; cases hg; rfl
  · rintro ⟨m', hm', _, hk⟩
    rw [hm] at hm'
    cases hm'
    simp [getValue, hk, hget]

-- non-vacuity: a `norm` that fills in a default elsewhere and keeps the path
example :
    setValue (fun m => .ok (mergeJson (.obj [("version", .num "1")]) m)) "a.b" (.bool false) (.obj []) =
        (.ok (), .obj [("version", .num "1"), ("a", .obj [("b", .bool false)])]) ∧
      getValue (.obj [("version", .num "1"), ("a", .obj [("b", .bool false)])]) "a.b" = .ok (.bool false) :=
  setValue_getValue_kept _ "a.b" (.bool false) (.obj []) (.obj [("a", .obj [("b", .bool false)])]) _
    (by rfl) (by rfl) (by rfl)

/-- `hkeep` can fail: a `norm` that drops the member (as `skip_serializing_if` would for an empty
list) accepts the set, and the read then fails. -/
example : setAtPath (.obj []) (splitPath "a") (.arr []) = .ok (.obj [("a", .arr [])]) := by rfl
example : getAtPath (.obj []) (splitPath "a") ≠ getAtPath (.obj [("a", .arr [])]) (splitPath "a") := by
  intro h
  have h1 : getAtPath (.obj []) (splitPath "a") = none := by rfl
  have h2 : getAtPath (.obj [("a", .arr [])]) (splitPath "a") = some (.arr []) := by rfl
  rw [h1, h2] at h
  cases h

theorem step_failed_unchanged (norm : Norm) (self : Json) (op : Op) (e : Err)
    (h : (step norm self op).1 = .error e) : (step norm self op).2 = self := by
  cases op with
  | update doc fmt => exact failed_update_unchanged norm doc fmt self e h
  | setv path v => exact failed_setValue_unchanged norm path v self e h

/-- the steps of a history that succeed (decided along the run) -/
def keepOk (norm : Norm) : Json → List Op → List Op
  | _, [] => []
  | self, op :: rest =>
    match (step norm self op).1 with
    | .ok _ => op :: keepOk norm (step norm self op).2 rest
    | .error _ => keepOk norm self rest

theorem runOps_keepOk (norm : Norm) (ops : List Op) (self : Json) :
    runOps norm self (keepOk norm self ops) =
      ((keepOk norm self ops).map fun _ => .ok (), (runOps norm self ops).2) := by
  induction ops generalizing self with
  | nil => rfl
  | cons op rest ih =>
    rw [keepOk, runOps]
    cases hr : (step norm self op).1 with
    | ok u => simp only [runOps, ih, hr, List.map_cons]
    | error e => simp only [ih self, step_failed_unchanged norm self op e hr]

/-- **runOps_failed_noop.** Over a whole history, the failing steps are no-ops: the settings at
the end are those reached by running only the steps that succeeded. -/
theorem runOps_failed_noop (norm : Norm) (ops : List Op) (self : Json) :
    (runOps norm self ops).2 = (runOps norm self (keepOk norm self ops)).2 := by
  rw [runOps_keepOk]

theorem runOps_keepOk_all_ok (norm : Norm) (ops : List Op) (self : Json) :
    ∀ r ∈ (runOps norm self (keepOk norm self ops)).1, r = .ok () := by
  rw [runOps_keepOk]
  intro r hr
  obtain ⟨_, _, rfl⟩ := List.mem_map.1 hr
  rfl

theorem runOps_all_failed (norm : Norm) (ops : List Op) (self : Json)
    (h : ∀ r ∈ (runOps norm self ops).1, ∃ e, r = .error e) : (runOps norm self ops).2 = self := by
  induction ops generalizing self with
  | nil => rfl
  | cons op rest ih =>
    rw [runOps] at h ⊢
    simp only [List.mem_cons, forall_eq_or_imp] at h
    obtain ⟨⟨e, he⟩, hrest⟩ := h
    simp only
    have hs := step_failed_unchanged norm self op e he
    rw [hs] at hrest ⊢
    exact ih self hrest

/-- A step *avoids* the path `q`: an overlay whose document (if it parses) has unique keys and
does not name `q`; a `set_value` on a path that is neither a prefix of `q` nor below `q`. -/
def Op.avoids (q : List String) : Op → Prop
  | .update doc fmt => ∀ ov, parseToValue doc fmt = .ok ov → WF ov ∧ names ov q = false
  | .setv path _ => ¬ splitPath path <+: q ∧ ¬ q <+: splitPath path

theorem step_avoids_keeps (norm : Norm) (q : List String) (hq : q.length ≤ mergeMaxDepth)
    (hkeep : ∀ m s, norm m = .ok s → getAtPath s q = getAtPath m q)
    (self : Json) (op : Op) (hav : op.avoids q) :
    getAtPath (step norm self op).2 q = getAtPath self q := by
  cases op with
  | update doc fmt =>
    rw [step, updateFromStr_char]
    cases hp : parseToValue doc fmt with
    | error e => rfl
    | ok ov =>
      simp only
      obtain ⟨hw, hn⟩ := hav ov hp
      cases hnm : norm (mergeJson self ov) with
      | error e => rfl
      | ok s =>
        simp only
        rw [hkeep _ _ hnm]
        exact mergeJson_frame q self ov hw hq hn
  | setv path v =>
    rw [step, setValue_char]
    cases hs : setAtPath self (splitPath path) v with
    | error e => rfl
    | ok m =>
      simp only
      cases hnm : norm m with
      | error e => rfl
      | ok s =>
        simp only
        rw [hkeep _ _ hnm]
        exact set_frame _ q self v m hs hav.1 hav.2

/-- **runOps_frame.** Any history of steps that avoid `q` — successful or not, overlays and path
updates mixed — leaves what is read at `q` unchanged, provided `norm` keeps `q` and `q` has at most
64 segments (`MERGE_MAX_DEPTH`: deeper, an overlay object replaces the target's wholesale). -/
theorem runOps_frame (norm : Norm) (q : List String) (hq : q.length ≤ mergeMaxDepth)
    (hkeep : ∀ m s, norm m = .ok s → getAtPath s q = getAtPath m q)
    (ops : List Op) (self : Json) (hav : ∀ op ∈ ops, op.avoids q) :
    getAtPath (runOps norm self ops).2 q = getAtPath self q := by
  induction ops generalizing self with
  | nil => rfl
  | cons op rest ih =>
    rw [runOps]
    simp only
    rw [ih _ (fun o ho => hav o (List.mem_cons_of_mem _ ho))]
    exact step_avoids_keeps norm q hq hkeep self op (hav op List.mem_cons_self)

/-- **readback_after_history.** `set_value(path, v)` succeeds, then any history of steps that do
not name the path: `get_value(path)` still returns `v` (the ledger oracle of the harness) — provided
`norm` keeps the path in every document (`hkeep`) and the path has at most 64 segments (`hq`). -/
theorem readback_after_history (norm : Norm) (path : String) (v self s : Json)
    (hq : (splitPath path).length ≤ mergeMaxDepth)
    (hkeep : ∀ m s, norm m = .ok s → getAtPath s (splitPath path) = getAtPath m (splitPath path))
    (hset : setValue norm path v self = (.ok (), s))
    (ops : List Op) (hav : ∀ op ∈ ops, op.avoids (splitPath path)) :
    getValue (runOps norm s ops).2 path = .ok v := by
  obtain ⟨m, hm, hn⟩ := (setValue_ok_spec norm path v self s).1 hset
  have h1 := (setValue_getValue_kept norm path v self m s hm hn (hkeep m s hn)).2
  unfold getValue at h1 ⊢
  rw [runOps_frame norm _ hq hkeep ops s hav]
  exact h1

-- non-vacuity: set-up of `a.x`, then an overlay naming only `a.y`, a rejected overlay and a set of `b`
example :
    runOps (fun m => if (getAtPath m ["bad"]).isNone then .ok m else .error .invalid)
      (.obj [("a", .obj [("x", .bool true)])])
      [.update ⟨.ok (.obj [("a", .obj [("y", .num "2")])]), .error .parse⟩ "json",
       .update ⟨.ok (.obj [("bad", .null)]), .error .parse⟩ "json",
       .setv "b" (.str "z")] =
      ([.ok (), .error .invalid, .ok ()],
       .obj [("a", .obj [("x", .bool true), ("y", .num "2")]), ("b", .str "z")]) := by
  rfl

-- the overlay naming `a.y` and the set of `b` avoid `a.x`
example : (Op.update ⟨.ok (.obj [("a", .obj [("y", .num "2")])]), .error .parse⟩ "json").avoids ["a", "x"] := by
  intro ov h
  rw [parseToValue_json] at h
  cases h
  exact ⟨by simp [WF, WFFields, keys], by rfl⟩

example : (Op.setv "b" (.str "z")).avoids ["a", "x"] := by
  have hb : splitPath "b" = ["b"] := by decide
  show ¬ splitPath "b" <+: ["a", "x"] ∧ ¬ ["a", "x"] <+: splitPath "b"
  rw [hb]
  constructor
  · intro h
    have := (List.cons_prefix_cons.1 h).1
    simp at this
  · intro h
    have := (List.cons_prefix_cons.1 h).1
    simp at this

end C2pa.C25
