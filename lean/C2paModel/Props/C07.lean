import C2paModel.Lemmas.C07PngRefine
/-
C07 — embedding round trip: write, read, replace and remove manifest stores.

Statement (properties.jsonl): for every writable format, every valid asset and every manifest
store byte string, reading the manifest from the asset written with that store returns
exactly those bytes. Writing again replaces the manifest, so exactly one store is present and
the last one written is returned, and removing the manifest yields an asset with no manifest
that is still accepted by the format handler.

Structure of the proof.

* **Layer A** (`readA`/`writeA`/`removeA` on segment lists) is the *specification algebra*: it
  says what "replace the manifest container" means. Its theorems (`read_write`,
  `write_write`, `remove_clean`, … below) hold for every container, store and format instance
  and constrain no handler by themselves.
* **Layer B** (`Png.write`/`Png.remove`/`Png.read`, `Sidecar.*`) are byte-exact models of
  the handlers; they are the functions compared with the implementation on every run.
* **Refinement** (`Lemmas/C07PngRefine.lean`, `Png.ser_segs` in `Lemmas/C07PngOps.lean`):
  `Png.segs_write`, `Png.segs_remove`, `Png.read_segs`, `Png.ser_segs` are commuting squares
  between layer B and layer A through the lexer `Png.segs`, for every file the chunk walker
  accepts with at most one caBX chunk and every store shorter than 2³² bytes. Through them the
  property clauses become theorems about the byte-exact handler model: `Png.read_write_bytes`, `Png.write_write_bytes`,
  `Png.remove_accepted`, `Png.remove_write_bytes` below (and the `sidecar_*` theorems).
  The precondition "at most one caBX chunk" is necessary: `png_two_manifests_diverge`.
-/
namespace C2pa.C07

/-- **read ∘ write**: the store written is the store read, whatever was there before. -/
theorem read_write (F : Fmt) (c : List Seg) (s : Bytes) (h : F.unwrap (F.wrap s) = some s) :
    readA F (writeA F c s) = .ok s :=
  readA_one (manifests_writeA F c s) h

/-- **write ∘ write**: exactly one manifest segment is present and it is the last one written
(also when the two writes use different insertion policies / formats of the same family). -/
theorem write_write (F G : Fmt) (c : List Seg) (s₁ s₂ : Bytes) :
    manifests (writeA G (writeA F c s₁) s₂) = [mseg G s₂] :=
  manifests_writeA G _ s₂

theorem write_exactly_one (F : Fmt) (c : List Seg) (s : Bytes) :
    (manifests (writeA F c s)).length = 1 := by
  rw [manifests_writeA]; rfl

theorem read_write_write (F : Fmt) (c : List Seg) (s₁ s₂ : Bytes)
    (h : F.unwrap (F.wrap s₂) = some s₂) :
    readA F (writeA F (writeA F c s₁) s₂) = .ok s₂ :=
  read_write F _ s₂ h

/-- Writing the second store over the first gives the same container as writing it directly,
when the insertion policy does not depend on an existing manifest. -/
theorem write_write_eq (F : Fmt) (c : List Seg) (s₁ s₂ : Bytes)
    (hpos : insIdx F (writeA F c s₁) = insIdx F c) :
    writeA F (writeA F c s₁) s₂ = writeA F c s₂ := by
  rw [writeA_def F (writeA F c s₁) s₂, hpos, strip_writeA, ← writeA_def]

/-- **remove**: no manifest is left, and reading reports "no manifest" (not an error). -/
theorem remove_clean (F : Fmt) (c : List Seg) :
    manifests (removeA c) = [] ∧ readA F (removeA c) = .none :=
  ⟨manifests_strip c, readA_none (manifests_strip c)⟩

theorem remove_write_eq_remove (F : Fmt) (c : List Seg) (s : Bytes) :
    removeA (writeA F c s) = removeA c :=
  strip_writeA F c s

theorem remove_idempotent (c : List Seg) : removeA (removeA c) = removeA c := strip_strip c

theorem remove_noop_without_manifest (c : List Seg) (h : manifests c = []) : removeA c = c :=
  strip_eq_self_of_manifests_nil h

theorem write_after_remove (F : Fmt) (c : List Seg) (s : Bytes)
    (hpos : F.pos (removeA c) = F.pos c) :
    writeA F (removeA c) s = writeA F c s := by
  have hi : insIdx F (removeA c) = insIdx F c := by
    unfold insIdx; rw [hpos]; unfold removeA; rw [strip_strip]
  rw [writeA_def F (removeA c) s, hi]
  unfold removeA
  rw [strip_strip, ← writeA_def]

/-! ### the sidecar handler (`c2pa_io`): the file is the store -/

theorem sidecar_read_write (a s : Bytes) (hs : s ≠ []) :
    (Sidecar.write a s).bind Sidecar.read = some (.ok s) := by
  cases s with
  | nil => exact absurd rfl hs
  | cons x xs => rfl

theorem sidecar_remove_clean (a : Bytes) :
    (Sidecar.remove a).bind Sidecar.read = some .none := rfl

theorem sidecar_ser_segs (b : Bytes) : ser (Sidecar.segs b) = b := by
  cases b with
  | nil => rfl
  | cons x xs => simp [Sidecar.segs, ser]

/-- Commuting squares for the sidecar handler (any previous content, any non-empty store). -/
theorem sidecar_segs_write (a s : Bytes) (hs : s ≠ []) :
    (Sidecar.write a s).map Sidecar.segs = some (writeA Sidecar.fmt (Sidecar.segs a) s) := by
  have hstrip : strip (Sidecar.segs a) = [] := by
    cases a with
    | nil => rfl
    | cons x xs => rfl
  have hw : writeA Sidecar.fmt (Sidecar.segs a) s = [mseg Sidecar.fmt s] := by
    rw [writeA_def, hstrip]; rfl
  rw [hw]
  cases s with
  | nil => exact absurd rfl hs
  | cons x xs => rfl

theorem sidecar_segs_remove (a : Bytes) :
    (Sidecar.remove a).map Sidecar.segs = some (removeA (Sidecar.segs a)) := by
  cases a with
  | nil => rfl
  | cons x xs => rfl

theorem sidecar_read_segs (b : Bytes) :
    Sidecar.read b = some (readA Sidecar.fmt (Sidecar.segs b)) := by
  cases b with
  | nil => rfl
  | cons x xs => rfl

/-! ### PNG, layer A instance: the hypothesis of `read_write` is discharged -/

theorem png_read_write (c : List Seg) (s : Bytes) :
    readA Png.fmt (writeA Png.fmt c s) = .ok s :=
  read_write Png.fmt c s (by rw [Png.fmt_wrap, Png.fmt_unwrap]; exact Png.unwrap_wrap s)

/-- The PNG instance of `read_write_write`. -/
theorem png_write_write (c : List Seg) (s₁ s₂ : Bytes) :
    readA Png.fmt (writeA Png.fmt (writeA Png.fmt c s₁) s₂) = .ok s₂ :=
  png_read_write _ s₂

/-- PNG's insertion policy looks only at the non-manifest segments. -/
theorem png_insIdx_writeA (c : List Seg) (s : Bytes) :
    insIdx Png.fmt (writeA Png.fmt c s) = insIdx Png.fmt c := by
  unfold insIdx
  rw [Png.pos_congr (strip_writeA Png.fmt c s), strip_writeA]

/-! ### PNG, byte-exact layer B: the property clauses about `Png.write` / `Png.read` /
`Png.remove` (through the commuting squares) -/

namespace Png

/-- **read ∘ write on bytes**: for every file the walker accepts that has an IHDR chunk and
at most one caBX chunk, and every store shorter than 2³² bytes, `write_cai` succeeds and
`read_cai` on its output returns exactly the store. -/
theorem read_write_bytes {b s : Bytes} {ps : List Chunk} (h : chunks b = some ps)
    (hi : (firstIhdr ps).isSome) (h1 : (ps.filter (·.name == caBX)).length ≤ 1)
    (hs : s.length < 4294967296) :
    (write b s).bind read = some (.ok s) := by
  obtain ⟨c, hc⟩ := Option.isSome_iff_exists.1 ((segs_isSome_iff b).2 (by rw [h]; rfl))
  have hm := manifests_length_segs hc h
  obtain ⟨o, hw⟩ := write_isSome s h hi
  have hso := segs_write hc (by omega) hs hw
  rw [hw]
  show read o = _
  rw [read_segs hso, png_read_write]

/-- **write ∘ write on bytes**: the second write replaces the container: its output is the
file that writing the second store directly would give, it holds exactly one caBX chunk and
reads back as the last store written. -/
theorem write_write_bytes {b s₁ s₂ o₁ o₂ : Bytes} {c : List Seg} (h : segs b = some c)
    (h1 : (manifests c).length ≤ 1) (hs₁ : s₁.length < 4294967296) (hs₂ : s₂.length < 4294967296)
    (hw₁ : write b s₁ = some o₁) (hw₂ : write o₁ s₂ = some o₂) :
    write b s₂ = some o₂ ∧ read o₂ = some (.ok s₂) ∧
    ∃ ps₂, chunks o₂ = some ps₂ ∧ (ps₂.filter (·.name == caBX)).length = 1 := by
  have hso₁ := segs_write h h1 hs₁ hw₁
  have hso₂ := segs_write hso₁ (manifests_writeA_le_one fmt c s₁) hs₂ hw₂
  rw [write_write_eq fmt c s₁ s₂ (png_insIdx_writeA c s₁)] at hso₂
  have ho₂ : o₂ = ser (writeA fmt c s₂) := (ser_segs hso₂).symm
  refine ⟨?_, ?_, ?_⟩
  · -- success of `write_cai` does not depend on the store
    obtain ⟨rs, tail, hp, _⟩ := parsed_of_segs h
    obtain ⟨o, hw⟩ := Option.isSome_iff_exists.1
      ((write_isSome_iff hp s₂).2 ((write_isSome_iff hp s₁).1 (by rw [hw₁]; rfl)))
    rw [hw, write_refines h h1 hs₂ hw, ho₂]
  · rw [read_segs hso₂, png_read_write]
  · have : (chunks o₂).isSome := (segs_isSome_iff o₂).1 (by rw [hso₂]; rfl)
    obtain ⟨ps₂, hps₂⟩ := Option.isSome_iff_exists.1 this
    exact ⟨ps₂, hps₂, by rw [← manifests_length_segs hso₂ hps₂, write_exactly_one]⟩

/-- **remove on bytes**: `remove_cai_store_from_stream` never fails on a file the walker
accepts, its output is again accepted by the walker (the format handler's parser), and — when
the input had at most one caBX chunk — `read_cai` on it reports "no manifest". -/
theorem remove_accepted {b : Bytes} {ps : List Chunk} (h : chunks b = some ps) :
    ∃ o, remove b = some o ∧ (chunks o).isSome ∧
      ((ps.filter (·.name == caBX)).length ≤ 1 → read o = some .none) := by
  obtain ⟨rs, tail, hp, rfl⟩ := parsed_of_chunks h
  obtain ⟨o, rs', hr, hpo, he⟩ := remove_parsed hp
  refine ⟨o, hr, by rw [chunks_of_parsed hpo]; rfl, ?_⟩
  intro h1
  rw [filter_place_length] at h1
  exact read_parsed_none hpo (eraseFirst_filter he h1).2

/-- **write ∘ remove on bytes**: the IHDR chunk survives removal, and writing into the
stripped file is writing into the original. -/
theorem write_after_remove_bytes {b o s : Bytes} {c : List Seg} (h : segs b = some c)
    (h1 : (manifests c).length ≤ 1) (hs : s.length < 4294967296) (hr : remove b = some o) :
    write o s = write b s := by
  obtain ⟨o', hr', hso⟩ := segs_remove h h1
  cases hr.symm.trans hr'
  have hiff : (write o s).isSome ↔ (write b s).isSome := by
    obtain ⟨rs, tail, hp, rfl⟩ := parsed_of_segs h
    obtain ⟨o3, rs', hr3, hpo, he⟩ := remove_parsed hp
    cases hr.symm.trans hr3
    rw [manifests_length_segsOf] at h1
    rw [write_isSome_iff hpo, write_isSome_iff hp, ← (eraseFirst_filter he h1).1]
    constructor
    · rintro ⟨r, hr, hn⟩; exact ⟨r, (List.mem_filter.1 hr).1, hn⟩
    · rintro ⟨r, hr, hn⟩
      refine ⟨r, List.mem_filter.2 ⟨hr, ?_⟩, hn⟩
      simpa [hn] using fun e => caBX_ne_IHDR e.symm
  cases hwb : write b s with
  | none => exact Option.not_isSome_iff_eq_none.1 fun h => by simpa [hwb] using hiff.1 h
  | some ob =>
    obtain ⟨oo, hwo⟩ := Option.isSome_iff_exists.1 (hiff.2 (by rw [hwb]; rfl))
    rw [hwo, write_refines hso (manifests_removeA_le_one c) hs hwo,
      write_after_remove fmt c s (pos_congr (strip_strip c)), write_refines h h1 hs hwb]

/-- **remove ∘ write on bytes** (C07 / C09): removing after embedding gives the same bytes as
removing from the original. -/
theorem remove_write_bytes {b s o : Bytes} {c : List Seg} (h : segs b = some c)
    (h1 : (manifests c).length ≤ 1) (hs : s.length < 4294967296) (hw : write b s = some o) :
    remove o = remove b := by
  rw [remove_refines (segs_write h h1 hs hw) (manifests_writeA_le_one fmt c s), remove_refines h h1,
    remove_write_eq_remove]

end Png

def pngTwoCai : Bytes :=
  Png.sig ++ ([0, 0, 0, 0] ++ Png.IHDR ++ [0, 0, 0, 0]) ++ ([0, 0, 0, 1] ++ Png.caBX ++ [7] ++ [0, 0, 0, 0])
    ++ ([0, 0, 0, 1] ++ Png.caBX ++ [8] ++ [0, 0, 0, 0]) ++ ([0, 0, 0, 0] ++ Png.IEND ++ [0, 0, 0, 0])

/-- The precondition "at most one caBX chunk" of the PNG squares is necessary: on a file with
two caBX chunks the handler replaces only the first one, the result still has two and
`read_cai` reports `TooManyManifestStores`, whereas the layer-A write strips both. (Such a
file is already rejected by `read_cai` before the write; the property's "valid asset" is read
as "at most one manifest container", see registry assumptions.) -/
theorem png_two_manifests_diverge :
    ∃ c o, Png.segs pngTwoCai = some c ∧ (manifests c).length = 2 ∧
      Png.read pngTwoCai = some .many ∧
      Png.write pngTwoCai [9] = some o ∧ Png.read o = some .many ∧
      readA Png.fmt (writeA Png.fmt c [9]) = .ok [9] := by
  have h1 : (Png.segs pngTwoCai).map (fun c => (manifests c).length) = some 2 := by decide +kernel
  have h2 : (Png.write pngTwoCai [9]).bind Png.read = some .many := by decide +kernel
  cases hs : Png.segs pngTwoCai with
  | none => rw [hs] at h1; cases h1
  | some c =>
    cases hw : Png.write pngTwoCai [9] with
    | none => rw [hw] at h2; cases h2
    | some o =>
      rw [hs] at h1; rw [hw] at h2
      have hm : (manifests c).length = 2 := Option.some.inj h1
      exact ⟨c, o, rfl, hm, by rw [Png.read_segs hs, readA_many (by omega)], rfl, h2,
        png_read_write c [9]⟩

/-! ### non-vacuity -/

def exFmt : Fmt := ⟨fun s => 7 :: s, fun w => w.tail?, fun _ => 1⟩

def exC : List Seg := [⟨.header, "h", [1, 2]⟩, ⟨.manifest, "C2PA", [7, 9]⟩, ⟨.media, "m", [3]⟩, ⟨.manifest, "C2PA", [7]⟩]

example : exFmt.unwrap (exFmt.wrap [5, 6]) = some [5, 6] := rfl
example : readA exFmt exC = .many := by decide
example : readA exFmt (writeA exFmt exC [5, 6]) = .ok [5, 6] := by decide
example : ser (writeA exFmt exC [5, 6]) = [1, 2, 7, 5, 6, 3] := by decide
example : ser (removeA exC) = [1, 2, 3] := by decide

/-- A minimal PNG (IHDR, one tEXt-like chunk, IEND, one trailing byte; the walker ignores
CRC values): meets the hypotheses of the byte-level theorems. -/
def exPng : Bytes :=
  Png.sig ++ ([0, 0, 0, 0] ++ Png.IHDR ++ [0, 0, 0, 0]) ++ ([0, 0, 0, 2] ++ asc "teXt" ++ [5, 6] ++ [0, 0, 0, 0])
    ++ ([0, 0, 0, 0] ++ Png.IEND ++ [0, 0, 0, 0]) ++ [0xEE]

theorem exPng_chunks :
    Png.chunks exPng = some [⟨8, 0, Png.IHDR⟩, ⟨20, 2, asc "teXt"⟩, ⟨34, 0, Png.IEND⟩] := by
  decide +kernel

example : (Png.chunks exPng).map (fun ps => ((Png.firstIhdr ps).isSome,
    (ps.filter (·.name == Png.caBX)).length)) = some (true, 0) := by rw [exPng_chunks]; rfl
example : (Png.segs exPng).map (fun c => (c.length, (manifests c).length)) = some (5, 0) := by
  decide +kernel
example : (Png.write exPng [1, 2, 3]).bind Png.read = some (.ok [1, 2, 3]) :=
  Png.read_write_bytes exPng_chunks rfl (by decide) (by decide)
example : ((Png.write exPng [1, 2, 3]).bind Png.remove) = some exPng := by decide +kernel
example : Sidecar.segs [1, 2] = [⟨.manifest, "C2PA", [1, 2]⟩] := by decide

end C2pa.C07
