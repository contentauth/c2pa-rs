import C2paModel.Props.C24
/-
C38 — property theorems (determinism / repeatability), over the state model shared with C24.

Statement: reading the same bytes twice with the same settings yields the same report, and
signing never depends on state left behind by earlier operations in the same process.

In the model an operation's observable result is a function of (its inputs, the cell it
touches). The theorems say: read-type operations leave the whole system state unchanged (so
repeating a read program repeats its outputs); an operation's output depends only on its own
cell; whatever ran before on *other* cells is irrelevant; write-once cells never change once
set. This file holds the state-model theorems only. The obligations of C38 about the source are
theorems of Props/C24, Part 2, re-decided on every run: that there is no further process-wide
mutable state (`inventory_closed`, `no_mutable_globals`, …), who reaches the thread-local settings,
and the reviewed inventory of clock / environment / randomness / hash-iteration sites
(`nondet_sites_reviewed`, `no_environment_reads`, `report_deciding_hash_order_sites`). Reports
themselves (bytes → JSON) are compared on the implementation by the harness (same process twice,
and a fresh process).
-/
namespace C2pa.C24

def isRead : Op → Bool
  | .checkProgress _ | .readSettings _ | .buildSettings _ _ | .readTls _ | .leakyRead _ => true
  | _ => false

/-- Read-type operations do not change the system state. -/
theorem read_ops_preserve_state (s : Sys) (op : Op) (h : isRead op = true) : (step s op).1 = s := by
  cases op <;> cases h
  case buildSettings => rfl
  case checkProgress | readSettings => exact onCtx_fst_of_fix s _ _ fun _ => rfl
  case readTls | leakyRead => exact onTls_fst_of_fix s _ _ fun _ => rfl

theorem read_prog_preserves_state : ∀ (p : List Op) (s : Sys), (∀ o ∈ p, isRead o = true) →
    (runProg s p).1 = s := by
  intro p
  induction p with
  | nil => intro s _; rfl
  | cons o p ih =>
    intro s h
    simp only [runProg]
    rw [read_ops_preserve_state s o (h o (List.mem_cons_self ..))]
    exact ih s (fun x hx => h x (List.mem_cons_of_mem _ hx))

/-- **Repeating a read program repeats its outputs.** Reads are safe operations, so this is also a
case of `replay_deterministic_shared`; here it comes from the stronger fact that reads leave the state
as it is. -/
theorem replay_deterministic (p : List Op) (s : Sys) (h : ∀ o ∈ p, isRead o = true) :
    (runProg (runProg s p).1 p).2 = (runProg s p).2 := by
  rw [read_prog_preserves_state p s h]

/-- What an operation can observe. -/
def view (s : Sys) : Cell → Option (Ctx ⊕ Nat)
  | .ctx c => (s.ctxs[c]?).map .inl
  | .thread t => (s.tls[t]?).map .inr
  | .none => none

/-- **An operation's output depends only on its own cell.** -/
theorem output_depends_only_on_cell (s s' : Sys) (op : Op) (h : view s op.cell = view s' op.cell) :
    (step s op).2 = (step s' op).2 := by
  rw [step_eq_sem, step_eq_sem]
  rw [← sem_cell] at h
  generalize sem op = a at h ⊢
  cases a with
  | ctx c f =>
    have : s.ctxs[c]? = s'.ctxs[c]? := Option.map_injective (fun _ _ => Sum.inl.inj) h
    simp only [runSem, onCtx, this]
    split <;> rfl
  | tls t g =>
    have : s.tls[t]? = s'.tls[t]? := Option.map_injective (fun _ _ => Sum.inr.inj) h
    simp only [runSem, onTls, this]
    split <;> rfl
  | pure o => rfl

/-- **State left behind on other contexts / threads is irrelevant**: whatever program ran
before on cells independent of `op`, `op` observes what it would observe on the initial state. -/
theorem earlier_independent_ops_irrelevant (s : Sys) (pre : List Op) (op : Op)
    (h : IndepOf op pre) : (step (runProg s pre).1 op).2 = (step s op).2 :=
  (step_runProg_comm op pre (fun a ha => indep_compat a op (h a ha)) s).2.2

/-- **A whole history is irrelevant to a later program** when every operation of the history is
compatible with every operation of the program: other cells, or safe operations on the same
cells (reads, checkpoints, lazily initialised signer / resolver). -/
theorem earlier_compatible_history_irrelevant : ∀ (p pre : List Op) (s : Sys), ProgsCompat pre p →
    (runProg (runProg s pre).1 p).2 = (runProg s p).2 :=
  fun p pre s h => (runProg_comm pre p h s).2.1

/-- **Repeating a program of safe operations repeats its outputs** — also when the first run
initialises the lazily created signer / resolver of the context (the second run finds the cell
filled with the value it would have created itself). -/
theorem replay_deterministic_shared (p : List Op) (s : Sys) (h : ∀ o ∈ p, sharedSafe o = true) :
    (runProg (runProg s p).1 p).2 = (runProg s p).2 :=
  earlier_compatible_history_irrelevant p p s fun a ha b hb => sharedSafe_compat (h a ha) (h b hb)

/-- The operations of a context-based read / sign on context `c`, as the model sees them:
checkpoints, the context's own settings, the lazily built resolver / signer. -/
def readProg (c : Nat) : List Op := [.checkProgress c, .readSettings c, .getResolverS c, .checkProgress c]
def signProg (c : Nat) : List Op :=
  [.checkProgress c, .readSettings c, .getSignerS c, .getResolverS c, .checkProgress c]

/-- A history operation that cannot disturb context-based operations on `c`: anything except
cancelling `c` itself or initialising its cells with a caller-chosen value — in particular every
legacy thread-local settings write, every operation on other contexts, every read / sign on `c`. -/
def Harmless (c : Nat) : Op → Bool
  | .cancel d | .getSigner d _ | .getResolver d _ => d != c
  | _ => true

theorem harmless_compat (c : Nat) (o b : Op) (ho : Harmless c o = true) (hb : b ∈ signProg c ∨ b ∈ readProg c) :
    compat o b = true := by
  obtain ⟨hsafe, hcell⟩ : sharedSafe b = true ∧ b.cell = .ctx c := by
    simp only [signProg, readProg, List.mem_cons, List.not_mem_nil, or_false] at hb
    rcases hb with (rfl | rfl | rfl | rfl | rfl) | (rfl | rfl | rfl | rfl) <;> exact ⟨rfl, rfl⟩
  cases o
  -- on a context other than `c`, or on a thread: another cell
  case cancel d | getSigner d _ | getResolver d _ =>
    exact indep_compat _ _ (by rw [indep, hcell]; simpa [Op.cell, Harmless] using ho)
  case setTls => exact indep_compat _ _ (by rw [indep, hcell]; rfl)
  -- everything else is shared-safe, like `b`
  all_goals exact sharedSafe_compat rfl hsafe

/-- **Signing / reading through a context never depends on what ran before in the process**:
after ANY history of harmless operations (legacy settings writes on any thread, operations on
other contexts, earlier reads and signs on the same context, settings builders) a context-based
sign and read give exactly the outputs they give on the initial state. -/
theorem context_sign_independent_of_history (s : Sys) (pre : List Op) (c : Nat)
    (h : ∀ o ∈ pre, Harmless c o = true) :
    (runProg (runProg s pre).1 (signProg c)).2 = (runProg s (signProg c)).2 :=
  earlier_compatible_history_irrelevant _ pre s
    (fun a ha b hb => harmless_compat c a b (h a ha) (Or.inl hb))

theorem context_read_independent_of_history (s : Sys) (pre : List Op) (c : Nat)
    (h : ∀ o ∈ pre, Harmless c o = true) :
    (runProg (runProg s pre).1 (readProg c)).2 = (runProg s (readProg c)).2 :=
  earlier_compatible_history_irrelevant _ pre s
    (fun a ha b hb => harmless_compat c a b (h a ha) (Or.inr hb))

/-- Non-vacuity: a history with legacy writes, a cancel of another context and a sign on the same one. -/
example : ∀ o ∈ [Op.setTls 0 7, .cancel 1, .getSignerS 0, .getSigner 1 9, .leakyRead 0], Harmless 0 o = true := by
  decide

/-- The signer cell, once set, is not changed by any step (the lazily created signer of a context
stays the one first created, whatever runs later on that context). Stated for the signer cell only. -/
theorem signer_write_once (s : Sys) (op : Op) (c v : Nat) (x : Ctx)
    (hx : s.ctxs[c]? = some x) (hs : x.signer = some v) :
    ∃ y, (step s op).1.ctxs[c]? = some y ∧ y.signer = some v :=
  step_preserves (·.signer = some v) s op
    (by
      cases op
      -- the two operations that write `signer` find it filled: `getOrInit (some v) _ = v`
      case getSigner | getSignerS => exact fun _ h => by simp [getOrInit, h]
      case checkProgress | cancel | getResolver | getResolverS | readSettings => exact fun _ h => h
      -- thread-local and pure operations touch no context
      all_goals trivial)
    c x hx hs

/-! ### Non-vacuity -/
example : (runProg (initSys 2 2) [.checkProgress 0, .readSettings 1, .readTls 1]).2 =
    [.flag false, .val 101, .val 201] := by decide +kernel

end C2pa.C24
