import C2paModel.Props.C30
import C2paModel.Lemmas.C30Scan
/-
C30 — the round trip THROUGH THE TEXT.

`Props/C30.lean` states the round trip on the packet abstraction (`extractKey (addKey …)`).
Here the value is read back from the characters `add_xmp_key` writes (`render q`), with the
model of quick-xml's reader (`Model/C30Scan.lean`: `ElementParser`, `emit_start`, the
`Attributes` iterator, `read_event`, the loop of `extract_xmp_key`), which the
correspondence run compares with the real `extract_xmp_key` / quick-xml on raw texts.

What carries the proofs: everything written is quotable (`escape_no_specials`,
`addKey_values_quotable`), therefore the tokenizer splits the written tag exactly where the
writer joined it (`scan_render`; for the text `add_xmp_key` wrote, `output_scans`), therefore
the reader, which reads an element as `add_xmp_key` does (`extractStep_scanDesc`), finds the
attribute and `unescape (escape v) = v` gives the value back (`key_roundtrip_text`).
-/
namespace C2pa.C30

/-! ### everything written can stand between double quotes -/

/-- **`escape` never emits `"`, `<`, `>` or `'`.** -/
theorem escape_no_specials (v : Str) :
    ∀ c ∈ escape v, c ≠ '"' ∧ c ≠ '<' ∧ c ≠ '>' ∧ c ≠ '\'' := by
  induction v with
  | nil => intro c hc; cases hc
  | cons a as ih =>
    intro c hc
    simp only [escape, List.mem_append] at hc
    rcases hc with hc | hc
    · exact escChar_no_specials a c hc
    · exact ih c hc

theorem editAttrs_val_noquote (k v : Str) (as : List Attr) :
    ∀ a ∈ editAttrs k (escape v) as, '"' ∉ a.val := by
  have hnew : '"' ∉ escape v := fun hq => (escape_no_specials v _ hq).1 rfl
  refine forall_mem_editAttrs k _ as hnew fun a _ => ?_
  unfold editAttr
  split
  · exact hnew
  · exact requote_no_quote a.val

/-- **No attribute value of the element `add_xmp_key` writes contains a literal `"`** —
whatever the input values were (`double_quotable`) and whatever is added (`escape`). -/
theorem addKey_values_quotable (p : Packet) (k v : Str) (q : Packet) (h : addKey p k v = .ok q) :
    ∀ d, q.desc = some d → ∀ a ∈ d.attrs, '"' ∉ a.val := by
  intro d' hd' a ha
  obtain ⟨_, _, rfl⟩ := addKey_ok p k v q h
  obtain ⟨d, _, rfl⟩ := Option.map_eq_some_iff.1 hd'
  exact editAttrs_val_noquote k v d.attrs a ha

theorem editAttrs_keyOk (k ev : Str) (as : List Attr) (hk : KeyOk k) (hks : ∀ a ∈ as, KeyOk a.key) :
    ∀ a ∈ editAttrs k ev as, KeyOk a.key :=
  forall_mem_editAttrs (P := fun a => KeyOk a.key) k ev as hk
    fun a ha => by rw [editAttr_key]; exact hks a ha

/-! ### scan ∘ render = id -/

/-- **The element reading of `add_xmp_key` inverts rendering**, whatever text follows, for
every layout: white space (at least one) before each name, any white space around `=` and
before the end of the tag, single or double quotes, values free of their own quote
character (they may contain `>`, `<`, the other quote), well-formed pairwise different
names. -/
theorem scan_render_layout (als : List (Attr × Lay)) (tw : Str) (empty : Bool) (rest : Str)
    (htw : AllWs tw) (hok : ∀ al ∈ als, KeyOk al.1.key ∧ LayOk al.1 al.2)
    (hnd : (als.map (·.1.key)).Nodup) :
    scanDesc (renderDescL als tw empty ++ rest) =
      some ({ attrs := als.map (·.1), empty := empty }, rest) := by
  rw [renderDescL_then]
  simp only [scanDesc, elemEnd_of_qrun _ _ (qrun_descContentL als tw empty htw hok) rest,
    splitTag_descContentL als tw empty htw (fun al h => (hok al h).2), if_true,
    attrsOf_render als tw htw hok hnd, strictAttrs_ok]

/-- **Reading the element `Writer::write_event` wrote gives the element back**, whatever
text follows: for well-formed pairwise different names and values without a literal `"`
(values may contain `<`, `>`, `'`, `&`). Drop the quoting-safety hypothesis and the
statement is false (`scan_render_needs_quotable`). -/
theorem scan_render (d : Desc) (rest : Str) (hk : ∀ a ∈ d.attrs, KeyOk a.key)
    (hq : ∀ a ∈ d.attrs, '"' ∉ a.val) (hn : dupKeys d.attrs = false) :
    scanDesc (renderDesc d ++ rest) = some (d, rest) := by
  have := scan_render_layout (d.attrs.map fun a => (a, Lay.std)) [] d.empty rest (by decide)
    (fun al hal => by
      obtain ⟨a, ha, rfl⟩ := List.mem_map.1 hal
      exact ⟨hk a ha, layOk_std a (hq a ha)⟩)
    (by rw [List.map_map]; exact (dupKeys_false_iff d.attrs).1 hn)
  rw [renderDescL_std] at this
  rw [this]
  simp [List.map_map, Function.comp_def]

/-- Without quoting safety the written tag does not read back: a value holding a literal
`"` cuts the attribute (this is the defect `attrs-not-preserved` that `double_quotable`
repairs; `addKey_values_quotable` shows the writer never produces such a value). -/
theorem scan_render_needs_quotable :
    scanDesc (renderDesc ⟨[⟨['a'], ['x', '"', 'y']⟩], true⟩) ≠
      some (⟨[⟨['a'], ['x', '"', 'y']⟩], true⟩, []) := by
  decide +kernel

/-! ### what the reader finds in the written text -/

theorem render_finish_some (p : Packet) (d' : Desc) :
    render (finish p (some d')) =
      p.pre ++ (renderDesc d' ++ (p.post ++ ((finish p (some d')).gap ++ xmpEnd))) := by
  simp only [render, finish_pre, finish_desc, finish_post, renderOptDesc, List.append_assoc]

/-- **Scanning the written text at the position of the element** (after the unchanged text
in front) yields an element of the same form in which the key occurs with the escaped
value and every other attribute is the input attribute in its order (`reqAttr`: a literal
`"` re-written as `&quot;`, `reqAttr_spec`); what follows is the unchanged text after the
element, the blanks (`output_shape`) and the trailer. -/
theorem output_scans (p : Packet) (k v : Str) (q : Packet) (h : addKey p k v = .ok q)
    (d : Desc) (hd : p.desc = some d) (hk : KeyOk k) (hks : ∀ a ∈ d.attrs, KeyOk a.key) :
    ∃ d', q.desc = some d' ∧
      render q = p.pre ++ (renderDesc d' ++ (p.post ++ (q.gap ++ xmpEnd))) ∧
      scanDesc (renderDesc d' ++ (p.post ++ (q.gap ++ xmpEnd))) =
        some (d', p.post ++ (q.gap ++ xmpEnd)) ∧
      d'.empty = d.empty ∧ findAttr k d'.attrs = some ⟨k, escape v⟩ ∧
      d'.attrs.filter (fun a => !decide (a.key = k)) =
        (d.attrs.filter (fun a => !decide (a.key = k))).map reqAttr := by
  obtain ⟨hdup, rfl⟩ := addKey_ok_some p k v q h d hd
  exact ⟨editDesc k (escape v) d, rfl, render_finish_some p _,
    scan_render _ _ (editAttrs_keyOk k _ _ hk hks) (editAttrs_val_noquote k v d.attrs)
      (dupKeys_editAttrs k _ _ hdup),
    rfl, findAttr_editAttrs_self k _ _, filter_editAttrs k _ _⟩

/-- **The value `extract_xmp_key` reads from the text `add_xmp_key` wrote is the value that
was added** — for every value (any characters), every well-formed key, every packet whose
first rdf:Description has well-formed attribute names, any text after the element, and in
front of it any sequence of comments / CDATA / processing instructions (without `>` inside),
end tags and start tags (balanced quotes, other names), with text free of `<` and `&`
between them. -/
theorem key_roundtrip_text (p : Packet) (k v : Str) (q : Packet) (h : addKey p k v = .ok q)
    (d : Desc) (hd : p.desc = some d) (hk : KeyOk k) (hks : ∀ a ∈ d.attrs, KeyOk a.key)
    (items : List Item) (lead : Str) (hpre : p.pre = renderItems items ++ lead)
    (hitems : ∀ it ∈ items, it.Ok k) (hl : leadOk lead) :
    extractTxt k (render q) = .found v := by
  obtain ⟨d', _, hr, hs, _, hf, _⟩ := output_scans p k v q h d hd hk hks
  rw [hr, hpre, List.append_assoc]
  exact (extractTxt_desc k items lead _ d' _ _ hitems hl hs hf).trans
    (congrArg XRes.found (unescapeLenient_escape v))

theorem keyOk_xmlns : KeyOk kXmlnsDcterms := by
  delta kXmlnsDcterms
  decide_run

theorem keyOk_provenance : KeyOk kProvenance := by
  delta kProvenance
  decide_run

/-- **`extract_provenance (add_provenance xmp url)` read from the written text is `url`** —
every URL, every packet as in `key_roundtrip_text`. -/
theorem provenance_roundtrip_text (p : Packet) (url : Str) (q : Packet)
    (h : addProvenance p url = .ok q)
    (d : Desc) (hd : p.desc = some d) (hks : ∀ a ∈ d.attrs, KeyOk a.key)
    (items : List Item) (lead : Str) (hpre : p.pre = renderItems items ++ lead)
    (hitems : ∀ it ∈ items, it.Ok kProvenance) (hl : leadOk lead) :
    extractProvenanceTxt (render q) = .found url := by
  obtain ⟨p1, h1, h2⟩ := (addProvenance_ok_iff p url q).1 h
  obtain ⟨_, rfl⟩ := addKey_ok_some p _ _ p1 h1 d hd
  exact key_roundtrip_text _ kProvenance url q h2 _ rfl keyOk_provenance
    (editAttrs_keyOk _ _ _ keyOk_xmlns hks) items lead hpre hitems hl

/-- `add_provenance` succeeds and the URL reads back from its output text. -/
theorem provenance_roundtrip_text_total (p : Packet) (url : Str) (d : Desc) (hd : p.desc = some d)
    (hdup : dupKeys d.attrs = false) (hp : ¬(p.trailer = true ∧ p.origLen < 19))
    (hks : ∀ a ∈ d.attrs, KeyOk a.key)
    (items : List Item) (lead : Str) (hpre : p.pre = renderItems items ++ lead)
    (hitems : ∀ it ∈ items, it.Ok kProvenance) (hl : leadOk lead) :
    ∃ q, addProvenance p url = .ok q ∧ extractProvenanceTxt (render q) = .found url := by
  obtain ⟨q, hq, _⟩ := provenance_roundtrip_total p url d hd hdup hp
  exact ⟨q, hq, provenance_roundtrip_text p url q hq d hd hks items lead hpre hitems hl⟩

/-! ### the case the code does not serve: no rdf:Description -/

/-- Without an rdf:Description element a successful `add_provenance` writes no reference and
the packet abstraction has nothing to read back (`extractKey` looks at the first
rdf:Description only; an element named like the key elsewhere in the text is outside it).
Open finding `xmp-without-description`; the harness replays such packets on the implementation. -/
theorem no_description_no_reference (p : Packet) (url : Str) (q : Packet)
    (hd : p.desc = none) (h : addProvenance p url = .ok q) :
    q.desc = none ∧ q.pre = p.pre ∧ q.post = p.post ∧ extractProvenance q = none := by
  obtain ⟨p1, h1, h2⟩ := (addProvenance_ok_iff p url q).1 h
  obtain ⟨_, _, rfl⟩ := addKey_ok p _ _ p1 h1
  obtain ⟨_, _, rfl⟩ := addKey_ok _ _ _ q h2
  simp [extractProvenance, extractKey, hd]

/-- The full statement ("the URL read back equals the URL embedded") is false for a packet
without rdf:Description: concrete witness. -/
def exNoDesc : Packet :=
  { pre := "<x:xmpmeta xmlns:x=\"adobe:ns:meta/\"><rdf:RDF/></x:xmpmeta>".toList, desc := none,
    post := [], gap := [], trailer := true, origLen := 80 }

theorem roundtrip_fails_without_description :
    ∃ q, addProvenance exNoDesc exUrl = .ok q ∧ extractProvenance q ≠ some exUrl := by
  have h1 := addKey_eq exNoDesc kXmlnsDcterms vDcterms (by decide) (fun d hd => nomatch hd)
  have hall := (addProvenance_ok_iff exNoDesc exUrl _).2
    ⟨_, h1, addKey_again _ _ _ _ h1 kProvenance exUrl⟩
  obtain ⟨_, _, _, hnone⟩ := no_description_no_reference exNoDesc exUrl _ rfl hall
  refine ⟨_, hall, ?_⟩
  rw [hnone]
  simp

/-! ### the reader model is total -/

/-- The termination guard of the reader model is never taken, on any text (every
`read_event` consumes at least one character: `readEvent_length`; guard-free recursion
equations: `readToEnd_eq`, `extractLoop_eq`). -/
theorem extractTxt_ne_guard (k s : Str) : extractTxt k s ≠ .guard :=
  extractLoop_ne_guard k [] (stripBom s)

/-! ### non-vacuity -/

/-- the markup in front of the element of `MIN_XMP`-like packets -/
def exItems : List Item :=
  [⟨[], .pi "xpacket begin=\"\" id=\"W5M0MpCehiHzreSzNTczkc9d\"".toList⟩,
   ⟨"\n".toList, .tag "x:xmpmeta xmlns:x=\"adobe:ns:meta/\" x:xmptk='a > b'".toList⟩,
   ⟨" ".toList, .comment " note ".toList⟩,
   ⟨[], .tag "rdf:RDF xmlns:rdf=\"http://www.w3.org/1999/02/22-rdf-syntax-ns#\"".toList⟩,
   ⟨[], .tag "x:empty/".toList⟩,
   ⟨"text".toList, .etag "x:none".toList⟩]

def exPacketT : Packet := { exPacket with pre := renderItems exItems ++ "\n  ".toList }

theorem exItems_ok : ∀ it ∈ exItems, it.Ok kProvenance := by
  delta exItems kProvenance
  decide_run
theorem exAttrs_keyOk : ∀ a ∈ exAttrs, KeyOk a.key := by
  delta exAttrs
  decide_run

example : ∀ it ∈ exItems, it.Ok kProvenance := exItems_ok
example : leadOk "\n  ".toList := by decide
example : ∀ a ∈ exAttrs, KeyOk a.key := exAttrs_keyOk
example : ∃ q, addProvenance exPacketT exUrl = .ok q ∧ extractProvenanceTxt (render q) = .found exUrl :=
  provenance_roundtrip_text_total exPacketT exUrl ⟨exAttrs, false⟩ rfl exAttrs_nodup exPacket_room
    exAttrs_keyOk exItems "\n  ".toList rfl exItems_ok (by decide)
/-- `scan_render_layout`: ExifTool-style input (line breaks, single quotes, a `"` and a `>`
inside a single-quoted value) -/
example : scanDesc ("<rdf:Description rdf:about=''\n  dc:source = 'say \"hi\" > bye'\t/>rest".toList) =
    some (⟨[⟨"rdf:about".toList, []⟩, ⟨"dc:source".toList, "say \"hi\" > bye".toList⟩], true⟩,
      "rest".toList) := by decide_run

end C2pa.C30
