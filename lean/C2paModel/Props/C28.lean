import C2paModel.Model.C28
import C2paModel.Gen.C28HttpSites
import C2paModel.Lemmas.DecideRun
/-
C28 — no network access unless the configuration enables it. The statement (properties.jsonl):

  Reading, validating and signing perform no HTTP request unless the corresponding setting or
  signer explicitly asks for it (remote manifest fetch, OCSP fetch, time-stamp authority). With
  remote manifest fetching disabled, an asset that only references a remote manifest yields the
  remote-manifest error carrying the referenced URL.

`request_implies_enabled` is the first sentence, `remote_only_disabled_error_has_url` the second
(for a reference `Store::is_valid_remote_url` accepts);
`call_site_inventory_closed` ties the request sites of the model to those of sdk/src; the theorems
of that section compare the regenerated `Gen.*` tables with reviewed lists: statements about those
finite tables, settled by evaluation. Every other theorem is about the decision functions of
`Model/C28.lean` for *all* settings, transport behaviours, signers, assets and (unbounded) lists of
ingredients and claims.
-/
namespace C2pa.C28

/-! ### the pieces: which request a decision function issues, and when

A function whose requests are all of one kind gets a `Block`: a run of that request, non-empty
exactly under the stated gate (`*_block`). A `*_eq` in front of it is the closed form the block is
read off; a `*_mem` behind it is the weaker "every request is of this kind and its setting is on",
which is what the flow theorems use. `loadJumbf` issues at most one request, whose URL varies: it is
described by its trace (`loadJumbf_trace`). For `tsPhase` the gate is left as `tsPhase … ≠ []`
(`tsPhase_block`, which stands with the signing flow and is taken from `tsPhase_mem`); the functions
below it (`tsClaims`, `tsSelected`) only enter through the congruence lemmas of the gate-independence
section. -/

/-- `l` is a run of the one request `k`, and is non-empty exactly when `g` holds. -/
structure Block (k : Req) (g : Prop) (l : List Req) : Prop where
  only : ∀ r ∈ l, r = k
  gate : l ≠ [] ↔ g

namespace Block
variable {k : Req} {g g' : Prop} {l : List Req}

theorem replicate (n : Nat) : Block k (n ≠ 0) (List.replicate n k) :=
  ⟨fun _ h => List.eq_of_mem_replicate h, by simp⟩

theorem congr (h : Block k g l) (hg : g ↔ g') : Block k g' l := ⟨h.only, h.gate.trans hg⟩

theorem ite {c : Prop} [Decidable c] (h : Block k g l) : Block k (c ∧ g) (if c then l else []) := by
  split
  · exact h.congr (by simp [*])
  · exact ⟨nofun, by simp [*]⟩

theorem flatMap {α : Type} {xs : List α} {f : α → List Req} {g : α → Prop}
    (h : ∀ x ∈ xs, Block k (g x) (f x)) : Block k (∃ x ∈ xs, g x) (xs.flatMap f) where
  only r hr := have ⟨x, hx, hr⟩ := List.mem_flatMap.1 hr; (h x hx).only r hr
  gate := by
    simp only [ne_eq, List.flatMap_eq_nil_iff, Classical.not_forall, exists_prop]
    exact exists_congr fun x => and_congr_right fun hx => (h x hx).gate

theorem take_one (h : Block k g l) : Block k g (l.take 1) :=
  ⟨fun r hr => h.only r (List.mem_of_mem_take hr), by rw [← h.gate]; cases l <;> simp⟩

theorem mem (h : Block k g l) {r : Req} (hr : r ∈ l) : r = k ∧ g :=
  ⟨h.only r hr, h.gate.1 (List.ne_nil_of_mem hr)⟩

theorem mem_iff (h : Block k g l) : k ∈ l ↔ g := by
  rw [← h.gate]
  cases l with
  | nil => simp
  | cons x t => simp [h.only x List.mem_cons_self]

theorem off (h : Block k g l) (hg : ¬ g) : l = [] := Classical.not_not.1 (mt h.gate.1 hg)

theorem filter_pos (h : Block k g l) {p : Req → Bool} (hp : p k = true) : l.filter p = l :=
  List.filter_eq_self.mpr fun r hr => h.only r hr ▸ hp

theorem filter_neg (h : Block k g l) {p : Req → Bool} (hp : p k = false) : l.filter p = [] :=
  List.filter_eq_nil_iff.mpr fun r hr => h.only r hr ▸ (by simp [hp])

theorem not_mem {r : Req} (h : Block k g l) (hne : r ≠ k) : r ∉ l := fun hr => hne (h.only r hr)

end Block

theorem fetchOcsp_eq (env : Env) (k : Req) (c : Claim) :
    ∃ n, fetchOcsp env k c = List.replicate n k ∧ n ≤ c.responders ∧ (n = 0 ↔ c.responders = 0) := by
  unfold fetchOcsp
  split
  · exact ⟨c.responders, rfl, Nat.le_refl _, Iff.rfl⟩
  · split
    · exact ⟨0, rfl, Nat.zero_le _, by simp [*]⟩
    · exact ⟨1, rfl, by omega, by omega⟩

theorem fetchOcsp_block (env : Env) (k : Req) (c : Claim) :
    Block k (c.responders ≠ 0) (fetchOcsp env k c) := by
  obtain ⟨n, hn, _, h0⟩ := fetchOcsp_eq env k c
  rw [hn]; exact (Block.replicate n).congr (not_congr h0)

theorem fetchOcsp_mem_iff (env : Env) (k : Req) (c : Claim) :
    k ∈ fetchOcsp env k c ↔ c.responders ≠ 0 :=
  (fetchOcsp_block env k c).mem_iff

theorem fetchOcsp_length_le (env : Env) (k : Req) (c : Claim) :
    (fetchOcsp env k c).length ≤ c.responders := by
  obtain ⟨n, hn, hle, _⟩ := fetchOcsp_eq env k c
  rw [hn, List.length_replicate]; exact hle

/-- the gate of `checkOcsp`; the right-hand side of `ocsp_check_iff` -/
def ocspCond (s : Settings) (st : Store) (c : Claim) : Prop :=
  s.ocspFetch = true ∧ c.responders ≠ 0 ∧ (c.stapled && c.stapledUsable) = false
    ∧ (s.statusOverride.getD false && statusResp st c) = false

theorem checkOcsp_eq (s : Settings) (env : Env) (st : Store) (c : Claim) :
    checkOcsp s env st c =
      if s.ocspFetch = true ∧ (c.stapled && c.stapledUsable) = false
          ∧ (s.statusOverride.getD false && statusResp st c) = false
      then fetchOcsp env .ocspVerify c else [] := by
  unfold checkOcsp
  cases s.statusOverride.getD false && statusResp st c <;> cases c.stapled && c.stapledUsable <;>
    cases s.ocspFetch <;> rfl

theorem checkOcsp_block (s : Settings) (env : Env) (st : Store) (c : Claim) :
    Block .ocspVerify (ocspCond s st c) (checkOcsp s env st c) := by
  rw [checkOcsp_eq]
  exact (fetchOcsp_block env _ c).ite.congr
    ⟨fun h => ⟨h.1.1, h.2, h.1.2⟩, fun h => ⟨⟨h.1, h.2.2⟩, h.2.1⟩⟩

theorem checkOcsp_mem {s : Settings} {env : Env} {st : Store} {c : Claim} {r : Req}
    (h : r ∈ checkOcsp s env st c) :
    r = .ocspVerify ∧ s.ocspFetch = true ∧ (c.stapled && c.stapledUsable) = false :=
  have ⟨e, g, _, u, _⟩ := (checkOcsp_block s env st c).mem h
  ⟨e, g, u⟩

theorem verifyStore_block (s : Settings) (env : Env) (st : Store) :
    Block .ocspVerify (∃ c ∈ st, ocspCond s st c) (verifyStore s env st) :=
  .flatMap fun c _ => checkOcsp_block s env st c

theorem verifyStore_mem {s : Settings} {env : Env} {st : Store} {r : Req}
    (h : r ∈ verifyStore s env st) : r = .ocspVerify ∧ s.ocspFetch = true :=
  have ⟨e, _, _, g, _⟩ := (verifyStore_block s env st).mem h
  ⟨e, g⟩

theorem statusLabels_nil_of_off (s : Settings) (st : Store)
    (h : s.statusFetch = .none ∨ s.statusOverride = none) : statusLabels s st = [] := by
  unfold statusLabels
  rcases h with h | h
  · rw [h]; cases s.statusOverride with
    | none => rfl
    | some b => cases b <;> simp
  · rw [h]

theorem statusDers_block (s : Settings) (env : Env) (st : Store) :
    Block .ocspStatus (∃ c ∈ statusLabels s st, c.responders ≠ 0) (statusDers s env st) :=
  .flatMap fun c _ => fetchOcsp_block env _ c

theorem statusDers_mem {s : Settings} {env : Env} {st : Store} {r : Req}
    (h : r ∈ statusDers s env st) :
    r = .ocspStatus ∧ s.statusFetch ≠ .none ∧ s.statusOverride.isSome = true := by
  obtain ⟨e, c, hc, _⟩ := (statusDers_block s env st).mem h
  refine ⟨e, fun h0 => ?_, ?_⟩
  · rw [statusLabels_nil_of_off s st (Or.inl h0)] at hc; cases hc
  · cases h1 : s.statusOverride with
    | some b => rfl
    | none => rw [statusLabels_nil_of_off s st (Or.inr h1)] at hc; cases hc

theorem identityReqs_block (s : Settings) (st : Store) :
    Block .didWeb (s.decodeIdentity = true ∧ ∃ c ∈ st, c.didWeb ≠ 0) (identityReqs s st) :=
  (Block.flatMap fun c _ => .replicate c.didWeb).ite

theorem signerTs_block (sg : Signer) : Block .tsaSigner (sg.tsa = true) (signerTs sg) :=
  (Block.replicate 1).ite.congr (by simp)

theorem afterSign_block (s : Settings) (env : Env) (sg : Signer) (ings : List Ing) :
    Block .ocspVerify
      (s.verifyAfterSign = true ∧ ∃ c ∈ sg.claim :: ings.flatMap Ing.claims,
        ocspCond s (sg.claim :: ings.flatMap Ing.claims) c)
      (afterSign s env sg ings) :=
  (verifyStore_block s env _).ite

theorem loadJumbf_trace (s : Settings) (env : Env) (a : Asset) :
    (loadJumbf s env a).2 = [] ∨
      ∃ u, (loadJumbf s env a).2 = [.manifest u] ∧ s.remoteFetch = true ∧ a.embedded = .absent
        ∧ a.xmp = some u ∧ validRef a u = true ∧ a.refUriOk = true := by
  unfold loadJumbf
  cases he : a.embedded with
  | store st => exact Or.inl rfl
  | broken => exact Or.inl rfl
  | absent =>
    cases hx : a.xmp with
    | none => exact Or.inl rfl
    | some u =>
      dsimp only
      -- a request needs `validRef`, `remoteFetch` and `refUriOk` all true; the other seven
      -- combinations leave the trace empty
      cases hv : validRef a u <;> cases hf : s.remoteFetch <;> cases hq : a.refUriOk <;>
        try exact Or.inl rfl
      -- all three true: one request, whatever the transport answers
      cases env.manifest <;> exact Or.inr ⟨u, rfl, rfl, rfl, rfl, hv, rfl⟩

theorem loadJumbf_mem {s : Settings} {env : Env} {a : Asset} {r : Req}
    (h : r ∈ (loadJumbf s env a).2) :
    ∃ u, r = .manifest u ∧ s.remoteFetch = true ∧ a.embedded = .absent ∧ a.xmp = some u
      ∧ validRef a u = true ∧ a.refUriOk = true := by
  rcases loadJumbf_trace s env a with e | ⟨u, e, hc⟩ <;> rw [e] at h
  · cases h
  · exact ⟨u, List.mem_singleton.mp h, hc⟩

theorem loadJumbf_trace_filter (s : Settings) (env : Env) (a : Asset) (p : Req → Bool)
    (hp : ∀ u, p (.manifest u) = true) :
    (loadJumbf s env a).2.filter p = (loadJumbf s env a).2 := by
  rcases loadJumbf_trace s env a with h | ⟨u, h, _⟩
  · rw [h]; rfl
  · rw [h]; simp [hp u]

/-! ### flow by flow (read, import, sign): the requests in a trace, then the property for the flow -/

/-- What a read requests once the manifest store is loaded: validation of the claims, then the
identity assertions. -/
def afterLoad (s : Settings) (env : Env) : Except Err Store → List Req
  | .ok st => verifyStore s env st ++ identityReqs s st
  | .error _ => []

theorem read_trace (s : Settings) (env : Env) (a : Asset) :
    (read s env a).trace = (loadJumbf s env a).2 ++ afterLoad s env (loadJumbf s env a).1 := by
  unfold read
  split <;> rename_i h <;> simp [h, afterLoad]

theorem read_result (s : Settings) (env : Env) (a : Asset) :
    (read s env a).result =
      match (loadJumbf s env a).1 with
      | .ok _ => .ok
      | .error e => .error e := by
  unfold read
  split <;> rename_i h <;> simp [h]

theorem afterLoad_mem {s : Settings} {env : Env} {res : Except Err Store} {r : Req}
    (h : r ∈ afterLoad s env res) :
    (r = .ocspVerify ∧ s.ocspFetch = true) ∨ (r = .didWeb ∧ s.decodeIdentity = true) := by
  cases res with
  | error e => cases h
  | ok st =>
    exact (List.mem_append.mp h).imp verifyStore_mem
      fun h => ((identityReqs_block s st).mem h).imp_right And.left

theorem read_mem {s : Settings} {env : Env} {a : Asset} {r : Req} (h : r ∈ (read s env a).trace) :
    r ∈ (loadJumbf s env a).2 ∨ (r = .ocspVerify ∧ s.ocspFetch = true)
      ∨ (r = .didWeb ∧ s.decodeIdentity = true) := by
  rw [read_trace] at h
  exact (List.mem_append.mp h).imp_right afterLoad_mem

/-- `enabled` does not look at the signer or the builder for the requests of reading. -/
theorem request_implies_enabled_read (s : Settings) (env : Env) (a : Asset) (tsa ex : Bool)
    (r : Req) (h : r ∈ (read s env a).trace) : enabled ⟨s, tsa, ex⟩ r = true := by
  rcases read_mem h with hl | ⟨rfl, ho⟩ | ⟨rfl, hd⟩
  · obtain ⟨u, rfl, hf, _⟩ := loadJumbf_mem hl
    exact hf
  · exact ho
  · exact hd

theorem importIng_mem {s : Settings} {env : Env} {a : Asset} {p e : Bool} {r : Req}
    (h : r ∈ (importIng s env a p e).2) :
    r ∈ (loadJumbf s env a).2 ∨ (r = .ocspVerify ∧ s.ocspFetch = true)
      ∨ (r = .ocspStatus ∧ s.statusFetch ≠ .none ∧ s.statusOverride.isSome = true) := by
  unfold importIng at h
  split at h
  · rename_i st t heq
    simp only [List.mem_append] at h
    rcases h with (h | h) | h
    · left; rw [heq]; exact h
    · right; left; exact verifyStore_mem h
    · right; right; exact statusDers_mem h
  all_goals (rename_i heq; left; rw [heq]; exact h)

theorem importIng_flags (s : Settings) (env : Env) (a : Asset) (p e : Bool) :
    (importIng s env a p e).1.explicitTs = e ∧ (importIng s env a p e).1.parent = p := by
  unfold importIng
  split <;> simp

theorem request_implies_enabled_import (s : Settings) (env : Env) (a : Asset) (p e tsa ex : Bool)
    (r : Req) (h : r ∈ (importIng s env a p e).2) : enabled ⟨s, tsa, ex⟩ r = true := by
  rcases importIng_mem h with hl | ⟨rfl, ho⟩ | ⟨rfl, h1, h2⟩
  · obtain ⟨u, rfl, hf, _⟩ := loadJumbf_mem hl
    exact hf
  · exact ho
  · simp [enabled, h1, h2]

theorem tsPhase_mem {s : Settings} {sg : Signer} {ings : List Ing} {r : Req}
    (h : r ∈ tsPhase s sg ings) :
    r = .tsaAssertion ∧ sg.tsa = true ∧ (s.autoTs = true ∨ ings.any (·.explicitTs) = true) := by
  unfold tsPhase timestampReqs at h
  split at h
  · rename_i ht
    split at h
    · cases h
    · rename_i hc
      obtain ⟨_, _, rfl⟩ := List.mem_map.1 h
      refine ⟨rfl, ht, ?_⟩
      cases h1 : s.autoTs <;> cases h2 : ings.any (·.explicitTs) <;> simp_all
  · cases h

theorem tsPhase_block (s : Settings) (sg : Signer) (ings : List Ing) :
    Block .tsaAssertion (tsPhase s sg ings ≠ []) (tsPhase s sg ings) :=
  ⟨fun _ h => (tsPhase_mem h).1, Iff.rfl⟩

/-- time-stamp assertion requests sent: none if an ingredient cannot be encoded, only the first
if the TSA fails -/
def sentTs (s : Settings) (env : Env) (sg : Signer) (ings : List Ing) : List Req :=
  if anyUnencodable ings = false then
    if env.tsa = .ok then tsPhase s sg ings else (tsPhase s sg ings).take 1
  else []

/-- the signer's own time-stamp request sent: one, unless the signer names no TSA, an ingredient
cannot be encoded, or a time-stamp assertion request before it failed -/
def sentSigner (s : Settings) (env : Env) (sg : Signer) (ings : List Ing) : List Req :=
  if sg.tsa = true ∧ anyUnencodable ings = false ∧ (tsPhase s sg ings = [] ∨ env.tsa = .ok)
  then [.tsaSigner] else []

/-- the requests of `verify_after_sign` sent: those of `afterSign`, when the signing was not aborted
before it (unencodable ingredient, failing TSA) -/
def sentVerify (s : Settings) (env : Env) (sg : Signer) (ings : List Ing) : List Req :=
  if anyUnencodable ings = false ∧ (sg.tsa = false ∨ env.tsa = .ok) then afterSign s env sg ings
  else []

theorem signFlow_trace (s : Settings) (env : Env) (sg : Signer) (ings : List Ing) :
    (signFlow s env sg ings).trace =
      sentTs s env sg ings ++ sentSigner s env sg ings ++ sentVerify s env sg ings := by
  unfold signFlow sentTs sentSigner sentVerify
  cases hu : anyUnencodable ings
  · cases ht : sg.tsa
    · have hp : tsPhase s sg ings = [] := by simp [tsPhase, ht]
      simp [hp, signerTs, ht]
    · by_cases hok : env.tsa = .ok
      · simp [hok, signerTs, ht]
      · by_cases hp : tsPhase s sg ings = [] <;> simp [hp, hok]
  · simp

theorem sentTs_block (s : Settings) (env : Env) (sg : Signer) (ings : List Ing) :
    Block .tsaAssertion (anyUnencodable ings = false ∧ tsPhase s sg ings ≠ []) (sentTs s env sg ings) := by
  refine Block.ite ?_
  split
  · exact tsPhase_block s sg ings
  · exact (tsPhase_block s sg ings).take_one

theorem sentSigner_block (s : Settings) (env : Env) (sg : Signer) (ings : List Ing) :
    Block .tsaSigner
      (sg.tsa = true ∧ anyUnencodable ings = false ∧ (tsPhase s sg ings = [] ∨ env.tsa = .ok))
      (sentSigner s env sg ings) :=
  (Block.replicate 1).ite.congr (by simp)

theorem sentVerify_block (s : Settings) (env : Env) (sg : Signer) (ings : List Ing) :
    Block .ocspVerify
      ((anyUnencodable ings = false ∧ (sg.tsa = false ∨ env.tsa = .ok)) ∧ s.verifyAfterSign = true ∧
        ∃ c ∈ sg.claim :: ings.flatMap Ing.claims, ocspCond s (sg.claim :: ings.flatMap Ing.claims) c)
      (sentVerify s env sg ings) :=
  (afterSign_block s env sg ings).ite

theorem signFlow_mem {s : Settings} {env : Env} {sg : Signer} {ings : List Ing} {r : Req}
    (h : r ∈ (signFlow s env sg ings).trace) :
    (r = .tsaAssertion ∧ sg.tsa = true ∧ (s.autoTs = true ∨ ings.any (·.explicitTs) = true))
      ∨ (r = .tsaSigner ∧ sg.tsa = true)
      ∨ (r = .ocspVerify ∧ s.ocspFetch = true ∧ s.verifyAfterSign = true) := by
  simp only [signFlow_trace, List.mem_append, or_assoc] at h
  refine h.imp (fun h => ?_) (Or.imp (fun h => ?_) fun h => ?_)
  · have ⟨e, _, hne⟩ := (sentTs_block ..).mem h
    obtain ⟨x, hx⟩ := List.exists_mem_of_ne_nil _ hne
    exact ⟨e, (tsPhase_mem hx).2⟩
  · exact ((sentSigner_block ..).mem h).imp_right And.left
  · have ⟨e, _, hv, _, _, ho, _⟩ := (sentVerify_block ..).mem h
    exact ⟨e, ho, hv⟩

theorem request_implies_enabled_sign (s : Settings) (env : Env) (sg : Signer) (ings : List Ing)
    (r : Req) (h : r ∈ (signFlow s env sg ings).trace) :
    enabled ⟨s, sg.tsa, ings.any (·.explicitTs)⟩ r = true := by
  rcases signFlow_mem h with ⟨rfl, h1, h2⟩ | ⟨rfl, h1⟩ | ⟨rfl, h1, _⟩
  · simp only [enabled, h1, Bool.true_and]
    rcases h2 with h2 | h2 <;> simp [h2]
  · exact h1
  · exact h1

theorem importAll_eq (s : Settings) (env : Env) : ∀ as : List (Asset × Bool × Bool),
    importAll s env as = (as.map fun x => (importIng s env x.1 x.2.1 x.2.2).1,
      as.flatMap fun x => (importIng s env x.1 x.2.1 x.2.2).2)
  | [] => rfl
  | (a, p, e) :: rest => by simp [importAll, importAll_eq s env rest]

theorem importAll_mem {s : Settings} {env : Env} {as : List (Asset × Bool × Bool)} {r : Req}
    (h : r ∈ (importAll s env as).2) : ∃ a p e, r ∈ (importIng s env a p e).2 := by
  rw [importAll_eq] at h
  obtain ⟨⟨a, p, e⟩, _, hr⟩ := List.mem_flatMap.1 h
  exact ⟨a, p, e, hr⟩

theorem importAll_explicit (s : Settings) (env : Env) (as : List (Asset × Bool × Bool)) :
    (importAll s env as).1.any (·.explicitTs) = as.any (fun x => x.2.2) := by
  simp [importAll_eq, List.any_map, Function.comp_def, importIng_flags]

/-! ### the property: every request is asked for -/

/-- The full statement, as a proposition about the model. -/
def NoRequestUnlessEnabled : Prop :=
  (∀ (s : Settings) (env : Env) (a : Asset) (tsa ex : Bool) (r : Req),
      r ∈ (read s env a).trace → enabled ⟨s, tsa, ex⟩ r = true)
  ∧ (∀ (s : Settings) (env : Env) (sg : Signer) (as : List (Asset × Bool × Bool)) (r : Req),
      r ∈ (importAndSign s env sg as).2.trace →
        enabled ⟨s, sg.tsa, as.any (fun x => x.2.2)⟩ r = true)

/-- **Every request in the trace of reading, of importing any number of ingredients and of
signing is enabled by its setting / the signer / the builder call.** -/
theorem request_implies_enabled : NoRequestUnlessEnabled := by
  refine ⟨request_implies_enabled_read, ?_⟩
  intro s env sg as r h
  unfold importAndSign at h
  simp only at h
  rcases List.mem_append.mp h with h | h
  · obtain ⟨a, p, e, hr⟩ := importAll_mem h
    exact request_implies_enabled_import s env a p e _ _ r hr
  · have := request_implies_enabled_sign s env sg (importAll s env as).1 r h
    rwa [importAll_explicit] at this

/-- With everything off (remote manifest fetch, OCSP fetch, certificate-status fetch, identity
assertion decoding, no TSA URL) no operation issues any request, whatever the assets reference. -/
theorem no_request_when_nothing_enabled (s : Settings) (env : Env) (sg : Signer)
    (as : List (Asset × Bool × Bool)) (a : Asset)
    (h1 : s.remoteFetch = false) (h2 : s.ocspFetch = false)
    (h3 : s.statusFetch = .none ∨ s.statusOverride = none) (h4 : sg.tsa = false)
    (h5 : s.decodeIdentity = false) :
    (read s env a).trace = [] ∧ (importAndSign s env sg as).2.trace = [] := by
  have nothing_enabled : ∀ r : Req, enabled ⟨s, sg.tsa, as.any (fun x => x.2.2)⟩ r = false := by
    intro r
    cases r <;> simp [enabled, h1, h2, h4, h5]
    -- left over: the certificate-status request, switched off by either half of `h3`
    · rcases h3 with h3 | h3 <;> simp [h3]
  have nil_of : ∀ l : List Req,
      (∀ r ∈ l, enabled ⟨s, sg.tsa, as.any (fun x => x.2.2)⟩ r = true) → l = [] := fun l h =>
    List.eq_nil_iff_forall_not_mem.mpr fun r hr => by
      have := h r hr
      rw [nothing_enabled r] at this
      cases this
  exact ⟨nil_of _ (request_implies_enabled.1 s env a _ _), nil_of _ (request_implies_enabled.2 s env sg as)⟩

/-- `http://h/m` -/
def urlEx : Url := ['h', 't', 't', 'p', ':', '/', '/', 'h', '/', 'm']

/-- non-vacuity: the hypotheses hold for a remote-only asset and a remote-only ingredient whose
claims name OCSP responders and did:web issuers, with the time-stamp assertion settings on -/
example :
    (read ⟨false, false, .all, none, true, true, .all, true, false⟩ ⟨.ok, .ok, .ok⟩
        ⟨.absent, some urlEx, [], true, true⟩).trace = []
      ∧ (importAndSign ⟨false, false, .all, none, true, true, .all, true, false⟩ ⟨.ok, .ok, .ok⟩
          ⟨false, 2, false, false, 0, true⟩
          [(⟨.absent, some urlEx, [⟨1, false, false, 0, false, false, false, 3⟩], true, true⟩, true, true)]).2.trace = [] :=
  no_request_when_nothing_enabled _ _ _ _ _ rfl rfl (Or.inr rfl) rfl rfl

/-! ### remote manifests -/

/-- **Remote-only asset whose reference `Store::is_valid_remote_url` accepts (`hv`), fetching
disabled: the error is `RemoteManifestUrl` and carries exactly the referenced URL; nothing is
requested.** (A reference it rejects gives `JumbfNotFound`.) -/
theorem remote_only_disabled_error_has_url (s : Settings) (env : Env) (a : Asset) (u : Url)
    (he : a.embedded = .absent) (hx : a.xmp = some u) (hv : validRef a u = true)
    (hf : s.remoteFetch = false) :
    read s env a = ⟨.error (.remoteManifestUrl u), []⟩ := by
  simp [read, loadJumbf, he, hx, hv, hf]

/-- The same asset imported as an ingredient: `manifest.inaccessible` with that URL, no request. -/
theorem remote_only_disabled_ingredient_has_url (s : Settings) (env : Env) (a : Asset) (u : Url)
    (p e : Bool) (he : a.embedded = .absent) (hx : a.xmp = some u)
    (hv : validRef a u = true) (hf : s.remoteFetch = false) :
    importIng s env a p e = (⟨.inaccessible (some u), p, e⟩, []) := by
  simp [importIng, loadJumbf, he, hx, hv, hf]

/-- the reference of the examples below, from its text -/
def ul (s : String) : Url := s.toList

example : classify urlEx = .valid := by decide +kernel
example : classify (ul "HTTPs://h") = .valid := by unfold ul; decide_run
example : classify (ul "ftp://h/m") = .invalid := by unfold ul; decide_run
example : classify (ul "m/x.c2pa") = .invalid := by unfold ul; decide_run
example : classify (ul "http://") = .invalid := by unfold ul; decide_run
-- forms `url::Url::parse` accepts although they do not look like `scheme://host/path`
example : classify (ul "http:/h/m") = .valid := by unfold ul; decide_run
example : classify (ul "http:h") = .valid := by unfold ul; decide_run
example : classify (ul " \thttp://h/m\n ") = .valid := by unfold ul; decide_run
example : classify (ul "ht\ttp:/\n/h/\rm") = .valid := by unfold ul; decide_run
example : classify (ul "http:\\\\h\\m") = .valid := by unfold ul; decide_run
example : classify (ul "http://u:p@h:00080/m") = .valid := by unfold ul; decide_run
example : classify (ul "http://0x7f.1/m") = .valid := by unfold ul; decide_run
-- and forms it rejects
example : classify (ul "http://h:65536/") = .invalid := by unfold ul; decide_run
example : classify (ul "http://a.1/") = .invalid := by unfold ul; decide_run
example : classify (ul "http://a b/") = .invalid := by unfold ul; decide_run
example : classify (ul "http://@/m") = .invalid := by unfold ul; decide_run
example : classify (ul "1http://h") = .invalid := by unfold ul; decide_run
-- left to the `url` crate (oracle input `refUrlCrate`)
example : classify (ul "http://[::1]/m") = .exoticHost := by unfold ul; decide_run
example : classify (ul "http://a%41/") = .exoticHost := by unfold ul; decide_run

/-- **Whatever the oracle input says, a reference that is accepted has scheme `http` or `https`
(compared case-insensitively, after the trimming and tab/newline removal of the WHATWG parser)
and a non-empty host-and-port.** In particular `validRef` is false of a relative reference, of
`ftp:`, `file:` …; and what `validRef` rejects is not requested (`manifest_request_iff`). -/
theorem valid_ref_has_http_scheme (a : Asset) (u : Url) (h : validRef a u = true) :
    ∃ s rest, splitScheme (cleaned u) = some (s, rest) ∧ (s = httpS ∨ s = httpsS)
      ∧ hostPort rest ≠ [] := by
  unfold validRef at h
  cases hs : splitScheme (cleaned u) with
  | none => simp [classify, hs] at h
  | some p =>
    obtain ⟨s, rest⟩ := p
    refine ⟨s, rest, rfl, ?_, fun hnil => ?_⟩
    · by_cases h1 : s = httpS
      · exact Or.inl h1
      · by_cases h2 : s = httpsS
        · exact Or.inr h2
        · simp [classify, hs, h1, h2] at h
    · simp [classify, hs, hnil] at h

/-- the oracle input is consulted for exotic hosts only -/
theorem valid_ref_oracle_free (a b : Asset) (u : Url) (h : classify u ≠ .exoticHost) :
    validRef a u = validRef b u := by
  unfold validRef
  cases hc : classify u <;> simp_all

/-- **An embedded manifest is preferred: with one present (or present but unreadable) no remote
manifest is requested**, whatever the XMP reference and the settings say. -/
theorem embedded_preferred (s : Settings) (env : Env) (a : Asset) (p e : Bool)
    (h : a.embedded ≠ .absent) (u : Url) :
    Req.manifest u ∉ (read s env a).trace ∧ Req.manifest u ∉ (importIng s env a p e).2 := by
  have nl : Req.manifest u ∉ (loadJumbf s env a).2 := fun hr =>
    have ⟨_, _, _, he, _⟩ := loadJumbf_mem hr
    h he
  constructor
  · intro hm
    rcases read_mem hm with hm | ⟨⟨⟩, _⟩ | ⟨⟨⟩, _⟩
    exact nl hm
  · intro hm
    rcases importIng_mem hm with hm | ⟨⟨⟩, _⟩ | ⟨⟨⟩, _⟩
    exact nl hm

/-- Exactly when a remote manifest is requested while reading, and for which URL. -/
theorem manifest_request_iff (s : Settings) (env : Env) (a : Asset) (u : Url) :
    Req.manifest u ∈ (read s env a).trace ↔
      a.embedded = .absent ∧ a.xmp = some u ∧ validRef a u = true ∧ s.remoteFetch = true
        ∧ a.refUriOk = true := by
  constructor
  · intro hm
    rcases read_mem hm with hm | ⟨⟨⟩, _⟩ | ⟨⟨⟩, _⟩
    obtain ⟨_, ⟨⟩, hf, he, hx, hv, hq⟩ := loadJumbf_mem hm
    exact ⟨he, hx, hv, hf, hq⟩
  · rintro ⟨he, hx, hv, hf, hq⟩
    cases hm : env.manifest <;> simp [read, loadJumbf, he, hx, hv, hf, hq, hm]

/-- A reference `http::Request::get` refuses is never requested: reading fails with `HttpError`
(when fetching is enabled) without any request. -/
theorem unbuildable_request_not_sent (s : Settings) (env : Env) (a : Asset) (u : Url)
    (he : a.embedded = .absent) (hx : a.xmp = some u) (hv : validRef a u = true)
    (hf : s.remoteFetch = true) (hq : a.refUriOk = false) :
    read s env a = ⟨.error .httpRequest, []⟩ := by
  simp [read, loadJumbf, he, hx, hv, hf, hq]

/-- At most one remote manifest request per read, and it comes first. -/
theorem read_trace_shape (s : Settings) (env : Env) (a : Asset) :
    ∃ pre post, (read s env a).trace = pre ++ post
      ∧ (pre = [] ∨ ∃ u, pre = [.manifest u] ∧ a.xmp = some u)
      ∧ ∀ r ∈ post, r = .ocspVerify ∨ r = .didWeb :=
  ⟨_, _, read_trace s env a,
    (loadJumbf_trace s env a).imp id fun ⟨u, e, hc⟩ => ⟨u, e, hc.2.2.1⟩,
    fun _ hr => (afterLoad_mem hr).imp And.left And.left⟩

/-- did:web documents are resolved only while reading with `core.decode_identity_assertions`;
importing an ingredient and signing never resolve one. -/
theorem identity_lookup_only_when_decoding (s : Settings) (env : Env) (sg : Signer) (a : Asset)
    (as : List (Asset × Bool × Bool)) :
    (Req.didWeb ∈ (read s env a).trace → s.decodeIdentity = true)
      ∧ Req.didWeb ∉ (importAndSign s env sg as).2.trace := by
  constructor
  · exact request_implies_enabled_read s env a false false _
  · intro h
    unfold importAndSign at h
    simp only at h
    rcases List.mem_append.mp h with h | h
    · obtain ⟨a', p, e, hr⟩ := importAll_mem h
      rcases importIng_mem hr with hl | ⟨⟨⟩, _⟩ | ⟨⟨⟩, _⟩
      obtain ⟨_, ⟨⟩, _⟩ := loadJumbf_mem hl
    · rcases signFlow_mem h with ⟨⟨⟩, _⟩ | ⟨⟨⟩, _⟩ | ⟨⟨⟩, _⟩

/-! ### OCSP -/

/-- A claim whose signature staples a usable OCSP response is never the reason for a fetch during
validation, whatever `verify.ocsp_fetch` says. -/
theorem stapled_never_fetched (s : Settings) (env : Env) (st : Store) (c : Claim)
    (h : c.stapled = true) (hu : c.stapledUsable = true) : checkOcsp s env st c = [] :=
  (checkOcsp_block s env st c).off fun ⟨_, _, hg, _⟩ => by simp [h, hu] at hg

/-- At most one request per OCSP responder named by the certificate, per validation of a claim. -/
theorem ocsp_requests_bounded (s : Settings) (env : Env) (st : Store) (c : Claim) :
    (checkOcsp s env st c).length ≤ c.responders := by
  rw [checkOcsp_eq]
  split
  · exact fetchOcsp_length_le env _ c
  · exact Nat.zero_le _

/-- Certificate-status responses held by the store replace the fetch when
`certificate_status_should_override` is on. -/
theorem status_override_suppresses_fetch (s : Settings) (env : Env) (st : Store) (c : Claim)
    (h1 : s.statusOverride = some true) (h2 : statusResp st c = true) :
    checkOcsp s env st c = [] :=
  (checkOcsp_block s env st c).off fun ⟨_, _, _, hg⟩ => by simp [h1, h2] at hg

example : statusResp [⟨1, false, false, 0, true, true, false, 0⟩, ⟨1, false, false, 0, false, false, false, 0⟩]
    ⟨1, false, false, 0, false, false, false, 0⟩ = true := by decide +kernel

/-- With fetching on, no usable stapled response and nothing overriding, all responders are tried as long as they
answer with a non-200 status (so the bound above is attained). -/
theorem ocsp_all_responders_tried (s : Settings) (st : Store) (c : Claim) (m t : Reply)
    (h1 : s.ocspFetch = true) (h2 : c.stapledUsable = false) (h3 : s.statusOverride.getD false = false) :
    checkOcsp s ⟨m, .notFound, t⟩ st c = List.replicate c.responders .ocspVerify := by
  simp [checkOcsp, fetchOcsp, h1, h2, h3]

/-! ### time stamps -/

/-- Without a TSA URL on the signer no time-stamp request of either kind is issued. -/
theorem no_tsa_url_no_timestamp_request (s : Settings) (env : Env) (sg : Signer)
    (as : List (Asset × Bool × Bool)) (h : sg.tsa = false) :
    Req.tsaAssertion ∉ (importAndSign s env sg as).2.trace
      ∧ Req.tsaSigner ∉ (importAndSign s env sg as).2.trace := by
  constructor <;> intro hm <;>
    (have := request_implies_enabled.2 s env sg as _ hm; simp [enabled, h] at this)

/-- **Every request of a signing goes through the resolver of the caller's `Context`, except the
signer's own time-stamp request, which is issued only when the signer names a TSA**; and there is
at most one such request per signing. -/
theorem only_signer_timestamp_leaves_context (s : Settings) (env : Env) (sg : Signer)
    (ings : List Ing) :
    (∀ r ∈ (signFlow s env sg ings).trace,
        r.channel = .context ∨ (r = .tsaSigner ∧ sg.tsa = true))
      ∧ ((signFlow s env sg ings).trace.filter (· == .tsaSigner)).length ≤ 1 := by
  constructor
  · intro r hr
    rcases signFlow_mem hr with ⟨h, _⟩ | h | ⟨h, _⟩
    · left; rw [h]; rfl
    · right; exact h
    · left; rw [h]; rfl
  · rw [signFlow_trace, List.filter_append, List.filter_append, (sentTs_block ..).filter_neg rfl,
      (sentVerify_block ..).filter_neg rfl, (sentSigner_block ..).filter_pos rfl]
    unfold sentSigner; split <;> simp

/-- Reading and importing ingredients use the resolver of the caller's `Context` for every
request. -/
theorem read_and_import_stay_in_context (s : Settings) (env : Env) (a : Asset) (p e : Bool) :
    (∀ r ∈ (read s env a).trace, r.channel = .context)
      ∧ (∀ r ∈ (importIng s env a p e).2, r.channel = .context) := by
  -- the only request outside the Context's channel is the signer's own time-stamp request, and
  -- that one is not enabled without a TSA URL
  constructor <;> intro r hr
  · have := request_implies_enabled_read s env a false false r hr
    cases r <;> first | rfl | cases this
  · have := request_implies_enabled_import s env a p e false false r hr
    cases r <;> first | rfl | cases this

/-- `cawg_x509_signer.local.tsa_url` has no influence on any request or result of signing
(`CawgX509IdentitySigner::from_settings` discards it). The statement is about a field the
decision functions do not read; its content is the differential run, which drives the real
settings-based signer with that URL set and unset. -/
theorem cawg_tsa_url_irrelevant (s : Settings) (env : Env) (sg : Signer)
    (as : List (Asset × Bool × Bool)) (b : Bool) :
    importAndSign s env { sg with cawgTsa := b } as = importAndSign s env sg as := rfl

/-! ### the inventory of request sites, regenerated from sdk/src -/

/-- Every row of `Gen.sinkSites` has a reviewed kind, and each of the four kinds that the requests of
the model have (`SiteKind.of`) occurs. (The look-up in `reviewedSinks` compares strings in the
kernel; the theorems below take both facts from here.) -/
theorem sinkSites_kinds :
    Gen.sinkSites.all (fun x => (siteKind? x.1 x.2.1).isSome) = true
      ∧ ∀ kd ∈ [SiteKind.remoteManifest, .ocsp, .timeStamp, .didWeb],
          Gen.sinkSites.any (fun x => siteKind? x.1 x.2.1 == some kd) = true := by
  decide +kernel

theorem all_contains_of_map {α β : Type} [BEq α] [LawfulBEq α] [BEq β] [LawfulBEq β] (f : α → β)
    (hf : ∀ a b, f a = f b → a = b) (l m : List α)
    (h : (l.map f).all (fun y => (m.map f).contains y) = true) :
    l.all (fun x => m.contains x) = true := by
  rw [List.all_eq_true] at h ⊢
  intro x hx
  have := h (f x) (List.mem_map_of_mem hx)
  rw [List.contains_iff_mem] at this ⊢
  obtain ⟨y, hy, e⟩ := List.mem_map.1 this
  exact hf y x e ▸ hy

def guardChars (x : String × Bool) : List Char × Bool := (x.1.toList, x.2)

theorem guardChars_inj (a b : String × Bool) (h : guardChars a = guardChars b) : a = b :=
  have ⟨h1, h2⟩ := Prod.mk.inj h
  Prod.ext (String.toList_injective h1) h2

/-- **Every place of sdk/src that reaches an HTTP transport is one of the reviewed sites; every
call path from such a site up to its guard is a reviewed one; every guard expression the model
relies on is present in the source.** (Evaluation over the tables of
`translators/c28_http_sites.py`.) -/
theorem call_site_inventory_closed :
    (Gen.sinkSites.all (fun x => (siteKind? x.1 x.2.1).isSome)) = true
      ∧ (Gen.callers.all (fun x => reviewedCallers.contains x)) = true
      ∧ (requiredGuards.all (fun g => Gen.guards.contains (g, true))) = true
      ∧ (Gen.guards.all (fun g => g.2)) = true := by
  refine ⟨sinkSites_kinds.1, by decide +kernel, ?_, by decide +kernel⟩
  -- The guard names are long, and the kernel's comparison of two `String`s costs their length
  -- every time: they are compared as character lists, each literal spelt out once.
  have h := all_contains_of_map guardChars guardChars_inj (requiredGuards.map (·, true)) Gen.guards
    (by unfold requiredGuards Gen.guards
        simp only [List.map_cons, List.map_nil, guardChars]
        decide_run)
  rw [List.all_map] at h
  exact h

/-- Every request kind of the model is issued by a site that exists in the source, and every
inventoried site is either of a kind no modelled operation reaches (`unmodelledKinds`: the remote
signer, the construction of the default transports) or the issuing site of some request kind of
the model (so a site of a new kind cannot be reviewed into `reviewedSinks` without a request kind
that accounts for it). -/
theorem model_requests_match_sites :
    (∀ k : ReqKind, Gen.sinkSites.any (fun x => siteKind? x.1 x.2.1 == some (SiteKind.of k)) = true)
      ∧ (Gen.sinkSites.all (fun x =>
          match siteKind? x.1 x.2.1 with
          | some kd => unmodelledKinds.contains kd || allReqKinds.any (fun k => SiteKind.of k == kd)
          | none => false)) = true
      ∧ (∀ k : ReqKind, k ∈ allReqKinds) := by
  refine ⟨fun k => sinkSites_kinds.2 _ (by cases k <;> decide), ?_, fun k => by cases k <;> decide⟩
  -- a row's kind is one of the six site kinds, and each of those is unmodelled or some `SiteKind.of k`
  refine List.all_eq_true.2 fun x hx => ?_
  have hsome := List.all_eq_true.1 sinkSites_kinds.1 x hx
  cases hk : siteKind? x.1 x.2.1 with
  | none => rw [hk] at hsome; cases hsome
  | some kd => cases kd <;> rfl

/-- **The places that decide the OCSP fetch policy or hand a time-stamp request to the signer
are exactly the reviewed ones** (regenerated from sdk/src on every run): a new caller of
`check_ocsp_status`, a new use of `OcspFetchPolicy::FetchAllowed`, a new caller of
`send_timestamp_request` / `send_time_stamp_request` changes this obligation. -/
theorem policy_sites_closed :
    (Gen.policySites.all (fun x => reviewedPolicySites.contains x)) = true
      ∧ (reviewedPolicySites.all (fun x => Gen.policySites.contains x)) = true := by
  decide +kernel

/-- `OcspFetchPolicy::FetchAllowed` is named only inside `crypto/cose/ocsp.rs::check_ocsp_status`
(the `match` on the policy) and in `claim.rs::check_ocsp_status`, where the guard
`claim::check_ocsp_status:policy-from-ocsp_fetch` shows it is chosen by `verify.ocsp_fetch`; and
the guard `store.rs:check_ocsp_status-is-the-claim-level-wrapper` (the translator's test that store.rs
calls that wrapper) is present. -/
theorem fetch_allowed_sites_closed :
    (Gen.policySites.all (fun x =>
        x.1 != "OcspFetchPolicy::FetchAllowed"
          || x.2 == ("crypto/cose/ocsp.rs", "check_ocsp_status")
          || x.2 == ("claim.rs", "check_ocsp_status"))) = true
      ∧ Gen.guards.contains ("claim::check_ocsp_status:policy-from-ocsp_fetch", true) = true
      ∧ Gen.guards.contains ("store.rs:check_ocsp_status-is-the-claim-level-wrapper", true) = true := by
  -- the two guards are the fourth and the last of `requiredGuards`, all of which are present
  have hg := List.all_eq_true.1 call_site_inventory_closed.2.2.1
  exact ⟨by decide +kernel,
    hg _ (List.mem_of_getElem? (i := 3) rfl), hg _ (List.mem_of_getElem? (i := 13) rfl)⟩

/-- **The table facts from which the trait-default `send_time_stamp_request` (a request on a fresh
`Context::new()`, crypto/time_stamp/provider.rs) is read as unreachable with a service URL inside the
SDK**: every `impl (Async)TimeStampProvider` is a reviewed one, and each implementor that names a
service URL (`time_stamp_service_url`) also replaces `send_time_stamp_request`. In particular the row
of the CAWG X.509 identity signature (`RawSignerCoseSigner`) overrides nothing: it names no service. -/
theorem ts_provider_default_unreachable :
    (Gen.tsProviders.all (fun x => reviewedTsProviders.contains x)) = true
      ∧ (Gen.tsProviders.all (fun x =>
          !x.2.2.contains "time_stamp_service_url" || x.2.2.contains "send_time_stamp_request")) = true
      ∧ Gen.tsProviders.contains ("crypto/cose/cose_signer.rs", "RawSignerCoseSigner", []) = true := by
  decide +kernel

/-! ### gate independence: a setting influences only its own kind of request -/

theorem verifyStore_off (s : Settings) (env : Env) (st : Store) :
    verifyStore { s with ocspFetch := false } env st = [] :=
  (verifyStore_block _ env st).off fun ⟨_, _, h, _⟩ => nomatch h

theorem read_filter (s s' : Settings) (env : Env) (a : Asset) (p : Req → Bool)
    (hp : ∀ u, p (.manifest u) = true) (hl : loadJumbf s' env a = loadJumbf s env a)
    (ha : ∀ st, afterLoad s' env (.ok st) = (afterLoad s env (.ok st)).filter p) :
    (read s' env a).trace = (read s env a).trace.filter p
      ∧ (read s' env a).result = (read s env a).result := by
  refine ⟨?_, by rw [read_result, read_result, hl]⟩
  rw [read_trace, read_trace, hl, List.filter_append, loadJumbf_trace_filter s env a p hp]
  congr 1
  cases (loadJumbf s env a).1 with
  | error e => rfl
  | ok st => exact ha st

/-- **Switching `verify.ocsp_fetch` off removes exactly the OCSP requests of a read** and changes
nothing else: not the result, not the other requests, not their order. -/
theorem ocsp_gate_independent (s : Settings) (env : Env) (a : Asset) :
    (read { s with ocspFetch := false } env a).trace
        = (read s env a).trace.filter (· != .ocspVerify)
      ∧ (read { s with ocspFetch := false } env a).result = (read s env a).result := by
  refine read_filter s _ env a _ (fun _ => rfl) rfl fun st => ?_
  simp only [afterLoad, verifyStore_off, List.filter_append,
    (verifyStore_block s env st).filter_neg (p := (· != .ocspVerify)) rfl,
    (identityReqs_block s st).filter_pos (p := (· != .ocspVerify)) rfl]
  rfl

theorem identityReqs_off (s : Settings) (st : Store) :
    identityReqs { s with decodeIdentity := false } st = [] :=
  (identityReqs_block _ st).off fun h => nomatch h.1

/-- **Switching `core.decode_identity_assertions` off removes exactly the did:web resolutions of
a read** and changes nothing else. -/
theorem identity_gate_independent (s : Settings) (env : Env) (a : Asset) :
    (read { s with decodeIdentity := false } env a).trace
        = (read s env a).trace.filter (· != .didWeb)
      ∧ (read { s with decodeIdentity := false } env a).result = (read s env a).result := by
  refine read_filter s _ env a _ (fun _ => rfl) rfl fun st => ?_
  simp only [afterLoad, identityReqs_off, List.filter_append,
    (identityReqs_block s st).filter_neg (p := (· != .didWeb)) rfl,
    (verifyStore_block s env st).filter_pos (p := (· != .didWeb)) rfl]
  rfl

/-- **`verify.remote_manifest_fetch` matters only for an asset without embedded manifest.**
The analogous form (`trace.filter (· is not a manifest request)`) is *not* provable and not true
of the code: with fetching off a remote-only asset is not loaded at all, so the OCSP and did:web
requests that validating the fetched store would cause disappear together with the manifest
request. What holds: with an embedded manifest (readable or not) the setting changes nothing at
all; without one, switching it off leaves no request of any kind. -/
theorem remote_gate_independent (s : Settings) (env : Env) (a : Asset) (b : Bool) :
    (a.embedded ≠ .absent → read { s with remoteFetch := b } env a = read s env a)
      ∧ (a.embedded = .absent → (read { s with remoteFetch := false } env a).trace = []) := by
  constructor
  · intro he
    have hl : loadJumbf { s with remoteFetch := b } env a = loadJumbf s env a := by
      unfold loadJumbf
      cases hemb : a.embedded with
      | absent => exact absurd hemb he
      | store st => rfl
      | broken => rfl
    unfold read
    rw [hl]
    rfl
  · intro he
    have : ∃ e, loadJumbf { s with remoteFetch := false } env a = (.error e, []) := by
      unfold loadJumbf
      rw [he]
      cases a.xmp with
      | none => exact ⟨_, rfl⟩
      | some u => dsimp only; cases validRef a u <;> exact ⟨_, rfl⟩
    obtain ⟨e, h⟩ := this
    simp only [read, h]

/-- Of the settings the time-stamp selection reads the scope and `skip_existing` only. (No `rfl`
for `tsClaims`: it recurses on the list of ingredients.) -/
theorem tsSelected_congr (s s' : Settings) (seen : Bool) (i : Ing)
    (h1 : s.tsScope = s'.tsScope) (h2 : s.tsSkipExisting = s'.tsSkipExisting) :
    tsSelected s seen i = tsSelected s' seen i := by
  unfold tsSelected
  rw [h1, h2]

theorem tsClaims_congr (s s' : Settings)
    (h1 : s.tsScope = s'.tsScope) (h2 : s.tsSkipExisting = s'.tsSkipExisting) :
    ∀ (seen : Bool) (ings : List Ing), tsClaims s seen ings = tsClaims s' seen ings
  | _, [] => rfl
  | seen, i :: is => by
    simp only [tsClaims]
    rw [tsSelected_congr s s' seen i h1 h2, tsClaims_congr s s' h1 h2 (seen || i.parent) is]

theorem tsPhase_ocsp_off (s : Settings) (sg : Signer) (ings : List Ing) :
    tsPhase { s with ocspFetch := false } sg ings = tsPhase s sg ings := by
  unfold tsPhase timestampReqs
  rw [tsClaims_congr { s with ocspFetch := false } s rfl rfl]

theorem signFlow_result (s s' : Settings) (env : Env) (sg : Signer) (ings : List Ing)
    (h : tsPhase s' sg ings = tsPhase s sg ings) :
    (signFlow s' env sg ings).result = (signFlow s env sg ings).result := by
  unfold signFlow
  rw [h]
  split
  · rfl
  · split
    · rfl
    · split <;> rfl

/-- **Switching `verify.ocsp_fetch` off removes exactly the OCSP requests of a signing** (those
of `verify_after_sign`) and changes neither the result nor the time-stamp requests. -/
theorem ocsp_gate_independent_sign (s : Settings) (env : Env) (sg : Signer) (ings : List Ing) :
    (signFlow { s with ocspFetch := false } env sg ings).trace
        = (signFlow s env sg ings).trace.filter (· != .ocspVerify)
      ∧ (signFlow { s with ocspFetch := false } env sg ings).result
        = (signFlow s env sg ings).result := by
  refine ⟨?_, signFlow_result _ _ env sg ings (tsPhase_ocsp_off s sg ings)⟩
  have hv : sentVerify { s with ocspFetch := false } env sg ings = [] :=
    (sentVerify_block ..).off fun ⟨_, _, _, _, h, _⟩ => nomatch h
  rw [signFlow_trace, signFlow_trace, hv, List.filter_append, List.filter_append,
    (sentTs_block ..).filter_pos rfl, (sentSigner_block ..).filter_pos rfl,
    (sentVerify_block ..).filter_neg rfl]
  unfold sentTs sentSigner
  rw [tsPhase_ocsp_off]

/-- **Without a TSA URL on the signer exactly the two kinds of time-stamp request disappear**,
provided the TSA answers. (Without that proviso the statement is false for model and code alike:
a TSA that fails aborts the signing, so the OCSP requests of `verify_after_sign` that follow a
successful signing are absent from the run with a TSA URL.) -/
theorem tsa_gate_independent (s : Settings) (env : Env) (sg : Signer) (ings : List Ing)
    (hok : env.tsa = .ok) :
    (signFlow s env { sg with tsa := false } ings).trace
      = (signFlow s env sg ings).trace.filter (fun r => r != .tsaAssertion && r != .tsaSigner) := by
  rw [signFlow_trace, signFlow_trace, List.filter_append, List.filter_append,
    (sentTs_block ..).filter_neg rfl, (sentSigner_block ..).filter_neg rfl,
    (sentVerify_block ..).filter_pos rfl,
    (sentTs_block s env { sg with tsa := false } ings).off fun h => h.2 rfl,
    (sentSigner_block s env { sg with tsa := false } ings).off fun h => nomatch h.1]
  simp [sentVerify, hok, afterSign, Signer.claim]

/-! ### converse statements: exactly when each kind of request occurs -/

/-- **Exactly when validating a claim queries an OCSP responder**: fetching is on, the
certificate names a responder, no usable stapled response, no overriding certificate-status
response. -/
theorem ocsp_check_iff (s : Settings) (env : Env) (st : Store) (c : Claim) :
    Req.ocspVerify ∈ checkOcsp s env st c ↔
      s.ocspFetch = true ∧ c.responders ≠ 0 ∧ (c.stapled && c.stapledUsable) = false
        ∧ (s.statusOverride.getD false && statusResp st c) = false :=
  (checkOcsp_block s env st c).mem_iff

theorem mem_read_iff (s : Settings) (env : Env) (a : Asset) {r : Req} (hr : ∀ u, r ≠ .manifest u) :
    r ∈ (read s env a).trace ↔
      ∃ st, (loadJumbf s env a).1 = .ok st ∧ (r ∈ verifyStore s env st ∨ r ∈ identityReqs s st) := by
  have hno : r ∉ (loadJumbf s env a).2 := fun h =>
    have ⟨u, hu, _⟩ := loadJumbf_mem h
    hr u hu
  rw [read_trace, List.mem_append, or_iff_right hno]
  cases (loadJumbf s env a).1 <;> simp [afterLoad]

/-- **Exactly when a read queries an OCSP responder**: a manifest store is loaded (embedded, or
fetched) and one of its claims meets `ocspCond`, the conditions of `ocsp_check_iff`. -/
theorem ocsp_request_iff (s : Settings) (env : Env) (a : Asset) :
    Req.ocspVerify ∈ (read s env a).trace ↔
      ∃ st, (loadJumbf s env a).1 = .ok st ∧ ∃ c ∈ st, ocspCond s st c := by
  simp only [mem_read_iff s env a (r := .ocspVerify) fun _ => nofun,
    (identityReqs_block s _).not_mem (r := .ocspVerify) nofun, or_false,
    (verifyStore_block s env _).mem_iff]

/-- **Exactly when a read resolves a did:web document**: identity decoding is on, a manifest
store is loaded and one of its claims carries an identity assertion with a did:web issuer. -/
theorem didweb_request_iff (s : Settings) (env : Env) (a : Asset) :
    Req.didWeb ∈ (read s env a).trace ↔
      s.decodeIdentity = true ∧ ∃ st, (loadJumbf s env a).1 = .ok st ∧ ∃ c ∈ st, c.didWeb ≠ 0 := by
  simp only [mem_read_iff s env a (r := .didWeb) fun _ => nofun,
    (verifyStore_block s env _).not_mem (r := .didWeb) nofun, false_or,
    (identityReqs_block s _).mem_iff, exists_and_left, and_left_comm]

/-- **Exactly when the signer's own time-stamp request is sent**: the signer names a TSA, every
ingredient can be encoded, and no earlier time-stamp assertion request has failed. -/
theorem tsa_signer_request_iff (s : Settings) (env : Env) (sg : Signer) (ings : List Ing) :
    Req.tsaSigner ∈ (signFlow s env sg ings).trace ↔
      sg.tsa = true ∧ anyUnencodable ings = false
        ∧ (tsPhase s sg ings = [] ∨ env.tsa = .ok) := by
  simp only [signFlow_trace, List.mem_append, (sentSigner_block s env sg ings).mem_iff,
    (sentTs_block s env sg ings).not_mem (r := .tsaSigner) nofun,
    (sentVerify_block s env sg ings).not_mem (r := .tsaSigner) nofun, false_or, or_false]

/-- **A time-stamp assertion request is sent while signing exactly when** every ingredient can
be encoded and the list `tsPhase` of these requests is non-empty (it is empty without a TSA URL on
the signer: `tsPhase_mem`); which claims `maybe_add_timestamp` selects (`tsClaims`) is not
characterised here. -/
theorem tsa_assertion_request_iff (s : Settings) (env : Env) (sg : Signer) (ings : List Ing) :
    Req.tsaAssertion ∈ (signFlow s env sg ings).trace ↔
      anyUnencodable ings = false ∧ tsPhase s sg ings ≠ [] := by
  simp only [signFlow_trace, List.mem_append, (sentTs_block s env sg ings).mem_iff,
    (sentSigner_block s env sg ings).not_mem (r := .tsaAssertion) nofun,
    (sentVerify_block s env sg ings).not_mem (r := .tsaAssertion) nofun, or_false]

/-! ### non-vacuity: with the settings on, the requests do occur -/

def sOn : Settings := ⟨true, true, .all, some false, true, true, .all, true, true⟩
def envNf : Env := ⟨.ok, .notFound, .ok⟩
def remOnly : Asset := ⟨.absent, some urlEx, [⟨2, false, false, 1, false, false, false, 1⟩], true, true⟩

example : (read sOn envNf remOnly).trace = [.manifest urlEx, .ocspVerify, .ocspVerify, .didWeb] := by
  decide +kernel
example : (importAndSign sOn envNf ⟨true, 1, false, false, 0, false⟩ [(remOnly, true, false)]).2.trace
    = [.manifest urlEx, .ocspVerify, .ocspVerify, .ocspStatus, .ocspStatus,
       .tsaAssertion, .tsaSigner, .ocspVerify, .ocspVerify, .ocspVerify] := by
  decide +kernel
example : read { sOn with remoteFetch := false } envNf remOnly
    = ⟨.error (.remoteManifestUrl urlEx), []⟩ := by decide +kernel

example : read { sOn with remoteFetch := true } envNf { remOnly with refUriOk := false }
    = ⟨.error .httpRequest, []⟩ := by decide +kernel

-- the right-hand sides of `ocsp_check_iff` and `tsa_signer_request_iff` can hold
example : ocspCond sOn [⟨2, false, false, 1, false, false, false, 1⟩] ⟨2, false, false, 1, false, false, false, 1⟩ := by
  unfold ocspCond; decide
example : Req.tsaSigner ∈ (signFlow sOn envNf ⟨true, 1, false, false, 0, false⟩ []).trace := by
  decide +kernel

end C2pa.C28
