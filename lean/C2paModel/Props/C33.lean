import C2paModel.Model.C33
import C2paModel.Props.C04
import C2paModel.Lemmas.C33State
import C2paModel.Lemmas.C33Url
import C2paModel.Lemmas.DecideRun
/-
C33 — property theorems. The statement (properties.jsonl):

  An X.509 identity assertion created by the SDK validates, and any change to a referenced
  assertion, to the signer payload, to the identity signature or to its padding is reported with a
  cawg failure code. CAWG failures never make the C2PA manifest itself Invalid.

All theorems quantify over every identity assertion record (any references, pads, signature
facts), every claim assertion list, every validation-results value the reader already holds
(`base`: any active manifest codes, any ingredient deltas) and every place the assertion can sit
(`uri = none`: active manifest; `some u`: the manifest of ingredient `u`).

Lemmas/C33Url.lean (the URL strip of `checkRefs`: `stripAbs_prefix`,
`urlMatches_ignores_manifest_label`) stands on its own: nothing below is proved from it; it is
imported so that it is built with this module.
-/
namespace C2pa.C33

open C2pa.C04 (Code Kind)

def IsCawgFailure (e : Entry) : Prop := e.2 = .failure ∧ "cawg.".toList.isPrefixOf e.1 = true

theorem failE_cawg (c : Code) (h : "cawg.".toList.isPrefixOf c = true) : IsCawgFailure (failE c) :=
  ⟨rfl, h⟩

/-! Facts about the code constants and the two generated tables are closed evaluations
(`decide_run`); the definitions that hold the string literals are unfolded first, so that the
literals are in the goal when `decide_run` spells them as character lists. -/

theorem identity_codes : ∀ c ∈ [cPad, cMismatch, cDuplicate, cHardBinding],
    "cawg.".toList.isPrefixOf c = true ∧ C04.tolerated c = false := by
  delta cPad cMismatch cDuplicate cHardBinding C04.tolerated C04.cUntrusted C04.cawgX509Prefix
  decide_run

theorem mismatch_not_tolerated : C04.tolerated cMismatch = false := (identity_codes _ (by simp)).2
theorem duplicate_not_tolerated : C04.tolerated cDuplicate = false := (identity_codes _ (by simp)).2
theorem hardbinding_not_tolerated : C04.tolerated cHardBinding = false :=
  (identity_codes _ (by simp)).2

theorem sigMismatch_prefixes : "cawg.".toList.isPrefixOf cSigMismatch = true ∧
    C04.cawgX509Prefix.isPrefixOf cSigMismatch = true := by
  delta cSigMismatch C04.cawgX509Prefix
  decide_run

/-- A reference is *bound* when the claim lists an assertion with that URL (possibly in absolute
form) — the first such entry — with the same hash. -/
def RefBound (claim : List HUri) (r : HUri) : Prop :=
  ∃ a, claim.find? (fun a => urlMatches a.url r.url) = some a ∧ a.hash = r.hash

theorem checkRefs_cons_bound (claim : List HUri) (r : HUri) (rest : List HUri) (log : List Entry)
    (h : RefBound claim r) : checkRefs claim (r :: rest) log = checkRefs claim rest log := by
  obtain ⟨a, hf, heq⟩ := h
  simp only [checkRefs, hf, heq, bne_self_eq_false, Bool.false_eq_true, if_false]

/-- At an unbound reference the scan logs `cawg.identity.assertion.mismatch` and stops (hash
differs) or goes on (not found). -/
theorem checkRefs_cons_unbound (claim : List HUri) (r : HUri) (rest : List HUri) (log : List Entry)
    (h : ¬ RefBound claim r) :
    checkRefs claim (r :: rest) log = (none, log ++ [failE cMismatch]) ∨
    checkRefs claim (r :: rest) log = checkRefs claim rest (log ++ [failE cMismatch]) := by
  cases hf : claim.find? (fun a => urlMatches a.url r.url) with
  | none => simp only [checkRefs, hf, or_true]
  | some a =>
    have hne : (a.hash != r.hash) = true := by
      simpa using fun heq => h ⟨a, hf, heq⟩
    simp only [checkRefs, hf, hne, if_true, true_or]

theorem checkRefs_all_bound (claim : List HUri) :
    ∀ (rs : List HUri) (lg : List Entry), (∀ r ∈ rs, RefBound claim r) →
      checkRefs claim rs lg = (some (), lg) := by
  intro rs
  induction rs with
  | nil => intro lg _; rfl
  | cons r rest ih =>
    intro lg hbr
    rw [checkRefs_cons_bound claim r rest lg (hbr r (List.mem_cons_self ..))]
    exact ih lg (fun x hx => hbr x (List.mem_cons_of_mem _ hx))

theorem checkRefs_mono (claim : List HUri) :
    ∀ (refs : List HUri) (log : List Entry) (e : Entry), e ∈ log → e ∈ (checkRefs claim refs log).2 := by
  intro refs
  induction refs with
  | nil => intro log e h; exact h
  | cons r rest ih =>
    intro log e h
    by_cases hb : RefBound claim r
    · rw [checkRefs_cons_bound claim r rest log hb]; exact ih log e h
    · rcases checkRefs_cons_unbound claim r rest log hb with hs | hs <;> rw [hs]
      · exact List.mem_append_left _ h
      · exact ih _ e (List.mem_append_left _ h)

/-- **Any referenced assertion that is missing from the claim or whose hash differs is reported**
with `cawg.identity.assertion.mismatch`, provided the scan reaches it (an earlier hash mismatch
ends the scan — and is itself reported). -/
theorem unbound_ref_reported (claim : List HUri) :
    ∀ (refs : List HUri) (log : List Entry),
      (∃ r ∈ refs, ¬ RefBound claim r) → failE cMismatch ∈ (checkRefs claim refs log).2 := by
  intro refs
  induction refs with
  | nil => intro _ h; obtain ⟨r, hr, _⟩ := h; cases hr
  | cons r rest ih =>
    intro log h
    have hm : failE cMismatch ∈ log ++ [failE cMismatch] :=
      List.mem_append_right _ (List.mem_singleton_self _)
    by_cases hb : RefBound claim r
    · rw [checkRefs_cons_bound claim r rest log hb]
      obtain ⟨x, hx, hnb⟩ := h
      rcases List.mem_cons.1 hx with rfl | hx'
      · exact absurd hb hnb
      · exact ih log ⟨x, hx', hnb⟩
    · rcases checkRefs_cons_unbound claim r rest log hb with hs | hs <;> rw [hs]
      · exact hm
      · exact checkRefs_mono claim rest _ _ hm

theorem checkRefs_ok_all_bound (claim : List HUri) :
    ∀ (refs : List HUri) (log : List Entry),
      (checkRefs claim refs log).1 = some () → failE cMismatch ∉ (checkRefs claim refs log).2 →
      ∀ r ∈ refs, RefBound claim r := by
  intro refs log _ hno r hr
  apply Classical.byContradiction
  intro hnb
  exact hno (unbound_ref_reported claim refs log ⟨r, hr, hnb⟩)

theorem dupLog_reports (urls : List (List Char)) :
    ∀ (seen : List (List Char)), (¬ urls.Nodup ∨ ∃ u ∈ urls, u ∈ seen) →
      failE cDuplicate ∈ dupLog urls seen := by
  induction urls with
  | nil => intro _ h; rcases h with h | ⟨u, hu, _⟩; exact absurd List.nodup_nil h; cases hu
  | cons a rest ih =>
    intro seen h
    by_cases hc : a ∈ seen
    · simp [dupLog, hc]
    · simp only [dupLog, List.contains_iff_mem, hc, if_false]
      apply ih (a :: seen)
      rcases h with h | ⟨u, hu, hs⟩
      · by_cases ha : a ∈ rest
        · exact Or.inr ⟨a, ha, List.mem_cons_self ..⟩
        · exact Or.inl fun hn => h (List.nodup_cons.2 ⟨ha, hn⟩)
      · rcases List.mem_cons.1 hu with rfl | hu'
        · exact absurd hs hc
        · exact Or.inr ⟨u, hu', List.mem_cons_of_mem _ hs⟩

theorem dupLog_nodup (urls : List (List Char)) :
    ∀ (seen : List (List Char)), urls.Nodup → (∀ u ∈ urls, u ∉ seen) → dupLog urls seen = [] := by
  induction urls with
  | nil => intro _ _ _; rfl
  | cons a rest ih =>
    intro seen hn hs
    have ha : a ∉ seen := hs a (List.mem_cons_self ..)
    have hnd := List.nodup_cons.1 hn
    simp only [dupLog, List.contains_iff_mem, ha, if_false]
    apply ih (a :: seen) hnd.2
    intro u hu hmem
    cases hmem with
    | head => exact hnd.1 hu
    | tail _ h => exact hs u (List.mem_cons_of_mem _ hu) h

theorem checkAgainstClaim_all_bound (refs claim : List HUri) (hb : ∀ r ∈ refs, RefBound claim r) :
    checkAgainstClaim refs claim = (true,
      (if !(refs.any fun r => isHardBindingRef r.url) then [failE cHardBinding] else [])
        ++ dupLog (refs.map (·.url)) []) := by
  unfold checkAgainstClaim
  rw [checkRefs_all_bound claim refs [] hb]
  rfl

theorem checkAgainstClaim_intact (refs claim : List HUri) (hb : ∀ r ∈ refs, RefBound claim r)
    (hh : ∃ r ∈ refs, isHardBindingRef r.url = true) (hd : (refs.map (·.url)).Nodup) :
    checkAgainstClaim refs claim = (true, []) := by
  rw [checkAgainstClaim_all_bound refs claim hb, List.any_eq_true.2 hh,
    dupLog_nodup _ [] hd (by intro u _ h; cases h)]
  rfl

theorem checkAgainstClaim_stopped (refs claim : List HUri)
    (h : (checkAgainstClaim refs claim).1 = false) : ∃ r ∈ refs, ¬ RefBound claim r := by
  apply Classical.byContradiction
  intro hn
  rw [checkAgainstClaim_all_bound refs claim
    fun r hr => Classical.byContradiction fun hb => hn ⟨r, hr, hb⟩] at h
  cases h

theorem checkAgainstClaim_keeps_checkRefs (refs claim : List HUri) (e : Entry)
    (h : e ∈ (checkRefs claim refs []).2) : e ∈ (checkAgainstClaim refs claim).2 := by
  unfold checkAgainstClaim
  cases hc : checkRefs claim refs [] with
  | mk res log =>
    rw [hc] at h
    cases res
    · exact h
    · exact List.mem_append_left _ (List.mem_append_left _ h)

/-- Whenever `check_against_partial_claim` is given references
of which one is missing from the claim, one has another hash than the claim's, one URL is
repeated, or none is a hard binding (`c2pa.hash.*`), a `cawg.*` failure is logged. -/
theorem identity_binds_references (refs claim : List HUri)
    (h : (∃ r ∈ refs, ¬ RefBound claim r) ∨ ¬ (refs.map (·.url)).Nodup ∨
      (∀ r ∈ refs, isHardBindingRef r.url = false)) :
    ∃ e ∈ (checkAgainstClaim refs claim).2, IsCawgFailure e := by
  by_cases hu : ∃ r ∈ refs, ¬ RefBound claim r
  · exact ⟨_, checkAgainstClaim_keeps_checkRefs _ _ _ (unbound_ref_reported claim refs [] hu),
      failE_cawg cMismatch (identity_codes _ (by simp)).1⟩
  · rw [checkAgainstClaim_all_bound refs claim
      fun r hr => Classical.byContradiction fun hb => hu ⟨r, hr, hb⟩]
    rcases h with h | h | h
    · exact absurd h hu
    · exact ⟨_, List.mem_append_right _ (dupLog_reports _ [] (Or.inl h)),
        failE_cawg cDuplicate (identity_codes _ (by simp)).1⟩
    · have hany : (refs.any fun r => isHardBindingRef r.url) = false :=
        List.any_eq_false.2 fun r hr => by simp [h r hr]
      rw [hany]
      exact ⟨_, List.mem_append_left _ (List.mem_singleton_self _),
        failE_cawg cHardBinding (identity_codes _ (by simp)).1⟩

/-- The test of `check_padding`, `!p.all (· == 0)`, says that some byte is not zero. -/
theorem not_all_zero (p : List Nat) : (!p.all (· == 0)) = true ↔ ∃ b ∈ p, b ≠ 0 := by
  simp

theorem padLog_zero (pad1 : List Nat) (pad2 : Option (List Nat)) (hp1 : ∀ b ∈ pad1, b = 0)
    (hp2 : ∀ p, pad2 = some p → ∀ b ∈ p, b = 0) : padLog pad1 pad2 = [] := by
  unfold padLog
  rw [if_neg (mt (not_all_zero _).1 fun ⟨b, hb, hne⟩ => hne (hp1 b hb))]
  cases pad2 with
  | none => rfl
  | some p => exact if_neg (mt (not_all_zero _).1 fun ⟨b, hb, hne⟩ => hne (hp2 p rfl b hb))

theorem padLog_changed (pad1 : List Nat) (pad2 : Option (List Nat))
    (h : (∃ b ∈ pad1, b ≠ 0) ∨ ((∀ b ∈ pad1, b = 0) ∧ ∃ p, pad2 = some p ∧ ∃ b ∈ p, b ≠ 0)) :
    padLog pad1 pad2 = [failE cPad] := by
  unfold padLog
  rcases h with h | ⟨h1, p, rfl, h2⟩
  · exact if_pos ((not_all_zero _).2 h)
  · rw [if_neg (mt (not_all_zero _).1 fun ⟨b, hb, hne⟩ => hne (h1 b hb))]
    exact if_pos ((not_all_zero _).2 h2)

/-! The two equations of `validate`; their hypotheses are complementary. -/

theorem validate_x509 (ia : Identity) (claim : List HUri)
    (hc : (checkAgainstClaim ia.refs claim).1 = true) (ht : ia.sigType = .x509) :
    validate ia claim = (decide (ia.sig.outcome = .verified),
      padLog ia.pad1 ia.pad2 ++ (checkAgainstClaim ia.refs claim).2 ++ remapLog (guardScopeLog ia.sig)
        ++ if ia.sig.outcome = .verified then [succ cSigValidated, succ cWellFormed] else []) := by
  unfold validate
  cases hcc : checkAgainstClaim ia.refs claim with
  | mk ok l =>
    rw [hcc] at hc
    cases hc
    simp only [ht]
    cases ia.sig.outcome <;> simp

theorem validate_stopped (ia : Identity) (claim : List HUri)
    (h : ¬ ((checkAgainstClaim ia.refs claim).1 = true ∧ ia.sigType = .x509)) :
    validate ia claim = (false, padLog ia.pad1 ia.pad2 ++ (checkAgainstClaim ia.refs claim).2) := by
  unfold validate
  cases hcc : checkAgainstClaim ia.refs claim with
  | mk ok l =>
    cases ok
    · rfl
    · cases hs : ia.sigType with
      | x509 => exact absurd ⟨by rw [hcc], hs⟩ h
      | ica => rfl
      | other => rfl

theorem validate_log_prefix (ia : Identity) (claim : List HUri) :
    ∃ tail, (validate ia claim).2
      = padLog ia.pad1 ia.pad2 ++ (checkAgainstClaim ia.refs claim).2 ++ tail := by
  by_cases h : (checkAgainstClaim ia.refs claim).1 = true ∧ ia.sigType = .x509
  · rw [validate_x509 ia claim h.1 h.2]
    exact ⟨_, List.append_assoc ..⟩
  · rw [validate_stopped ia claim h]
    exact ⟨[], (List.append_nil _).symm⟩

theorem validate_keeps_claim_failures (ia : Identity) (claim : List HUri) (e : Entry)
    (h : e ∈ (checkAgainstClaim ia.refs claim).2) : e ∈ (validate ia claim).2 := by
  obtain ⟨t, ht⟩ := validate_log_prefix ia claim
  rw [ht]; exact List.mem_append_left _ (List.mem_append_right _ h)

/-- **Padding changes are reported**: a non-zero byte in `pad1`, or in `pad2`, logs
`cawg.identity.pad.invalid`. -/
theorem pad_change_reported (ia : Identity) (claim : List HUri)
    (h : (∃ b ∈ ia.pad1, b ≠ 0) ∨ ((∀ b ∈ ia.pad1, b = 0) ∧ ∃ p, ia.pad2 = some p ∧ ∃ b ∈ p, b ≠ 0)) :
    failE cPad ∈ (validate ia claim).2 := by
  obtain ⟨t, ht⟩ := validate_log_prefix ia claim
  rw [ht, padLog_changed _ _ h]
  exact List.mem_append_left _ (List.mem_append_left _ (List.mem_singleton_self _))

/-! ### the remap table -/

def kindOf (s : String) : Kind :=
  if s == "failure" then .failure else if s == "success" then .success else .informational

/-- The sweep behind `remap_total`, over the generated list read as entries, so that both tables
stand in the goal once. -/
theorem coseEntries_remap :
    ∀ e ∈ Gen.coseEmitted.map (fun g => ((g.1.toList, kindOf g.2.1) : Entry)), e.2 = .failure →
      C04.cawgX509Prefix.isPrefixOf (remap e.1) = true := by
  unfold Gen.coseEmitted remap remapTable Gen.remapTable C04.cawgX509Prefix
  simp only [List.map]
  decide_run

/-- Every failure code the shared COSE verification can log inside the remap
guard (table regenerated from the sources on every run) is rewritten to a `cawg.x509.*` code —
none is passed through. A new failure code in `crypto::cose` without an arm in
`remap_x509_cose_status_codes` makes this fail. -/
theorem remap_total :
    ∀ g ∈ Gen.coseEmitted, kindOf g.2.1 = .failure →
      C04.cawgX509Prefix.isPrefixOf (remap g.1.toList) = true :=
  fun _ hg => coseEntries_remap _ (List.mem_map_of_mem hg)

/-- the generated kinds are the three known ones (so `kindOf` loses nothing) -/
theorem coseEmitted_kinds :
    ∀ g ∈ Gen.coseEmitted, g.2.1 = "failure" ∨ g.2.1 = "success" ∨ g.2.1 = "informational" := by
  decide

/-- The remap is a pass-through for every unlisted code (`_ => continue`): such a failure would
keep its C2PA code — and, not being tolerated (example below), make the manifest Invalid. -/
theorem remap_unlisted (c : Code) (h : ∀ p ∈ remapTable, p.1 ≠ c) : remap c = c := by
  unfold remap
  have : remapTable.find? (fun p => p.1 == c) = none := by
    rw [List.find?_eq_none]; intro p hp; simpa using h p hp
  rw [this]

theorem remap_of_find (c k v : Code)
    (h : remapTable.find? (fun p => p.1 == c) = some (k, v)) : remap c = v := by
  unfold remap; rw [h]

/-- witness of the pass-through: a time-stamp failure code is not in the table -/
example : remap "timeStamp.mismatch".toList = "timeStamp.mismatch".toList ∧
    C04.tolerated (remap "timeStamp.mismatch".toList) = false := by
  have h : remap "timeStamp.mismatch".toList = "timeStamp.mismatch".toList := by
    apply remap_unlisted
    unfold remapTable Gen.remapTable
    simp only [List.map]
    decide_run
  rw [h]
  refine ⟨rfl, ?_⟩
  delta C04.tolerated C04.cUntrusted C04.cawgX509Prefix
  decide_run

theorem remap_sigMismatch : remap cSigMismatch = cSigMismatch := by
  apply remap_unlisted
  unfold remapTable Gen.remapTable
  delta cSigMismatch
  simp only [List.map]
  decide_run

theorem remap_claimSigMismatch : remap cClaimSigMismatch = cSigMismatch := by
  apply remap_of_find _ cClaimSigMismatch
  unfold remapTable Gen.remapTable
  delta cClaimSigMismatch cSigMismatch
  simp only [List.map]
  decide_run

/-- The statuses a COSE verification logged are among those the source can log. -/
def RawFromCose (raw : List Entry) : Prop :=
  ∀ e ∈ raw, ∃ g ∈ Gen.coseEmitted, g.1.toList = e.1 ∧ kindOf g.2.1 = e.2

abbrev X509Failures (l : List Entry) : Prop :=
  ∀ e ∈ l, e.2 = .failure → C04.cawgX509Prefix.isPrefixOf e.1 = true

theorem x509Failures_append {a b : List Entry} (ha : X509Failures a) (hb : X509Failures b) :
    X509Failures (a ++ b) :=
  fun e he => (List.mem_append.1 he).elim (ha e) (hb e)

theorem x509Failures_failE (c : Code) (h : C04.cawgX509Prefix.isPrefixOf c = true) :
    X509Failures [failE c] :=
  fun e he _ => by rw [List.mem_singleton.1 he]; exact h

theorem remapLog_failures_x509 (raw : List Entry) (h : RawFromCose raw) :
    ∀ e ∈ remapLog raw, e.2 = .failure → C04.cawgX509Prefix.isPrefixOf e.1 = true := by
  intro e he hk
  obtain ⟨e0, he0, rfl⟩ := List.mem_map.1 he
  obtain ⟨g, hg, hc, hkind⟩ := h e0 he0
  dsimp only at hk ⊢
  rw [← hc]
  exact remap_total g hg (hkind.trans hk)

/-- non-vacuity: the two trust outcomes and a profile failure are `RawFromCose` -/
example : RawFromCose [failE "signingCredential.untrusted".toList,
    succ "signingCredential.trusted".toList, failE "signingCredential.invalid".toList] := by
  intro e he
  simp only [List.mem_cons, List.mem_nil_iff, or_false] at he
  rcases he with rfl | rfl | rfl <;> dsimp only [failE, succ]
  · exact ⟨("signingCredential.untrusted", "failure", "crypto/cose/verifier.rs", 1),
      by simp [Gen.coseEmitted], rfl, by decide⟩
  · exact ⟨("signingCredential.trusted", "success", "crypto/cose/verifier.rs", 1),
      by simp [Gen.coseEmitted], rfl, by decide⟩
  · exact ⟨("signingCredential.invalid", "failure", "crypto/cose/verifier.rs", 1),
      by simp [Gen.coseEmitted], rfl, by decide⟩

theorem remapLog_guardScope (s : Sig) :
    remapLog (guardScopeLog s)
      = match s.outcome with
        | .verified => remapLog s.raw
        | .parseError => [failE cSigMismatch]
        | _ => remapLog s.raw ++ [failE cSigMismatch] := by
  unfold guardScopeLog remapLog
  cases s.outcome <;>
    simp only [List.map_append, List.map, failE, remap_sigMismatch, remap_claimSigMismatch]

theorem guardScope_unverified (s : Sig) (h : s.outcome ≠ .verified) :
    failE cSigMismatch ∈ remapLog (guardScopeLog s) := by
  rw [remapLog_guardScope]
  cases ho : s.outcome with
  | verified => exact absurd ho h
  | parseError => exact List.mem_singleton_self _
  | mismatch => exact List.mem_append_right _ (List.mem_singleton_self _)
  | otherError => exact List.mem_append_right _ (List.mem_singleton_self _)

theorem guardScope_failures_x509 (s : Sig) (h : RawFromCose s.raw) :
    X509Failures (remapLog (guardScopeLog s)) := by
  have hm := x509Failures_failE _ sigMismatch_prefixes.2
  have hr := remapLog_failures_x509 s.raw h
  rw [remapLog_guardScope]
  cases s.outcome
  · exact hr
  · exact x509Failures_append hr hm
  · exact x509Failures_append hr hm
  · exact hm

/-! ### any change to the identity signature is reported -/

/-- The statement's "any change to … the identity signature … is reported with a cawg failure
code", for `cawg.x509.cose`: whenever the COSE part does not end in "verified" — the structure
does not parse, the signature does not verify over the payload, or verification fails for any
other reason — a `cawg.*` failure is logged. No oracle fact about *what* the verifier logged is
assumed (`ia.sig.raw` is arbitrary, possibly empty). -/
def SigChangeReported : Prop :=
  ∀ (ia : Identity) (claim : List HUri), ia.sigType = .x509 → ia.sig.outcome ≠ .verified →
    ∃ e ∈ (validate ia claim).2, IsCawgFailure e

/-- Holds for c2pa-rs with fixes/C33-report-unverifiable-identity-signature.patch. Without the
patch the "any other error" arm of `validate_partial_claim` logs nothing: with
`outcome = .otherError` and `raw = []` (a COSE structure whose certificate chain was removed) the
log is empty and the assertion is skipped silently — replayed by the harness (mutation
`SigNoCerts`). -/
theorem signature_change_reported : SigChangeReported := by
  intro ia claim ht hs
  cases hc : (checkAgainstClaim ia.refs claim).1 with
  | false =>
    obtain ⟨e, he, hcf⟩ := identity_binds_references ia.refs claim
      (Or.inl (checkAgainstClaim_stopped _ _ hc))
    exact ⟨e, validate_keeps_claim_failures ia claim e he, hcf⟩
  | true =>
    refine ⟨failE cSigMismatch, ?_, failE_cawg _ sigMismatch_prefixes.1⟩
    rw [validate_x509 ia claim hc ht]
    exact List.mem_append_left _ (List.mem_append_right _ (guardScope_unverified _ hs))

/-! ### an unmodified assertion validates -/

theorem validate_intact (ia : Identity) (claim : List HUri)
    (hb : ∀ r ∈ ia.refs, RefBound claim r) (hh : ∃ r ∈ ia.refs, isHardBindingRef r.url = true)
    (hd : (ia.refs.map (·.url)).Nodup) (hp1 : ∀ b ∈ ia.pad1, b = 0)
    (hp2 : ∀ p, ia.pad2 = some p → ∀ b ∈ p, b = 0) (ht : ia.sigType = .x509) :
    validate ia claim = (decide (ia.sig.outcome = .verified), remapLog (guardScopeLog ia.sig)
      ++ if ia.sig.outcome = .verified then [succ cSigValidated, succ cWellFormed] else []) := by
  have hc := checkAgainstClaim_intact ia.refs claim hb hh hd
  rw [validate_x509 ia claim (by rw [hc]) ht, hc, padLog_zero _ _ hp1 hp2]
  rfl

/-! The examples below validate an assertion whose one reference is the claim's first assertion. -/

theorem single_ref_intact (u : List Char) (h : List Nat) (claim : List HUri)
    (hu : isHardBindingRef u = true) :
    (∀ r ∈ [HUri.mk u h], RefBound (⟨u, h⟩ :: claim) r) ∧
    (∃ r ∈ [HUri.mk u h], isHardBindingRef r.url = true) ∧ ([HUri.mk u h].map (·.url)).Nodup :=
  ⟨List.forall_mem_singleton.2 ⟨_, by simp [urlMatches], rfl⟩,
   ⟨_, List.mem_singleton_self _, hu⟩, List.nodup_cons.2 ⟨List.not_mem_nil, List.nodup_nil⟩⟩

theorem hashData_hardBinding :
    isHardBindingRef "self#jumbf=c2pa.assertions/c2pa.hash.data".toList = true := by
  rw [String.toList_ofList]
  decide

/-- no certificate chain and nothing logged by the verifier (the case that is silent without the
patch): `cawg.x509.signature.mismatch` is still logged -/
example : (validate
    { refs := [⟨"self#jumbf=c2pa.assertions/c2pa.hash.data".toList, [1]⟩], sigType := .x509,
      pad1 := [], pad2 := none, sig := ⟨[], .otherError⟩ }
    [⟨"self#jumbf=c2pa.assertions/c2pa.hash.data".toList, [1]⟩]).2 = [failE cSigMismatch] := by
  have hi := single_ref_intact _ [1] [] hashData_hardBinding
  rw [validate_intact _ _ hi.1 hi.2.1 hi.2.2 (by simp) (by simp) rfl, remapLog_guardScope]
  rfl

/-- **An identity assertion whose references are all bound, contain a hard binding, are
distinct, whose pads are zero and whose signature verifies, validates**: result ok; the log is what
the COSE verifier logged (`ia.sig.raw`, remapped) followed by the success codes
`cawg.x509.signature.validated` and `cawg.identity.well-formed`: the pad and reference checks log
nothing. -/
theorem unmodified_assertion_validates (ia : Identity) (claim : List HUri)
    (hb : ∀ r ∈ ia.refs, RefBound claim r) (hh : ∃ r ∈ ia.refs, isHardBindingRef r.url = true)
    (hd : (ia.refs.map (·.url)).Nodup) (hp1 : ∀ b ∈ ia.pad1, b = 0)
    (hp2 : ∀ p, ia.pad2 = some p → ∀ b ∈ p, b = 0)
    (ht : ia.sigType = .x509) (hs : ia.sig.outcome = .verified) :
    validate ia claim = (true, remapLog ia.sig.raw ++ [succ cSigValidated, succ cWellFormed]) := by
  rw [validate_intact ia claim hb hh hd hp1 hp2 ht]
  simp [guardScopeLog, hs]

/-- Non-vacuity of `unmodified_assertion_validates`: the hypotheses are jointly satisfiable — here
with the claim listing the assertions by *absolute* URL and the references written relative, a
trusted credential (C2PA code `signingCredential.trusted`, remapped), zero pads. -/
example : validate
    { refs := [⟨"self#jumbf=c2pa.assertions/c2pa.hash.data".toList, [1, 2]⟩,
               ⟨"self#jumbf=c2pa.assertions/c2pa.actions.v2".toList, [3]⟩],
      sigType := .x509, pad1 := [0, 0, 0], pad2 := some [0],
      sig := ⟨[succ "signingCredential.trusted".toList], .verified⟩ }
    [⟨"self#jumbf=/c2pa/urn:c2pa:77/c2pa.assertions/c2pa.actions.v2".toList, [3]⟩,
     ⟨"self#jumbf=/c2pa/urn:c2pa:77/c2pa.assertions/c2pa.hash.data".toList, [1, 2]⟩]
    = (true, [succ "cawg.x509.credential.trusted".toList, succ cSigValidated, succ cWellFormed]) := by
  -- `dsimp only` reduces `(HUri.mk u h).url` before `u` is matched with the literal
  rw [unmodified_assertion_validates _ _ ?hb
    ⟨_, List.mem_cons_self .., by dsimp only; exact hashData_hardBinding⟩ ?hd (by decide) (by decide)
    rfl rfl]
  case hb =>
    intro r hr
    simp only [List.mem_cons, List.mem_nil_iff, or_false] at hr
    rcases hr with rfl | rfl
    · refine ⟨⟨"self#jumbf=/c2pa/urn:c2pa:77/c2pa.assertions/c2pa.hash.data".toList, [1, 2]⟩, ?_, rfl⟩
      decide_run
    · refine ⟨⟨"self#jumbf=/c2pa/urn:c2pa:77/c2pa.assertions/c2pa.actions.v2".toList, [3]⟩, ?_, rfl⟩
      decide_run
  case hd =>
    decide_run
  have hr : remap "signingCredential.trusted".toList = "cawg.x509.credential.trusted".toList := by
    apply remap_of_find _ "signingCredential.trusted".toList
    unfold remapTable Gen.remapTable
    simp only [List.map]
    decide_run
  simp only [remapLog, List.map, succ, hr, List.cons_append, List.nil_append]

/-! ### CAWG failures and the manifest state -/

theorem mem_foldl_add_failure (l : List Entry) (c : Code) (acc : C04.Codes) :
    (c ∈ acc.failure ∨ (c, Kind.failure) ∈ l) →
      c ∈ (l.foldl (fun a e => a.add { code := e.1, kind := e.2, uri := none }) acc).failure := by
  intro h
  have := (C04.mem_failures_foldl (l.map fun e => ⟨e.1, e.2, none⟩) c ⟨some acc, none⟩).2
    (h.imp (List.mem_append_left _) fun h => ⟨_, List.mem_map_of_mem h, rfl, rfl⟩)
  rw [← C04.foldl_entries] at this
  exact (List.mem_append.1 this).elim id nofun

/-- The statement's last sentence. -/
def CawgFailureNeverInvalid : Prop :=
  ∀ (ia : Identity) (claim : List HUri) (rest : List Entry),
    C04.state { active := some (toCodes rest), deltas := none } ≠ .invalid →
    manifestState ia claim rest ≠ .invalid

/-- The statement's last sentence with the position made explicit: the identity assertion may
sit in the active manifest or in the manifest of any ingredient, on top of any results. -/
def CawgFailureNeverInvalidAt : Prop :=
  ∀ (ia : Identity) (claim : List HUri) (base : C04.Results) (uri : Option (List Char)),
    C04.state base ≠ .invalid → manifestStateAt ia claim base uri ≠ .invalid

/-- `manifestState` (identity assertion of the active manifest, `Manifest::from_store`) is the
`none` instance of `manifestStateAt`. -/
theorem manifestState_eq_at (ia : Identity) (claim : List HUri) (rest : List Entry) :
    manifestState ia claim rest
      = manifestStateAt ia claim { active := some (toCodes rest), deltas := none } none := by
  unfold manifestState manifestStateAt manifestResultsAt postValidate toCodes
  rw [List.foldl_append, C04.foldl_entries]
  rfl

theorem tolerated_of_x509 {c : Code} (h : C04.cawgX509Prefix.isPrefixOf c = true) :
    C04.tolerated c = true :=
  Bool.or_eq_true_iff.2 (.inr h)

/-- What the code guarantees, at full generality of
position: if every failure the identity validation logs has a `cawg.x509.*` code, results that
are not Invalid without them are not Invalid with them — whether the assertion sits in the
active manifest (`uri = none`) or in the manifest of an ingredient (`uri = some u`: the failures
land in that ingredient's delta, existing or new), and whatever the other deltas hold. -/
theorem cawg_x509_failures_never_invalid (log : List Entry) (base : C04.Results)
    (uri : Option (List Char))
    (hx : ∀ e ∈ log, e.2 = .failure → C04.cawgX509Prefix.isPrefixOf e.1 = true)
    (hv : C04.state base ≠ .invalid) :
    C04.state (postValidate base uri log) ≠ .invalid := by
  refine C04.harmless_never_invalid _ (fun s hs hk => ?_) base hv
  obtain ⟨e, he, rfl⟩ := List.mem_map.1 hs
  exact tolerated_of_x509 (hx e he hk)

/-- Several identity assertions, in any mix of manifests (active / different ingredients), one
after the other: still never Invalid. -/
theorem cawg_x509_failures_never_invalid_many (logs : List (Option (List Char) × List Entry))
    (hx : ∀ p ∈ logs, ∀ e ∈ p.2, e.2 = .failure → C04.cawgX509Prefix.isPrefixOf e.1 = true) :
    ∀ base : C04.Results, C04.state base ≠ .invalid →
      C04.state (logs.foldl (fun r p => postValidate r p.1 p.2) base) ≠ .invalid := by
  intro base hv
  -- the whole pass is one status sequence
  have : logs.foldl (fun r p => postValidate r p.1 p.2) base
      = (logs.flatMap fun p => p.2.map (toStatus p.1)).foldl C04.addStatus base :=
    List.foldl_flatMap.symm
  rw [this]
  refine C04.harmless_never_invalid _ (fun s hs hk => ?_) base hv
  obtain ⟨p, hp, hs⟩ := List.mem_flatMap.1 hs
  obtain ⟨e, he, rfl⟩ := List.mem_map.1 hs
  exact tolerated_of_x509 (hx p hp e he hk)

/-- When the pads are zero and the references intact, every failure `validate_partial_claim`
can log for `cawg.x509.cose` is a `cawg.x509.*` one — from input-level facts only: the
verifier's raw statuses are among those the `crypto::cose` sources can log (`RawFromCose`,
generated table), rewritten by the modelled remap (`remap_total`). -/
theorem intact_refs_failures_x509 (ia : Identity) (claim : List HUri)
    (hb : ∀ r ∈ ia.refs, RefBound claim r) (hh : ∃ r ∈ ia.refs, isHardBindingRef r.url = true)
    (hd : (ia.refs.map (·.url)).Nodup) (hp1 : ∀ b ∈ ia.pad1, b = 0)
    (hp2 : ∀ p, ia.pad2 = some p → ∀ b ∈ p, b = 0)
    (ht : ia.sigType = .x509) (hraw : RawFromCose ia.sig.raw) :
    ∀ e ∈ (validate ia claim).2, e.2 = .failure → C04.cawgX509Prefix.isPrefixOf e.1 = true := by
  rw [validate_intact ia claim hb hh hd hp1 hp2 ht]
  refine x509Failures_append (guardScope_failures_x509 _ hraw) fun e he hk => ?_
  split at he
  · simp only [List.mem_cons, List.mem_nil_iff, or_false] at he
    rcases he with rfl | rfl <;> cases hk
  · cases he

/-- The statement's last sentence for everything
that can go wrong with the *signature and credential* of an identity assertion whose pads and
references are intact: whatever the outcome (does not parse, does not verify, any other error,
untrusted / invalid / expired credential — any statuses the COSE sources can log), in the active
manifest or in any ingredient's manifest, results that are not Invalid stay not Invalid. -/
theorem cawg_signature_failures_never_invalid (ia : Identity) (claim : List HUri)
    (base : C04.Results) (uri : Option (List Char))
    (hb : ∀ r ∈ ia.refs, RefBound claim r) (hh : ∃ r ∈ ia.refs, isHardBindingRef r.url = true)
    (hd : (ia.refs.map (·.url)).Nodup) (hp1 : ∀ b ∈ ia.pad1, b = 0)
    (hp2 : ∀ p, ia.pad2 = some p → ∀ b ∈ p, b = 0)
    (ht : ia.sigType = .x509) (hraw : RawFromCose ia.sig.raw)
    (hv : C04.state base ≠ .invalid) :
    manifestStateAt ia claim base uri ≠ .invalid := by
  unfold manifestStateAt manifestResultsAt
  exact cawg_x509_failures_never_invalid _ base uri
    (intact_refs_failures_x509 ia claim hb hh hd hp1 hp2 ht hraw) hv

/-- Active manifest, `Manifest::from_store` form: if
every failure the identity validation logs is a `cawg.x509.*` one, a manifest that is not
Invalid without them is not Invalid with them. -/
theorem cawg_failure_never_invalid_partial (ia : Identity) (claim : List HUri) (rest : List Entry)
    (hx : ∀ e ∈ (validate ia claim).2, e.2 = .failure → C04.cawgX509Prefix.isPrefixOf e.1 = true)
    (hv : C04.state { active := some (toCodes rest), deltas := none } ≠ .invalid) :
    manifestState ia claim rest ≠ .invalid := by
  rw [manifestState_eq_at]
  unfold manifestStateAt manifestResultsAt
  exact cawg_x509_failures_never_invalid _ _ none hx hv

theorem toCodes_succ_succ (a b : Code) : toCodes [succ a, succ b] = { success := [a, b] } := rfl

/-- The manifest the examples start from: claim signature validated, inside validity, nothing else. -/
theorem validCond_rest : C04.ValidCond
    { active := some (toCodes [succ C04.cSigValidated, succ C04.cInsideValidity]), deltas := none } := by
  rw [toCodes_succ_succ]
  exact validCond_of_no_failure _ (by simp) (by simp) rfl

/-- Non-vacuity: a signature mismatch (a `cawg.x509.*` failure) leaves a Valid manifest Valid. -/
example : manifestState
    { refs := [⟨"self#jumbf=c2pa.assertions/c2pa.hash.data".toList, [1]⟩], sigType := .x509,
      pad1 := [], pad2 := none, sig := ⟨[], .mismatch⟩ }
    [⟨"self#jumbf=c2pa.assertions/c2pa.hash.data".toList, [1]⟩]
    [succ C04.cSigValidated, succ C04.cInsideValidity] = .valid := by
  have hi := single_ref_intact _ [1] [] hashData_hardBinding
  rw [manifestState_eq_at]
  -- not Invalid by the theorem above, not Trusted because the mismatch is recorded: Valid
  refine valid_of_failure _ _
    (cawg_signature_failures_never_invalid _ _ _ none hi.1 hi.2.1 hi.2.2 (by simp) (by simp) rfl
      (fun _ h => nomatch h) ((C04.state_not_invalid_iff _).2 validCond_rest))
    ((C04.mem_failures_foldl _ _ _).2
      (.inr ⟨toStatus none (failE cSigMismatch), List.mem_map_of_mem ?_, rfl, rfl⟩))
  rw [validate_intact _ _ hi.1 hi.2.1 hi.2.2 (by simp) (by simp) rfl, remapLog_guardScope]
  exact List.mem_append_left _ (List.mem_singleton_self _)

/-- Non-vacuity for the ingredient position: an untrusted CAWG credential inside the manifest of
ingredient `u`, whose delta already records `signingCredential.untrusted`, leaves Valid Valid. -/
example : manifestStateAt
    { refs := [⟨"self#jumbf=c2pa.assertions/c2pa.hash.data".toList, [1]⟩], sigType := .x509,
      pad1 := [], pad2 := none,
      sig := ⟨[failE "signingCredential.untrusted".toList], .verified⟩ }
    [⟨"self#jumbf=c2pa.assertions/c2pa.hash.data".toList, [1]⟩]
    { active := some { success := [C04.cSigValidated, C04.cInsideValidity] },
      deltas := some [{ uri := "u".toList, codes := { failure := [C04.cUntrusted] } }] }
    (some "u".toList) = .valid := by
  have hi := single_ref_intact _ [1] [] hashData_hardBinding
  have hraw : RawFromCose [failE "signingCredential.untrusted".toList] := by
    intro e he
    rw [List.mem_singleton.1 he]
    dsimp only [failE]
    exact ⟨("signingCredential.untrusted", "failure", "crypto/cose/verifier.rs", 1),
      by simp [Gen.coseEmitted], rfl, by decide⟩
  have hu : C04.tolerated C04.cUntrusted = true := by simp [C04.tolerated]
  -- not Invalid by the theorem above, not Trusted because the delta's failure is still recorded
  refine valid_of_failure _ C04.cUntrusted
    (cawg_signature_failures_never_invalid _ _ _ _ hi.1 hi.2.1 hi.2.2 (by simp) (by simp) rfl hraw
      ((C04.state_not_invalid_iff _).2 ?_))
    ((C04.mem_failures_foldl _ _ _).2 (.inl
      ((hasFailure_iff _ _).1 (Or.inr ⟨_, List.mem_singleton_self _, List.mem_singleton_self _⟩))))
  refine ⟨_, rfl, by simp, by simp, fun f h => (nomatch h), fun d hd f hf => ?_⟩
  rw [List.mem_singleton.1 hd] at hf
  rw [List.mem_singleton.1 hf]
  exact hu

/-- **The other direction (finding F13 of DESIGN.md §5, in general)**: any `cawg.identity.*`
failure — pad, reference mismatch, duplicate, missing hard binding; in fact any logged failure whose
code is not `cawg.x509.*` / `signingCredential.untrusted` — makes the results Invalid, in the active
manifest and in any ingredient's manifest alike. -/
theorem nontolerated_identity_failure_invalid (ia : Identity) (claim : List HUri)
    (base : C04.Results) (uri : Option (List Char)) (e : Entry)
    (he : e ∈ (validate ia claim).2) (hk : e.2 = .failure) (ht : C04.tolerated e.1 = false) :
    manifestStateAt ia claim base uri = .invalid :=
  C04.nontolerated_failure_in_sequence_invalid base _ (toStatus uri e) (List.mem_map_of_mem he) hk ht

/-- By `nontolerated_identity_failure_invalid`, a changed pad byte makes the manifest Invalid
wherever the assertion sits. -/
theorem pad_change_invalidates (ia : Identity) (claim : List HUri) (base : C04.Results)
    (uri : Option (List Char))
    (h : (∃ b ∈ ia.pad1, b ≠ 0) ∨ ((∀ b ∈ ia.pad1, b = 0) ∧ ∃ p, ia.pad2 = some p ∧ ∃ b ∈ p, b ≠ 0)) :
    manifestStateAt ia claim base uri = .invalid :=
  -- `(failE cPad).1` is reduced first: matching it against `cPad` directly, the unifier
  -- evaluates the string
  nontolerated_identity_failure_invalid ia claim base uri _ (pad_change_reported ia claim h) rfl
    (by dsimp only [failE]; exact (identity_codes cPad (by simp)).2)

/-- **`CawgFailureNeverInvalid` (DESIGN §6: `cawg_failure_never_invalid`) is false for the code as
it is** (F13): the state function tolerates only `cawg.x509.*` failures, so a `cawg.identity.*`
failure — here a non-zero padding byte in an otherwise valid assertion of an otherwise Valid
manifest — makes the manifest Invalid.
(Replayed end-to-end by the harness: classes `cawg-failure-invalidates-manifest`.) -/
theorem cawg_failure_never_invalid_false : ¬ CawgFailureNeverInvalid := by
  intro h
  refine h
    { refs := [⟨"self#jumbf=c2pa.assertions/c2pa.hash.data".toList, [1]⟩], sigType := .x509,
      pad1 := [0, 7], pad2 := none, sig := ⟨[], .verified⟩ }
    [⟨"self#jumbf=c2pa.assertions/c2pa.hash.data".toList, [1]⟩]
    [succ C04.cSigValidated, succ C04.cInsideValidity]
    ((C04.state_not_invalid_iff _).2 validCond_rest) ?_
  rw [manifestState_eq_at]
  exact pad_change_invalidates _ _ _ _ (Or.inl ⟨7, by decide, by decide⟩)

/-- **False for the code as it is, at every position** (F13): a non-zero pad byte in an identity
assertion inside an *ingredient's* manifest makes an otherwise Trusted store Invalid.
(Replayed by the harness: `e2ei`, position `componentOf`, mutation `Pad1`.) -/
theorem cawg_failure_never_invalid_at_false : ¬ CawgFailureNeverInvalidAt := by
  intro h
  exact h
    { refs := [⟨"self#jumbf=c2pa.assertions/c2pa.hash.data".toList, [1]⟩], sigType := .x509,
      pad1 := [0, 7], pad2 := none, sig := ⟨[], .verified⟩ }
    [⟨"self#jumbf=c2pa.assertions/c2pa.hash.data".toList, [1]⟩]
    { active := some { success := [C04.cTrusted, C04.cSigValidated, C04.cInsideValidity] },
      deltas := none }
    (some "self#jumbf=/c2pa/urn:c2pa:outer/c2pa.assertions/c2pa.ingredient.v3".toList)
    ((C04.state_not_invalid_iff _).2 (validCond_of_no_failure _ (by simp) (by simp) rfl))
    (pad_change_invalidates _ _ _ _ (Or.inl ⟨7, by decide, by decide⟩))

/-! ### independence of reports across the assertions of one pass -/

theorem validateThreaded_eq (xs : List (Identity × List HUri)) :
    ∀ tr : List Entry, validateThreaded tr xs = tr ++ ((passSlices xs).map (·.2)).flatten := by
  induction xs with
  | nil => intro tr; simp [validateThreaded, passSlices]
  | cons x xs ih =>
    intro tr
    simp only [validateThreaded, validateIn, ih, passSlices, List.map_cons, List.flatten_cons,
      List.append_assoc]

/-- What an assertion's validation writes to the tracker, and its
result, do not depend on what the tracker already holds (earlier failures of other assertions, of
the C2PA checks, …). -/
theorem report_independent (tr tr' : List Entry) (ia : Identity) (claim : List HUri) :
    (validateIn tr ia claim).1 = (validateIn tr' ia claim).1 ∧
    (validateIn tr ia claim).2.drop tr.length = (validateIn tr' ia claim).2.drop tr'.length := by
  simp [validateIn]

/-- The slice assertion `i` of a pass writes is `validate` of that assertion alone — whatever the
other assertions of the pass are and in whatever order they come. -/
theorem pass_slice (xs : List (Identity × List HUri)) (i : Nat) (h : i < xs.length) :
    (passSlices xs)[i]'(by simpa [passSlices] using h) = validate xs[i].1 xs[i].2 := by
  simp [passSlices]

/-- In a pass over any assertions, every
`cawg.x509.cose` assertion whose signature does not end in "verified", every assertion with an
unbound / repeated reference or no hard binding, and every assertion with a non-zero pad byte has
a `cawg.*` failure *in its own slice* — regardless of what else the pass logged. -/
theorem changed_assertion_reported_in_pass (xs : List (Identity × List HUri)) (i : Nat)
    (h : i < xs.length)
    (hch : (xs[i].1.sigType = .x509 ∧ xs[i].1.sig.outcome ≠ .verified) ∨
      ((∃ r ∈ xs[i].1.refs, ¬ RefBound xs[i].2 r) ∨ ¬ (xs[i].1.refs.map (·.url)).Nodup ∨
        (∀ r ∈ xs[i].1.refs, isHardBindingRef r.url = false)) ∨
      ((∃ b ∈ xs[i].1.pad1, b ≠ 0) ∨
        ((∀ b ∈ xs[i].1.pad1, b = 0) ∧ ∃ p, xs[i].1.pad2 = some p ∧ ∃ b ∈ p, b ≠ 0))) :
    ∃ e ∈ ((passSlices xs)[i]'(by simpa [passSlices] using h)).2, IsCawgFailure e := by
  rw [pass_slice xs i h]
  rcases hch with ⟨ht, hs⟩ | hr | hp
  · exact signature_change_reported _ _ ht hs
  · obtain ⟨e, he, hc⟩ := identity_binds_references _ _ hr
    exact ⟨e, validate_keeps_claim_failures _ _ e he, hc⟩
  · exact ⟨failE cPad, pad_change_reported _ _ hp, failE_cawg cPad (identity_codes _ (by simp)).1⟩

/-- Every failure an assertion of a pass logs is recorded in the results after the pass
(`Reader::post_validate`), whatever is added before or after it. -/
theorem pass_failure_recorded (xs : List (Option (List Char) × Identity × List HUri))
    (x : Option (List Char) × Identity × List HUri) (hx : x ∈ xs) (e : Entry)
    (he : e ∈ (validate x.2.1 x.2.2).2) (hk : e.2 = .failure) :
    ∀ base : C04.Results, HasFailure (postValidateMany base xs) e.1 := by
  intro base
  have hpass : postValidateMany base xs
      = (xs.flatMap fun x => (validate x.2.1 x.2.2).2.map (toStatus x.1)).foldl C04.addStatus base :=
    List.foldl_flatMap.symm
  rw [hasFailure_iff, hpass, C04.mem_failures_foldl]
  exact .inr ⟨toStatus x.1 e, List.mem_flatMap.2 ⟨x, hx, List.mem_map_of_mem he⟩, hk, rfl⟩

/-! ### the `sig_type` gap -/

/-- The statement's "any change to the signer payload is reported". -/
def PayloadChangeReported : Prop :=
  ∀ (ia : Identity) (claim : List HUri), ia.sigType = .other →
    ∃ e ∈ (validate ia claim).2, IsCawgFailure e

/-- **False for the code as it is**: an assertion whose `sig_type` is not one the validator knows
is skipped without any status (`Err(UnknownSignatureType)` is discarded by the caller). The
existing unit tests pin this silence for the default reader. (Replayed by the harness: class
`cawg-sigtype-unknown-unreported`.) -/
theorem payload_change_reported_false : ¬ PayloadChangeReported := by
  intro h
  obtain ⟨e, he, _⟩ := h
    { refs := [⟨"self#jumbf=c2pa.assertions/c2pa.hash.data".toList, [1]⟩], sigType := .other,
      pad1 := [], pad2 := none, sig := ⟨[], .verified⟩ }
    [⟨"self#jumbf=c2pa.assertions/c2pa.hash.data".toList, [1]⟩] rfl
  have hi := single_ref_intact _ [1] [] hashData_hardBinding
  rw [validate_stopped _ _ (fun h => by cases h.2),
    checkAgainstClaim_intact _ _ hi.1 hi.2.1 hi.2.2] at he
  cases he

end C2pa.C33
