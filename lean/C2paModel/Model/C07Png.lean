import C2paModel.Model.C07Base
/-
Layer B — PNG (sdk/src/asset_handlers/png_io.rs), byte-exact.

Mirrors `get_png_chunk_positions` (signature check, chunk walk up to and including the
first IEND; everything after IEND is never looked at), `get_cai_data`, `PngIO::write_cai`
(three splice branches), `remove_cai_store_from_stream`,
`get_object_locations_from_stream` (real chunk, or the 12-byte pseudo chunk after IHDR
and `file_end + 12` when there is none) and `get_box_map` (stops at IEND: bytes after
IEND are in no box).

The chunk name check is `String::from_utf8` (Rust std): `utf8Dec` below accepts exactly the
well-formed UTF-8 sequences (no overlong forms, no surrogates, nothing above U+10FFFF) and
yields the decoded characters, which are the box name of `get_box_map`.

The lexer `segs`, `fmt` (wrap / unwrap / insertion position) at the end of the file are the
*specification-side* view of a PNG file as a layer-A container; they are not compared with
the implementation but related to the byte-exact functions by the refinement theorems of
`Lemmas/C07PngRefine.lean` (`Png.segs_write`, `Png.segs_remove`, `Png.read_segs`, …).
-/
namespace C2pa.C07.Png

open C2pa.C07

def sig : Bytes := [137, 80, 78, 71, 13, 10, 26, 10]
def caBX : Bytes := asc "caBX"
def IHDR : Bytes := asc "IHDR"
def IEND : Bytes := asc "IEND"
def iTXt : Bytes := asc "iTXt"

structure Chunk where
  start : Nat
  length : Nat
  name : Bytes
  deriving DecidableEq, Repr

def Chunk.fin (c : Chunk) : Nat := c.start + c.length + 12

/-- UTF-8 continuation byte. -/
def cont (x : UInt8) : Bool := 0x80 ≤ x && x ≤ 0xBF

/-- `String::from_utf8` on a byte list: the decoded characters, `none` when the bytes are not
well-formed UTF-8 (Unicode 15 table 3-7, the acceptance set of Rust's `core::str::from_utf8`). -/
def utf8Dec : Bytes → Option (List Char)
  | [] => some []
  | a :: rest =>
    if a < 0x80 then (utf8Dec rest).map (Char.ofNat a.toNat :: ·)
    else match rest with
      | [] => none
      | b :: rest2 =>
        if 0xC2 ≤ a && a ≤ 0xDF then
          if cont b then (utf8Dec rest2).map (Char.ofNat (a.toNat % 32 * 64 + b.toNat % 64) :: ·)
          else none
        else match rest2 with
          | [] => none
          | c :: rest3 =>
            if 0xE0 ≤ a && a ≤ 0xEF then
              if (if a == 0xE0 then 0xA0 ≤ b && b ≤ 0xBF
                  else if a == 0xED then 0x80 ≤ b && b ≤ 0x9F else cont b) && cont c then
                (utf8Dec rest3).map
                  (Char.ofNat (a.toNat % 16 * 4096 + b.toNat % 64 * 64 + c.toNat % 64) :: ·)
              else none
            else match rest3 with
              | [] => none
              | d :: rest4 =>
                if 0xF0 ≤ a && a ≤ 0xF4 then
                  if (if a == 0xF0 then 0x90 ≤ b && b ≤ 0xBF
                      else if a == 0xF4 then 0x80 ≤ b && b ≤ 0x8F else cont b)
                      && cont c && cont d then
                    (utf8Dec rest4).map
                      (Char.ofNat (a.toNat % 8 * 262144 + b.toNat % 64 * 4096
                        + c.toNat % 64 * 64 + d.toNat % 64) :: ·)
                  else none
                else none

/-- `String::from_utf8(name).is_ok()` -/
def nameOk (name : Bytes) : Bool := (utf8Dec name).isSome

/-- `name_str` of a chunk whose name passed `nameOk` (every chunk of a successful walk). -/
def nameStr (name : Bytes) : String := String.ofList ((utf8Dec name).getD [])

/-- The chunk loop of `get_png_chunk_positions` from position `pos`; `none` = error. -/
def walk (b : Bytes) : Nat → Nat → Option (List Chunk)
  | 0, _ => none
  | fuel + 1, pos =>
    if pos + 8 > b.length then none          -- length / name read fails
    else
      let len := rdBe32 b pos
      let name := slice b (pos + 4) 4
      if pos + 8 + len + 4 > b.length then none   -- crc read fails
      else if !nameOk name then none              -- "PNG bad chunk name"
      else
        let c : Chunk := ⟨pos, len, name⟩
        if name == IEND then some [c]
        else (walk b fuel (pos + 12 + len)).map (c :: ·)

def chunks (b : Bytes) : Option (List Chunk) :=
  if b.take 8 != sig then none else walk b (b.length + 1) 8

/-- `png_pong` encoding of an unknown chunk. -/
def mkChunk (name data : Bytes) : Bytes :=
  be32 data.length ++ name ++ data ++ be32 (crc32 (name ++ data))

def wrap (s : Bytes) : Bytes := mkChunk caBX s

def firstCai (ps : List Chunk) : Option Chunk := ps.find? (·.name == caBX)
def firstIhdr (ps : List Chunk) : Option Chunk := ps.find? (·.name == IHDR)

/-- `get_cai_data` -/
def read (b : Bytes) : Option ReadR :=
  match chunks b with
  | none => none
  | some ps =>
    if (ps.filter (·.name == caBX)).length > 1 then some .many
    else match firstCai ps with
      | none => some .none
      | some c => some (.ok (slice b (c.start + 8) c.length))

/-- `PngIO::write_cai` -/
def write (b s : Bytes) : Option Bytes :=
  match chunks b with
  | none => none
  | some ps =>
    match firstIhdr ps with
    | none => none
    | some ih =>
      let ihEnd := ih.fin
      let d := wrap s
      match firstCai ps with
      | some c =>
        if c.fin ≤ ihEnd then
          some (b.take c.start ++ slice b c.fin (ihEnd - c.fin) ++ d ++ b.drop ihEnd)
        else
          some (b.take ihEnd ++ d ++ slice b ihEnd (c.start - ihEnd) ++ b.drop c.fin)
      | none => some (b.take ihEnd ++ d ++ b.drop ihEnd)

/-- `PngIO::remove_cai_store_from_stream` -/
def remove (b : Bytes) : Option Bytes :=
  match chunks b with
  | none => none
  | some ps =>
    match firstCai ps with
    | some c => some (b.take c.start ++ b.drop c.fin)
    | none => some b

/-- `PngIO::get_object_locations_from_stream` -/
def locations (b : Bytes) : Option (List Loc) :=
  match chunks b with
  | none => none
  | some ps =>
    match firstCai ps with
    | some c => some (locA c.start (c.length + 12) b.length)
    | none =>
      match firstIhdr ps with
      | none => none
      | some ih => some (locA ih.fin 12 (b.length + 12))

/-- `PngIO::get_box_map` -/
def boxMap (b : Bytes) : Option (List Box) :=
  match chunks b with
  | none => none
  | some ps =>
    let has := ps.any (·.name == caBX)
    some (⟨"PNGh", 0, 8, false, false⟩ :: ps.flatMap fun c =>
      if c.name == caBX then [⟨"C2PA", c.start, c.length + 12, true, false⟩]
      else
        let bm : Box := ⟨nameStr c.name, c.start, c.length + 12, false, false⟩
        if !has && c.name == IHDR then [bm, ⟨"C2PA", c.fin, 0, true, true⟩] else [bm])

/-- Same-size in-place patch as done by the sign-then-patch flow (`write_cai` with a
store of the same length on the already embedded asset). PNG has no `AssetPatch`. -/
def patch (b s : Bytes) : Option Bytes := write b s

/-! ### lexer to layer A (specification side) -/

def kindOf (name : Bytes) : Kind :=
  if name == caBX then .manifest else if name == iTXt then .xmp else .media

/-- Tag of a chunk segment = the name `get_box_map` gives its box. -/
def tagOf (name : Bytes) : String := if name == caBX then "C2PA" else nameStr name

def chunkSeg (b : Bytes) (c : Chunk) : Seg :=
  ⟨kindOf c.name, tagOf c.name, slice b c.start (c.length + 12)⟩

/-- End of the last chunk (= end of IEND); 8 for an empty chunk list (never produced). -/
def finOf (ps : List Chunk) : Nat := match ps.getLast? with | some c => c.fin | none => 8

/-- Header, one segment per chunk up to IEND, and (when non-empty) the bytes after IEND. -/
def segs (b : Bytes) : Option (List Seg) :=
  match chunks b with
  | none => none
  | some ps =>
    let tail := b.drop (finOf ps)
    some (⟨.header, "PNGh", b.take 8⟩ :: ps.map (chunkSeg b)
      ++ (if tail.isEmpty then [] else [⟨.media, "trailing", tail⟩]))

/-- The store is the chunk data: everything between the 8-byte chunk head and the CRC. -/
def unwrap (w : Bytes) : Option Bytes :=
  if w.length < 12 then none else some (slice w 8 (w.length - 12))

/-- A chunk segment named IHDR (decided on the raw bytes: chunk type at offset 4). -/
def isIhdrSeg (s : Seg) : Bool := s.kind != .header && slice s.raw 4 4 == IHDR

/-- Insertion index: right after the first IHDR chunk segment of the stripped list. -/
def pos (c : List Seg) : Nat :=
  match (strip c).findIdx? isIhdrSeg with
  | some i => i + 1
  | none => 0

def fmt : Fmt := ⟨wrap, unwrap, pos⟩

end C2pa.C07.Png
