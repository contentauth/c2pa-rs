import C2paModel.Model.C34
import C2paModel.Lemmas.Split
import C2paModel.Lemmas.Ascii
import C2paModel.Lemmas.DecideRun
/-
C34 — every reader of the model is `some ∘ (a total function of the pieces of its input)`: the pieces
are `segs u`, the `/`-segments of the normal form of `u`, and for a manifest label its `:`-pieces
(`ofPieces`), for the instance-suffix helpers the `.`- and `__`-pieces of a label (`lwiS`, `laiS`).
Totality is read off these equations; what a reader returns on a URI a builder wrote is
`segs (builder …) = the segments it was built from`, then evaluation of the total function on an
explicit list.
-/
namespace C2pa.C34

/-! `mem_cons_all`, `mem_nil_all`: `List.forall_mem_cons.mpr ⟨_, _⟩` and `List.forall_mem_nil` in
the argument order in which the proofs below chain them to get `∀ x ∈ [a, b, …], p x`. -/

theorem mem_cons_all {α : Type} {p : α → Prop} {a : α} {l : List α} (ha : p a)
    (hl : ∀ x ∈ l, p x) : ∀ x ∈ a :: l, p x :=
  List.forall_mem_cons.mpr ⟨ha, hl⟩

theorem mem_nil_all {α : Type} {p : α → Prop} : ∀ x ∈ ([] : List α), p x :=
  List.forall_mem_nil p

/-! `splitOnC` and `joinWith` are `Data.splitSep` and `Data.joinSep` at `Char` (`headCons` is the inner
`match` of `splitSep`); the facts about them are the ones of Lemmas/Split.lean. -/

theorem splitOnC_eq (sep : Char) : ∀ s : Str, splitOnC sep s = Data.splitSep sep s
  | [] => rfl
  | c :: cs => by
    rw [splitOnC, Data.splitSep, splitOnC_eq sep cs]
    cases Data.splitSep sep cs <;> rfl

theorem joinWith_eq (sep : Char) : ∀ l : List Str, joinWith sep l = Data.joinSep sep l
  | [] => rfl
  | [_] => rfl
  | a :: b :: rest => by rw [joinWith, Data.joinSep, joinWith_eq sep (b :: rest)]

theorem splitOnC_ne_nil (sep : Char) (s : Str) : splitOnC sep s ≠ [] :=
  splitOnC_eq sep s ▸ Data.splitSep_ne_nil sep s

theorem splitOnC_length_pos (sep : Char) (s : Str) : 0 < (splitOnC sep s).length :=
  List.length_pos_iff.mpr (splitOnC_ne_nil sep s)

theorem splitOnC_eq_cons (sep : Char) (s : Str) : ∃ a t, splitOnC sep s = a :: t :=
  splitOnC_eq sep s ▸ Data.splitSep_eq_cons sep s

theorem splitOnC_of_not_mem {sep : Char} {s : Str} (h : sep ∉ s) : splitOnC sep s = [s] :=
  splitOnC_eq sep s ▸ Data.splitSep_of_not_mem h

theorem splitOnC_append_sep {sep : Char} {a : Str} (b : Str) (h : sep ∉ a) :
    splitOnC sep (a ++ sep :: b) = a :: splitOnC sep b := by
  rw [splitOnC_eq, splitOnC_eq, Data.splitSep_append_sep b h]

theorem split_join (sep : Char) : ∀ (l : List Str), l ≠ [] → (∀ x ∈ l, sep ∉ x) →
    splitOnC sep (joinWith sep l) = l :=
  fun l hne h => by rw [joinWith_eq, splitOnC_eq, Data.split_join sep l hne h]

theorem join_split_id (sep : Char) (s : Str) : joinWith sep (splitOnC sep s) = s := by
  rw [splitOnC_eq, joinWith_eq, Data.join_split]

theorem not_mem_joinWith {sep c : Char} {l : List Str} (hc : c ≠ sep) (h : ∀ x ∈ l, c ∉ x) :
    c ∉ joinWith sep l :=
  fun hm => (Data.mem_joinSep (joinWith_eq sep l ▸ hm)).elim hc fun ⟨x, hx, hcx⟩ => h x hx hcx

theorem mem_splitOnC {sep : Char} {s : Str} :
    ∀ x ∈ splitOnC sep s, sep ∉ x ∧ ∀ c ∈ x, c ∈ s :=
  splitOnC_eq sep s ▸ Data.mem_splitSep

/-! ### decimal numbers

`format!("{n}")` is core's `Nat.toDigits 10`, whose theory (digits only, never empty, read back by
`Nat.ofDigitChars`) is in `Init/Data/Nat/ToString`; `digitsVal` on digits is `Nat.ofDigitChars 10`. -/

theorem digitChar_eq : ∀ d, d < 10 → digitChar d = Nat.digitChar d := by decide

theorem showNatF_eq : ∀ f n, n < f → showNatF f n = Nat.toDigits 10 n
  | 0, _, h => absurd h (Nat.not_lt_zero _)
  | f + 1, n, _ => by
    rw [showNatF, Nat.toDigits_eq_if (by decide)]
    split
    · next hn => rw [digitChar_eq n hn]
    · rw [showNatF_eq f (n / 10) (by omega), digitChar_eq _ (Nat.mod_lt n (by decide))]

theorem showNat_eq (n : Nat) : showNat n = Nat.toDigits 10 n := showNatF_eq _ _ (Nat.lt_succ_self n)

theorem digitVal_isDigit {c : Char} (h : c.isDigit = true) : digitVal? c = some (c.toNat - '0'.toNat) := by
  simp only [Char.isDigit, Bool.and_eq_true, decide_eq_true_eq] at h
  exact if_pos h

theorem digitsVal_digits : ∀ (s : Str) (acc : Nat), (∀ c ∈ s, c.isDigit = true) →
    digitsVal s acc = some (Nat.ofDigitChars 10 s acc)
  | [], _, _ => rfl
  | c :: cs, acc, h => by
    rw [digitsVal, digitVal_isDigit (h c List.mem_cons_self), Nat.ofDigitChars_cons, Nat.mul_comm]
    exact digitsVal_digits cs _ fun d hd => h d (List.mem_cons_of_mem _ hd)

theorem showNat_all_digits (n : Nat) : ∀ c ∈ showNat n, c.isDigit = true := fun _ hc =>
  Nat.isDigit_of_mem_toDigits (by decide) (by decide) (showNat_eq n ▸ hc)

theorem showNat_ne_nil (n : Nat) : showNat n ≠ [] := showNat_eq n ▸ Nat.toDigits_ne_nil

theorem showNat_isEmpty (n : Nat) : (showNat n).isEmpty = false :=
  List.isEmpty_eq_false_iff.mpr (showNat_ne_nil n)

theorem not_mem_showNat {c : Char} (hc : c.isDigit = false) (n : Nat) : c ∉ showNat n := by
  intro h; have := showNat_all_digits n c h; simp [hc] at this

theorem usize_roundtrip (n : Nat) (h : n < usizeLimit) : parseUsize (showNat n) = some n := by
  have hne := showNat_ne_nil n
  have hd := showNat_all_digits n
  have hv : digitsVal (showNat n) 0 = some n := by
    rw [digitsVal_digits _ _ hd, showNat_eq, Nat.ofDigitChars_ten_toDigits]
  unfold parseUsize
  cases hs : showNat n with
  | nil => exact absurd hs hne
  | cons c r =>
    have hcd : c.isDigit = true := hd c (by simp [hs])
    have hc : c ≠ '+' := by rintro rfl; revert hcd; decide
    rw [hs] at hv
    simp [hc, hv, h]

theorem parseUsize_lt {s : Str} {n : Nat} (h : parseUsize s = some n) : n < usizeLimit := by
  unfold parseUsize at h
  simp only at h
  -- the only `some` leaf of `parseUsize` sits behind `if v < usizeLimit`; every other leaf is `none`
  repeat' split at h
  all_goals first | (injection h with h; omega) | (simp at h)

theorem us_not_mem_showNat (n : Nat) : '_' ∉ showNat n := not_mem_showNat (by decide) n
theorem dot_not_mem_showNat (n : Nat) : '.' ∉ showNat n := not_mem_showNat (by decide) n

/-- the version piece `<n>_<r>` holds digits and one `_` -/
theorem not_mem_ver_reason {c : Char} (hc : c.isDigit = false) (hu : c ≠ '_') (n r : Nat) :
    c ∉ showNat n ++ '_' :: showNat r := by
  simp only [List.mem_append, List.mem_cons, not_or]
  exact ⟨not_mem_showNat hc n, hu, not_mem_showNat hc r⟩

/-! `toAsciiLower` is `Data.asciiLower` (the same body): its facts are those of Lemmas/Ascii.lean. -/

theorem toAsciiLower_toNat (c : Char) :
    (toAsciiLower c).toNat = if 65 ≤ c.toNat ∧ c.toNat ≤ 90 then c.toNat + 32 else c.toNat :=
  Data.asciiLower_toNat c

theorem lower_idem (c : Char) : toAsciiLower (toAsciiLower c) = toAsciiLower c :=
  Data.asciiLower_idem c

theorem not_mem_lower {d : Char} (hd : d.toNat < 65 ∨ (90 < d.toNat ∧ d.toNat < 97) ∨ 122 < d.toNat)
    {v : Str} (h : d ∉ v) : d ∉ lowerAscii v := by
  simp only [lowerAscii, List.mem_map, not_exists, not_and]
  intro c hc he
  exact h ((Data.asciiLower_eq_iff hd).mp he ▸ hc)

theorem lowerAscii_idem (v : Str) : lowerAscii (lowerAscii v) = lowerAscii v := by
  simp [lowerAscii, List.map_map, Function.comp_def, lower_idem]

/-! ### the normal form of a URI and its `/`-segments -/

/-- what `to_normalized_uri` does to the `=`-piece it selects -/
def addSlash (r : Str) : Str :=
  if !r.isEmpty && (cManifestStore ++ ['/']).isPrefixOf r then '/' :: r else r

/-- `to_normalized_uri` without its panic layer (a split is never empty: the last arm is not taken) -/
def normal (u : Str) : Str :=
  addSlash (match splitOnC '=' u with
    | [a] => a
    | _ :: b :: _ => b
    | [] => [])

/-- a split is never empty, so neither `parts[0]` nor `parts[1]` is out of range -/
theorem norm_eq (u : Str) : toNormalizedUri u = some (normal u) := by
  obtain ⟨a, t, hs⟩ := splitOnC_eq_cons '=' u
  unfold toNormalizedUri normal
  rw [hs]
  cases t <;> simp [idx, addSlash] <;> split <;> rfl

theorem normal_noEq {r : Str} (h : '=' ∉ r) : normal r = addSlash r := by
  rw [normal, splitOnC_of_not_mem h]

theorem eq_not_mem_prefix : '=' ∉ cJumbfPrefix := by unfold cJumbfPrefix; decide_run

theorem normal_prefixed {r : Str} (h : '=' ∉ r) : normal (cJumbfPrefix ++ '=' :: r) = addSlash r := by
  rw [normal, splitOnC_append_sep _ eq_not_mem_prefix, splitOnC_of_not_mem h]

theorem addSlash_noSlash {a : Str} (h : '/' ∉ a) : addSlash a = a := by
  unfold addSlash
  split
  · next hh =>
    simp only [Bool.and_eq_true] at hh
    exact absurd ((List.isPrefixOf_iff_prefix.1 hh.2).subset (by decide)) h
  · rfl

/-- the `/`-segments of the normal form: what every reader looks at -/
def segs (u : Str) : List Str := splitOnC '/' (normal u)

theorem segs_ne_nil (u : Str) : segs u ≠ [] := splitOnC_ne_nil _ _

theorem normal_eq_join (u : Str) : normal u = joinWith '/' (segs u) := (join_split_id '/' _).symm

theorem normal_piece (u : Str) : ∃ y ∈ splitOnC '=' u, normal u = addSlash y := by
  unfold normal
  rcases hs : splitOnC '=' u with _ | ⟨a, _ | ⟨b, t⟩⟩
  · exact absurd hs (splitOnC_ne_nil _ _)
  · exact ⟨a, by simp, rfl⟩
  · exact ⟨b, by simp, rfl⟩

theorem segs_noSlash {s : Str} (h : '/' ∉ s) : ∃ o, segs s = [o] := by
  obtain ⟨y, hy, e⟩ := normal_piece s
  have hy' : '/' ∉ y := fun hc => h ((mem_splitOnC y hy).2 _ hc)
  exact ⟨y, by rw [segs, e, addSlash_noSlash hy', splitOnC_of_not_mem hy']⟩

/-! ### absolute / relative JUMBF URIs: the segments of what each builder writes -/

/-- segment usable inside a JUMBF URI -/
def okSeg (s : Str) : Prop := '/' ∉ s ∧ '=' ∉ s

instance (s : Str) : Decidable (okSeg s) := by unfold okSeg; infer_instance

theorem okSeg_nil : okSeg [] := by decide

theorem okSeg_store : okSeg cManifestStore := by unfold cManifestStore; decide_run
theorem okSeg_assertions : okSeg cAssertions := by unfold cAssertions; decide_run
theorem okSeg_signature : okSeg cSignature := by unfold cSignature; decide_run
theorem okSeg_databoxes : okSeg cDataboxes := by unfold cDataboxes; decide_run
theorem okSeg_credentials : okSeg cCredentials := by unfold cCredentials; decide_run

theorem assertions_ne_store : cAssertions ≠ cManifestStore := by
  unfold cAssertions cManifestStore; decide_run
theorem databoxes_ne_store : cDataboxes ≠ cManifestStore := by
  unfold cDataboxes cManifestStore; decide_run
theorem credentials_ne_store : cCredentials ≠ cManifestStore := by
  unfold cCredentials cManifestStore; decide_run
theorem databoxes_ne_assertions : cDataboxes ≠ cAssertions := by
  unfold cDataboxes cAssertions; decide_run
theorem assertions_ne_nil : cAssertions ≠ [] := by unfold cAssertions; decide_run
theorem store_ne_nil : cManifestStore ≠ [] := by unfold cManifestStore; decide_run

/-- absolute URI with the given path segments after the manifest store -/
def absUri (segs : List Str) : Str := cJumbfPrefix ++ '=' :: joinWith '/' ([] :: cManifestStore :: segs)

theorem toManifestUri_eq (m : Str) : toManifestUri m = absUri [m] := by
  simp [toManifestUri, absUri, joinWith]
theorem toAssertionUri_eq (m a : Str) : toAssertionUri m a = absUri [m, cAssertions, a] := by
  simp [toAssertionUri, toManifestUri, absUri, joinWith]
theorem toSignatureUri_eq (m : Str) : toSignatureUri m = absUri [m, cSignature] := by
  simp [toSignatureUri, toManifestUri, absUri, joinWith]
theorem toDataboxUri_eq (m a : Str) : toDataboxUri m a = absUri [m, cDataboxes, a] := by
  simp [toDataboxUri, toManifestUri, absUri, joinWith]
theorem toCredentialUri_eq (m a : Str) : toCredentialUri m a = absUri [m, cCredentials, a] := by
  simp [toCredentialUri, toManifestUri, absUri, joinWith]

/-- relative URI `self#jumbf=<box>/<a>/…` -/
def relUri (segs : List Str) : Str := cJumbfPrefix ++ '=' :: joinWith '/' segs

/-- both are the first `sep`-piece of the same string -/
theorem prefix_sep_eq {sep : Char} (a : Str) {p b : Str} (hp : sep ∉ p) (hb : sep ∉ b)
    (h : (p ++ [sep]).isPrefixOf (b ++ sep :: a) = true) : p = b := by
  obtain ⟨t, ht⟩ := List.isPrefixOf_iff_prefix.mp h
  have hs := congrArg (splitOnC sep) ht
  rw [List.append_assoc, List.singleton_append, splitOnC_append_sep _ hp, splitOnC_append_sep _ hb] at hs
  exact (List.cons.inj hs).1

theorem addSlash_rel {box a : Str} (hb : '/' ∉ box) (hne : box ≠ cManifestStore) :
    addSlash (box ++ '/' :: a) = box ++ '/' :: a := by
  unfold addSlash
  split
  · next h =>
    simp only [Bool.and_eq_true] at h
    exact absurd (prefix_sep_eq a (by decide) hb h.2).symm hne
  · rfl

theorem addSlash_join {l : List Str} (h : ∀ x ∈ l, '/' ∉ x) (hh : l.head? ≠ some cManifestStore) :
    addSlash (joinWith '/' l) = joinWith '/' l := by
  rcases l with _ | ⟨a, _ | ⟨b, t⟩⟩
  · rfl
  · exact addSlash_noSlash (h a (by simp))
  · exact addSlash_rel (h a (by simp)) (by simpa using hh)

/-- the segments of `self#jumbf=<l joined by />` are `l`; an absolute URI is the case `l = "" :: "c2pa" :: …` -/
theorem segs_relUri {l : List Str} (hne : l ≠ []) (h : ∀ x ∈ l, okSeg x)
    (hh : l.head? ≠ some cManifestStore) : segs (relUri l) = l := by
  rw [segs, relUri, normal_prefixed (not_mem_joinWith (by decide) fun x hx => (h x hx).2),
    addSlash_join (fun x hx => (h x hx).1) hh, split_join '/' l hne fun x hx => (h x hx).1]

theorem segs_abs {l : List Str} (h : ∀ x ∈ l, okSeg x) : segs (absUri l) = [] :: cManifestStore :: l :=
  segs_relUri (List.cons_ne_nil _ _) (mem_cons_all okSeg_nil (mem_cons_all okSeg_store h))
    (by simpa using store_ne_nil.symm)

theorem segs_rel {box a : Str} (hb : okSeg box) (ha : okSeg a) (hne : box ≠ cManifestStore) :
    segs (relUri [box, a]) = [box, a] :=
  segs_relUri (List.cons_ne_nil _ _) (mem_cons_all hb (mem_cons_all ha mem_nil_all)) (by simpa using hne)

theorem segs_bare {a : Str} (ha : okSeg a) : segs a = [a] := by
  rw [segs, normal_noEq ha.2, addSlash_noSlash ha.1, splitOnC_of_not_mem ha.1]

/-! ### the readers on segments -/

def mlabelS : List Str → Option Str
  | _ :: b :: c :: _ => if b = cManifestStore then some c else none
  | _ => none

def alabelS : List Str → Option Str
  | a :: b :: _ :: d :: e :: _ =>
    if b = cManifestStore ∧ (d = cAssertions ∨ d = cDataboxes) then some e
    else if a = cAssertions then some b else none
  | a :: b :: _ => if a = cAssertions then some b else none
  | _ => none

def relS (u : Str) : List Str → Str
  | _ :: b :: _ :: d :: e :: t =>
    if b = cManifestStore then cJumbfPrefix ++ '=' :: joinWith '/' (d :: e :: t) else u
  | _ => u

theorem mlabelS_mem {l : List Str} {c : Str} (h : mlabelS l = some c) : c ∈ l := by
  unfold mlabelS at h
  split at h
  · split at h <;> cases h
    simp
  · cases h

theorem mlabelS_noSlash {s : Str} (h : '/' ∉ s) : mlabelS (segs s) = none := by
  obtain ⟨o, ho⟩ := segs_noSlash h
  rw [ho]; rfl

theorem mlabel_eq (u : Str) : manifestLabelFromUri u = some (mlabelS (segs u)) := by
  simp only [manifestLabelFromUri, norm_eq, Option.bind_some, bind, pure, segs]
  rcases splitOnC '/' (normal u) with _ | ⟨a, _ | ⟨b, _ | ⟨c, t⟩⟩⟩ <;> simp [lenGtAndEq, idx, mlabelS]
  split <;> rfl

theorem abs_eq (m u : Str) : toAbsoluteUri m u =
    some (if (mlabelS (segs u)).isSome then u else toManifestUri m ++ '/' :: normal u) := by
  simp only [toAbsoluteUri, norm_eq, Option.bind_some, bind, pure]
  rw [show splitOnC '/' (normal u) = segs u from rfl]
  rcases segs u with _ | ⟨a, _ | ⟨b, _ | ⟨c, t⟩⟩⟩ <;> simp [lenGtAndEq, idx, mlabelS]
  split <;> simp [*]

theorem rel_eq (u : Str) : toRelativeUri u = some (relS u (segs u)) := by
  simp only [toRelativeUri, norm_eq, Option.bind_some, bind, pure, segs]
  rcases splitOnC '/' (normal u) with _ | ⟨a, _ | ⟨b, _ | ⟨c, _ | ⟨d, _ | ⟨e, t⟩⟩⟩⟩⟩ <;>
    simp [lenGtAndEq, idx, sliceFrom, relS]
  split <;> rfl

theorem alabel_eq (u : Str) : assertionLabelFromUri u = some (alabelS (segs u)) := by
  simp only [assertionLabelFromUri, norm_eq, Option.bind_some, bind, pure, segs]
  rcases splitOnC '/' (normal u) with _ | ⟨a, _ | ⟨b, _ | ⟨c, _ | ⟨d, _ | ⟨e, t⟩⟩⟩⟩⟩ <;>
    simp [lenGtAndEq, idx, alabelS, apply_ite some]
  by_cases hb : b = cManifestStore <;> simp [hb]

theorem box_eq (u : Str) : boxNameFromUri u = some (segs u).getLast? := by
  simp [boxNameFromUri, norm_eq, segs]

/-! ### the instance-suffix helpers (`claim.rs`, `assertion.rs`) without their panic layer

Each `idx` of these helpers sits behind a length test or takes the first piece of a split. -/

/-- the first piece of a split (a split is never empty) -/
def firstOf (sep : Char) (s : Str) : Str := (splitOnC sep s).headD []

theorem split_zero (sep : Char) (s : Str) : (splitOnC sep s)[0]? = some (firstOf sep s) := by
  obtain ⟨a, t, h⟩ := splitOnC_eq_cons sep s
  simp [firstOf, h]

/-- `__<n>` -/
def instSuffix : Option Nat → Str
  | none => []
  | some n => '_' :: '_' :: showNat n

/-- `.<fmt>` -/
def fmtSuffix : Option Str → Str
  | none => []
  | some f => '.' :: f

/-- the ingredient-thumbnail labels `c2pa.thumbnail.ingredient[__<n>][.<fmt>]` -/
def ing (n : Option Nat) (f : Option Str) : Str := cIngThumb ++ (instSuffix n ++ fmtSuffix f)

/-- `get_thumbnail_image_type` -/
def imgS (l : Str) : Option Str :=
  if containsSub "thumbnail".toList l = true then
    (splitOnC '.' l)[3]?.map fun c3 => lowerAscii (firstOf '_' c3)
  else none

theorem imageType_eq (l : Str) : thumbnailImageType l = some (imgS l) := by
  unfold thumbnailImageType imgS
  rcases splitOnC '.' l with _ | ⟨a, _ | ⟨b, _ | ⟨c, _ | ⟨d, t⟩⟩⟩⟩ <;>
    simp [-String.reduceToList, idx, split_zero, lowerAscii, apply_ite some] <;> split <;> rfl

/-- `get_thumbnail_instance` -/
def instS (l : Str) : Option Nat :=
  if thumbnailType l = cIngThumb then
    match splitDU l with
    | [_, c1] => parseUsize (firstOf '.' c1)
    | _ => some 0
  else none

theorem instance_eq (l : Str) : thumbnailInstance l = some (instS l) := by
  unfold thumbnailInstance instS
  rcases splitDU l with _ | ⟨a, _ | ⟨b, _ | ⟨c, t⟩⟩⟩ <;> simp [idx, split_zero, apply_ite some]

/-- `Claim::label_with_instance` -/
def lwiS (l : Str) (n : Nat) : Str :=
  if n = 0 then l
  else if thumbnailType l = cIngThumb then ing (some n) (imgS l)
  else l ++ instSuffix (some n)

theorem lwi_eq (l : Str) (n : Nat) : labelWithInstance l n = some (lwiS l n) := by
  unfold labelWithInstance lwiS
  by_cases h0 : n = 0
  · simp [h0]
  by_cases ht : thumbnailType l = cIngThumb
  · cases h : imgS l <;> simp [h0, ht, imageType_eq, h, ing, instSuffix, fmtSuffix]
  · simp [h0, ht, instSuffix]

theorem splitDU_head_prefix : ∀ s : Str, ∃ h t, splitDU s = h :: t ∧ h <+: s := by
  intro s
  fun_induction splitDU s with
  | case1 => exact ⟨[], [], rfl, List.prefix_refl _⟩
  | case2 a => exact ⟨[a], [], rfl, List.prefix_refl _⟩
  | case3 a b rest hab ih => exact ⟨[], _, rfl, List.nil_prefix⟩
  | case4 a b rest hab ih =>
    obtain ⟨h, t, hs, hp⟩ := ih
    refine ⟨a :: h, t, ?_, ?_⟩
    · rw [hs]; rfl
    · exact List.cons_prefix_cons.2 ⟨rfl, hp⟩

/-- label and instance of the last segment of a link: the `if let Some(s) = v2.last()` branch of
`assertion_label_from_link` -/
def laiS (s : Str) : Str × Nat :=
  if thumbnailType s = cIngThumb then (ing none (imgS s), (instS s).getD 0)
  else ((splitDU s).headD [], match splitDU s with
    | [_, p1] => (parseUsize p1).getD 0
    | _ => 0)

theorem lai_eq (s : Str) : labelAndInstance s = some (laiS s) := by
  unfold labelAndInstance laiS
  by_cases ht : thumbnailType s = cIngThumb
  · cases h : imgS s <;> simp [ht, imageType_eq, instance_eq, h, ing, instSuffix, fmtSuffix]
  · obtain ⟨a, t, hs, -⟩ := splitDU_head_prefix s
    rcases t with _ | ⟨b, _ | ⟨c, t'⟩⟩ <;> simp [ht, hs, idx]

theorem link_eq (u : Str) :
    assertionLabelFromLink u = some (laiS ((segs u).getLast (segs_ne_nil u))) := by
  simp only [assertionLabelFromLink, norm_eq, Option.bind_some, bind]
  rw [show splitOnC '/' (normal u) = segs u from rfl, List.getLast?_eq_some_getLast (segs_ne_nil u)]
  exact lai_eq _

/-! ### the manifest label on its `:`-pieces -/

/-- the `parts[3]` block -/
def vendorOf : Option Str → Option (Option Str)
  | none => some none
  | some d => if d = [] then some none else if vendorBad d then none else some (some d)

/-- `<version>[_<reason>]`; a third `_`-piece is ignored -/
def readVer (e : Str) : Option (Option Nat × Option Nat) :=
  match splitOnC '_' e with
  | v0 :: r :: _ => (parseUsize v0).bind fun ver => (parseUsize r).map fun rr => (some ver, some rr)
  | [v0] => (parseUsize v0).map fun ver => (some ver, none)
  | [] => none

/-- the `parts[4]` block -/
def versionOf : Option Str → Option (Option Nat × Option Nat)
  | none => some (none, none)
  | some e => if e = [] then some (none, none) else readVer e

theorem parseVendor_eq (parts : List Str) : parseVendor parts = some (vendorOf parts[3]?) := by
  rcases parts with _ | ⟨a, _ | ⟨b, _ | ⟨c, _ | ⟨d, t⟩⟩⟩⟩
  iterate 4 rfl
  by_cases hd : d = [] <;> by_cases hb : vendorBad d = true <;> simp [parseVendor, vendorOf, idx, hd, hb]

theorem parseVersion_eq (parts : List Str) : parseVersion parts = some (versionOf parts[4]?) := by
  rcases parts with _ | ⟨a, _ | ⟨b, _ | ⟨c, _ | ⟨d, _ | ⟨e, t⟩⟩⟩⟩⟩
  iterate 5 rfl
  by_cases he : e = []
  · simp [parseVersion, versionOf, idx, he]
  · have h5 : (a :: b :: c :: d :: e :: t).length > 4 := by simp
    have hne : (!e.isEmpty) = true := by simpa using he
    -- a split is never empty: `vp[0]` is in range
    obtain ⟨v0, vs, hv⟩ := splitOnC_eq_cons '_' e
    simp only [parseVersion, if_pos h5, idx, List.getElem?_cons_succ, List.getElem?_cons_zero,
      Option.bind_some, bind, pure, hne, if_true, versionOf, if_neg he, readVer, hv]
    rcases vs with _ | ⟨r, rs⟩
    · cases h : parseUsize v0 <;> simp [h]
    · cases h : parseUsize v0 <;> cases h' : parseUsize r <;> simp [h, h']

/-- `manifest_label_to_parts` on the `:`-pieces of a bare label: the code's tests as a table of the three
shapes it accepts, `<vendor>:urn:uuid:<guid>`, `urn:uuid:<guid>` whatever follows, and
`urn:c2pa:<guid>[:<vendor>[:<version>[_<reason>]]]` -/
def ofPieces : List Str → Option Parts
  | a :: b :: c :: t =>
    match decide (b = cUrn), decide (a = cUrn), decide (b = cUuid), decide (b = cC2pa), decide (c = cUuid), t with
    | true, _, _, _, true, [guid] => some ⟨guid, true, some a, none, none⟩
    | false, true, true, _, _, _ => some ⟨c, true, none, none, none⟩
    | false, true, false, true, _, t =>
      if t.length > 2 then none
      else (vendorOf t[0]?).bind fun vendor => (versionOf t[1]?).map fun vr => ⟨c, false, vendor, vr.1, vr.2⟩
    | _, _, _, _, _, _ => none
  | _ => none

theorem parts_eq (u : Str) : manifestLabelToParts u =
    some (ofPieces (splitOnC ':' ((mlabelS (segs u)).getD u))) := by
  simp only [manifestLabelToParts, mlabel_eq, Option.bind_some, bind, pure]
  rcases splitOnC ':' ((mlabelS (segs u)).getD u) with _ | ⟨a, _ | ⟨b, _ | ⟨c, t⟩⟩⟩
  iterate 3 rfl
  have h3 : ¬ (a :: b :: c :: t).length < 3 := by simp
  simp only [if_neg h3, idx, List.getElem?_cons_zero, List.getElem?_cons_succ, Option.bind_some, ofPieces,
    parseVendor_eq, parseVersion_eq]
  by_cases hb : b = cUrn
  · subst hb
    rcases t with _ | ⟨d, _ | ⟨e, t⟩⟩ <;> by_cases hc : c = cUuid <;> simp [hc]
  · by_cases ha : a = cUrn
    · by_cases hu : b = cUuid
      · subst hu; simp [ha, hb]
      · by_cases hc : b = cC2pa
        · have hl : (t.length + 3 > 5) = (t.length > 2) := by simp; omega
          subst hc; simp [ha, hb, hu, hl]
          split
          · rfl
          · cases vendorOf t[0]? <;> cases versionOf t[1]? <;> rfl
        · simp [ha, hb, hu, hc]
    · simp [ha, hb]

/-! ### text containment, for Lemmas/C20Bridge: `contains` is the infix relation -/

theorem containsSub_iff (p : Str) : ∀ s : Str, containsSub p s = true ↔ p <:+: s := by
  intro s
  induction s with
  | nil =>
    unfold containsSub
    constructor
    · intro h
      have : p = [] := by simpa using h
      rw [this]
      exact List.infix_refl _
    · intro h
      have : p = [] := List.eq_nil_of_infix_nil h
      simp [this]
  | cons c cs ih =>
    unfold containsSub
    rw [Bool.or_eq_true, ih, List.isPrefixOf_iff_prefix, List.infix_cons_iff]

theorem mem_joinWith_infix (sep : Char) : ∀ (l : List Str) (x : Str), x ∈ l → x <:+: joinWith sep l := by
  intro l
  induction l with
  | nil => intro x hx; cases hx
  | cons a rest ih =>
    intro x hx
    cases rest with
    | nil =>
      have : x = a := by simpa using hx
      subst this
      simp [joinWith]
    | cons b rest' =>
      simp only [joinWith]
      rcases List.mem_cons.1 hx with rfl | hx
      · exact (List.prefix_append _ _).isInfix
      · have h1 := ih x hx
        have h2 : joinWith sep (b :: rest') <:+ a ++ sep :: joinWith sep (b :: rest') :=
          ⟨a ++ [sep], by simp⟩
        exact h1.trans h2.isInfix

/-- The segment is a piece of the normal form, the normal form is one `=`-piece of `r`, and the `/`
that `addSlash` may put in front of it is not in a segment (hence `p ≠ []`). -/
theorem seg_prefix_infix {r x p : Str} (hx : x ∈ segs r) (hp : p <+: x) (hne : p ≠ []) : p <:+: r := by
  have hpn : p <:+: normal r := by
    have := mem_joinWith_infix '/' _ _ hx
    rw [segs, join_split_id] at this
    exact hp.isInfix.trans this
  obtain ⟨y, hy, e⟩ := normal_piece r
  have hin : y <:+: r := by
    rw [← join_split_id '=' r]; exact mem_joinWith_infix '=' _ y hy
  rw [e, addSlash] at hpn
  split at hpn
  · rcases List.infix_cons_iff.1 hpn with hpre | hinf
    · cases p with
      | nil => exact absurd rfl hne
      | cons c cs =>
        rw [(List.cons_prefix_cons.1 hpre).1] at hp
        exact absurd (hp.subset List.mem_cons_self) (mem_splitOnC x hx).1
    · exact hinf.trans hin
  · exact hpn.trans hin

end C2pa.C34
