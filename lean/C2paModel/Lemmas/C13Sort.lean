import C2paModel.Model.C13
/-
C13 — facts about the stable insertion sort used by the model for `sort_by_key`/`sort_by`/`sort`:
it is a permutation, its result is ordered by key, it is the identity on ordered input and it
keeps the relative order of entries with equal keys.
-/
namespace C2pa.C13

variable {α : Type}

theorem insertAfter_perm (key : α → Nat) (x : α) (l : List α) :
    (insertAfter key x l).Perm (x :: l) := by
  fun_induction insertAfter key x l with
  | case1 => exact List.Perm.refl _
  | case2 y ys h ih => exact (List.Perm.cons y ih).trans (List.Perm.swap x y ys)
  | case3 y ys h => exact List.Perm.refl _

theorem mem_insertAfter (key : α → Nat) (x y : α) (l : List α) :
    y ∈ insertAfter key x l ↔ y = x ∨ y ∈ l := by
  rw [(insertAfter_perm key x l).mem_iff]; simp

theorem insertAfter_sorted (key : α → Nat) (x : α) (l : List α)
    (h : l.Pairwise (fun a b => key a ≤ key b)) :
    (insertAfter key x l).Pairwise (fun a b => key a ≤ key b) := by
  fun_induction insertAfter key x l with
  | case1 => exact List.pairwise_singleton _ _
  | case2 y ys hk ih =>
    rw [List.pairwise_cons] at h ⊢
    refine ⟨fun z hz => ?_, ih h.2⟩
    rcases (mem_insertAfter key x z ys).1 hz with rfl | hz
    · exact hk
    · exact h.1 z hz
  | case3 y ys hk =>
    refine List.pairwise_cons.2 ⟨fun z hz => ?_, h⟩
    have hy : key x ≤ key y := Nat.le_of_lt (Nat.lt_of_not_le hk)
    rcases List.mem_cons.1 hz with rfl | hz
    · exact hy
    · exact Nat.le_trans hy ((List.pairwise_cons.1 h).1 z hz)

theorem insertAfter_eq_append (key : α → Nat) (x : α) (l : List α)
    (h : ∀ y ∈ l, key y ≤ key x) : insertAfter key x l = l ++ [x] := by
  fun_induction insertAfter key x l with
  | case1 => rfl
  | case2 y ys hk ih => rw [ih fun z hz => h z (List.mem_cons_of_mem _ hz)]; rfl
  | case3 y ys hk => exact absurd (h y (List.mem_cons_self ..)) hk

theorem insertAfter_filter (key : α → Nat) (x : α) (l : List α) (k : Nat)
    (h : l.Pairwise (fun a b => key a ≤ key b)) :
    (insertAfter key x l).filter (fun a => key a == k) =
      l.filter (fun a => key a == k) ++ (if key x == k then [x] else []) := by
  fun_induction insertAfter key x l with
  | case1 => rw [List.filter_cons]; rfl
  | case2 y ys hk ih =>
    rw [List.filter_cons, List.filter_cons, ih (List.pairwise_cons.1 h).2]
    split <;> rfl
  | case3 y ys hk =>
    rw [List.filter_cons]
    split
    · next hx =>
      -- every element of `y :: ys` has a key above `key x = k`
      have hnone : (y :: ys).filter (fun a => key a == k) = [] :=
        List.filter_eq_nil_iff.2 fun z hz => by
          have hxk : key x = k := by simpa using hx
          have : key y ≤ key z := by
            rcases List.mem_cons.1 hz with rfl | hz
            · exact Nat.le_refl _
            · exact (List.pairwise_cons.1 h).1 z hz
          simp; omega
      rw [hnone]; rfl
    · exact (List.append_nil _).symm

theorem stableSort_append (key : α → Nat) (a b : List α) :
    stableSort key (a ++ b) = b.foldl (fun acc x => insertAfter key x acc) (stableSort key a) :=
  List.foldl_append ..

/-- the sort is built by inserting the entries one after the other: every fact about it is proved
from what one insertion does -/
theorem stableSort_rec (key : α → Nat) {P : List α → List α → Prop} (nil : P [] [])
    (snoc : ∀ l x, P l (stableSort key l) → P (l ++ [x]) (insertAfter key x (stableSort key l)))
    (l : List α) : P l (stableSort key l) := by
  have go : ∀ (l pre : List α), P pre (stableSort key pre) → P (pre ++ l) (stableSort key (pre ++ l)) := by
    intro l
    induction l with
    | nil => intro pre h; rwa [List.append_nil]
    | cons x xs ih =>
      intro pre h
      rw [List.append_cons]
      exact ih _ (by rw [stableSort_append]; exact snoc pre x h)
  exact go l [] nil

theorem stableSort_perm (key : α → Nat) (l : List α) : (stableSort key l).Perm l :=
  stableSort_rec key (P := fun l s => s.Perm l) (List.Perm.refl _) (fun l x ih =>
    (insertAfter_perm key x _).trans ((ih.cons x).trans (List.perm_append_singleton x l).symm)) l

theorem mem_stableSort (key : α → Nat) (l : List α) (x : α) : x ∈ stableSort key l ↔ x ∈ l :=
  (stableSort_perm key l).mem_iff

theorem stableSort_sorted (key : α → Nat) (l : List α) :
    (stableSort key l).Pairwise (fun a b => key a ≤ key b) :=
  stableSort_rec key (P := fun _ s => s.Pairwise _) List.Pairwise.nil
    (fun _ x ih => insertAfter_sorted key x _ ih) l

theorem stableSort_of_sorted (key : α → Nat) (l : List α)
    (h : l.Pairwise (fun a b => key a ≤ key b)) : stableSort key l = l :=
  stableSort_rec key (P := fun l s => l.Pairwise (fun a b => key a ≤ key b) → s = l) (fun _ => rfl)
    (fun l x ih h => by
      rw [List.pairwise_append] at h
      rw [ih h.1, insertAfter_eq_append key x l fun y hy => h.2.2 y hy x (List.mem_cons_self ..)]) l h

theorem stableSort_stable (key : α → Nat) (l : List α) (k : Nat) :
    (stableSort key l).filter (fun a => key a == k) = l.filter (fun a => key a == k) :=
  stableSort_rec key (P := fun l s => s.filter (fun a => key a == k) = l.filter _) rfl (fun l x ih => by
    rw [insertAfter_filter key x _ k (stableSort_sorted key l), ih, List.filter_append, List.filter_cons]
    split <;> rfl) l

end C2pa.C13
