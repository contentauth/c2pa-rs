import C2paModel.Model.C02
import C2paModel.Lemmas.C02A
/-
C02 — soundness of the ingredient walk (`Store::ingredient_checks` with its `visited` set and
depth bound): `walk_sound`, from the invariant `WalkSpec` of a depth-first walk.
-/
namespace C2pa.C02
open C2pa.C18

/-- what the walk requires of one reference -/
def RefOk (dec : Dec) (store : List Manifest) (reds : List Redaction) (r : IngRef) : Prop :=
  ∃ t, findManifest r.target store = some t ∧ (refFailures reds r t).log = [] ∧
    (verifyClaim dec reds t).log = []

theorem RefOk.of_found {dec : Dec} {store : List Manifest} {reds : List Redaction} {r : IngRef} {t : Manifest}
    (h : RefOk dec store reds r) (hf : findManifest r.target store = some t) :
    (refFailures reds r t).log = [] ∧ (verifyClaim dec reds t).log = [] := by
  obtain ⟨t0, hf0, h1, h2⟩ := h
  cases hf.symm.trans hf0
  exact ⟨h1, h2⟩

/-- `l` names a manifest of the store all of whose references pass and lead into `v` -/
def Processed (dec : Dec) (store : List Manifest) (reds : List Redaction) (v : List String)
    (l : String) : Prop :=
  ∃ t, findManifest l store = some t ∧
    ∀ r ∈ allRefs dec t, RefOk dec store reds r ∧ r.target ∈ v

theorem Processed.mono {dec : Dec} {store : List Manifest} {reds : List Redaction}
    {v v' : List String} {l : String} (h : Processed dec store reds v l) (hs : ∀ x ∈ v, x ∈ v') :
    Processed dec store reds v' l := by
  obtain ⟨t, ht, hr⟩ := h
  exact ⟨t, ht, fun r hmem => ⟨(hr r hmem).1, hs _ (hr r hmem).2⟩⟩

def Walk.Clean (w : Walk) : Prop := w.log = [] ∧ w.stop = false

/-- What a clean result `w'` of walking the references `refs` from state `w` tells: `w` was clean
already, and the invariant of a depth-first walk holds. `fresh` is its closure part (every label the
walk added has all its references inside the final `visited`); `walk_sound` is an induction over
`Reach` inside that closure. -/
structure WalkSpec (dec : Dec) (store : List Manifest) (reds : List Redaction)
    (refs : List IngRef) (w w' : Walk) : Prop where
  clean : w.Clean
  sub : ∀ x ∈ w.visited, x ∈ w'.visited
  refs : ∀ r ∈ refs, RefOk dec store reds r ∧ r.target ∈ w'.visited
  fresh : ∀ l ∈ w'.visited, l ∈ w.visited ∨ Processed dec store reds w'.visited l

theorem walkList_spec (dec : Dec) (store : List Manifest) (reds : List Redaction)
    (step : IngRef → Walk → Walk)
    (hstep : ∀ r w, w.stop = false → (step r w).Clean → WalkSpec dec store reds [r] w (step r w)) :
    ∀ (refs : List IngRef) (w : Walk), (walkList step refs w).Clean →
      WalkSpec dec store reds refs w (walkList step refs w)
  | [], w, h => by
    unfold walkList at h ⊢
    exact ⟨h, fun x hx => hx, fun r hr => absurd hr List.not_mem_nil, fun l hl => Or.inl hl⟩
  | r :: rest, w, h => by
    unfold walkList at h ⊢
    by_cases hs : w.stop = true
    · simp only [hs, if_true] at h
      exact absurd h.2 (by rw [hs]; simp)
    · simp only [hs] at h ⊢
      have ih := walkList_spec dec store reds step hstep rest (step r w) h
      have h1 := hstep r w (by simpa using hs) ih.clean
      refine ⟨h1.clean, fun x hx => ih.sub x (h1.sub x hx), ?_, ?_⟩
      · intro r' hr'
        rcases List.mem_cons.1 hr' with rfl | hm
        · have := h1.refs r' (List.mem_singleton.2 rfl)
          exact ⟨this.1, ih.sub _ this.2⟩
        · exact ih.refs r' hm
      · intro l hl
        rcases ih.fresh l hl with h2 | h2
        · rcases h1.fresh l h2 with h3 | h3
          · exact Or.inl h3
          · exact Or.inr (h3.mono ih.sub)
        · exact Or.inr h2

theorem walkStep_spec (dec : Dec) (store : List Manifest) (reds : List Redaction)
    (recurse : Manifest → Walk → Walk)
    (hrec : ∀ t w, (recurse t w).Clean → WalkSpec dec store reds (allRefs dec t) w (recurse t w))
    (r : IngRef) (w : Walk) (hw : w.stop = false) (h : (walkStep dec store reds recurse r w).Clean) :
    WalkSpec dec store reds [r] w (walkStep dec store reds recurse r w) := by
  unfold walkStep at h ⊢
  cases hf : findManifest r.target store with
  | none =>
    simp only [hf] at h
    exact absurd h.1 (by simp)
  | some t =>
    simp only [hf] at h ⊢
    obtain ⟨_, hlab⟩ := findManifest_some hf
    by_cases hrs : (refFailures reds r t).stop = true
    · simp only [hrs, if_true] at h
      exact absurd h.2 (by simp)
    · simp only [hrs] at h ⊢
      by_cases hvs : (verifyClaim dec reds t).stop = true
      · simp only [hvs, if_true] at h
        exact absurd h.2 (by simp)
      · simp only [hvs] at h ⊢
        -- a log still empty behind this reference was empty before it, and the reference passed
        have passed : ∀ {w1 : Walk}, w1.log = w.log ++ (refFailures reds r t).log ++ (verifyClaim dec reds t).log →
            w1.log = [] → w.log = [] ∧ RefOk dec store reds r := by
          intro w1 e1 e0
          rw [e1] at e0
          simp only [List.append_eq_nil_iff] at e0
          exact ⟨e0.1.1, t, hf, e0.1.2, e0.2⟩
        -- the two ways on: the target has been visited, or the walk enters it
        by_cases hvis : w.visited.contains t.label = true
        · simp only [hvis, if_true] at h ⊢
          obtain ⟨hl, hok⟩ := passed rfl h.1
          refine ⟨⟨hl, hw⟩, fun x hx => hx, ?_, fun l hl' => Or.inl hl'⟩
          · intro r' hr'
            rw [List.mem_singleton.1 hr']
            refine ⟨hok, ?_⟩
            rw [← hlab]
            simpa using hvis
        · simp only [hvis] at h ⊢
          have hs := hrec t _ h
          obtain ⟨hl, hok⟩ := passed rfl hs.clean.1
          refine ⟨⟨hl, hw⟩, fun x hx => hs.sub x (List.mem_cons_of_mem _ hx), ?_, ?_⟩
          · intro r' hr'
            rw [List.mem_singleton.1 hr']
            refine ⟨hok, ?_⟩
            rw [← hlab]
            exact hs.sub _ (List.mem_cons_self ..)
          · intro l hl'
            rcases hs.fresh l hl' with h2 | h2
            · rcases List.mem_cons.1 h2 with rfl | h3
              · exact Or.inr ⟨t, by rw [hlab]; exact hf, hs.refs⟩
              · exact Or.inl h3
            · exact Or.inr h2

theorem walkRefs_spec (dec : Dec) (store : List Manifest) (reds : List Redaction) :
    ∀ (fuel depth : Nat) (refs : List IngRef) (w : Walk),
      (walkRefs dec store reds fuel depth refs w).Clean →
      WalkSpec dec store reds refs w (walkRefs dec store reds fuel depth refs w)
  | 0, _, _, w, h => by
    unfold walkRefs at h
    exact absurd h.2 (by simp)
  | fuel + 1, depth, refs, w, h => by
    unfold walkRefs at h ⊢
    by_cases hd : depth ≥ maxDepth
    · simp only [hd, if_true] at h
      exact absurd h.2 (by simp)
    · simp only [hd, if_false] at h ⊢
      apply walkList_spec dec store reds _ _ refs w h
      intro r w' hw' hc
      exact walkStep_spec dec store reds _
        (fun t w2 h2 => walkRefs_spec dec store reds fuel (depth + 1) (allRefs dec t) w2 h2) r w' hw' hc

/-- manifests reachable from `root` through the (non-zero) ingredient references -/
inductive Reach (dec : Dec) (store : List Manifest) (root : Manifest) : Manifest → Prop
  | root : Reach dec store root root
  | step {m t : Manifest} {r : IngRef} : Reach dec store root m → r ∈ allRefs dec m →
      findManifest r.target store = some t → Reach dec store root t

/-- A store verification that logs nothing and does not stop has verified every
manifest reachable from the active one (paths of any length), and every reference on the way has
passed the hash comparisons of `ingredient_checks`. (`hroot`: the active manifest is the one found
under its label.) -/
theorem walk_sound (dec : Dec) (store : List Manifest) (reds : List Redaction) (root : Manifest)
    (hroot : findManifest root.label store = some root)
    (h : verifyStoreWith dec store reds root = ⟨[], false⟩) :
    ∀ t, Reach dec store root t →
      (verifyClaim dec reds t).log = [] ∧ ∀ r ∈ allRefs dec t, RefOk dec store reds r := by
  unfold verifyStoreWith at h
  by_cases hs : (verifyClaim dec reds root).stop = true
  · simp only [hs, if_true] at h
    rw [h] at hs; cases hs
  · simp only [hs] at h
    have spec := walkRefs_spec dec store reds (maxDepth + 1) 0 (allRefs dec root)
      ⟨(verifyClaim dec reds root).log, false, [root.label]⟩ ⟨congrArg Out.log h, congrArg Out.stop h⟩
    -- from here on the walk is its final state `wf`, of which `spec` says all that is needed
    generalize walkRefs dec store reds (maxDepth + 1) 0 (allRefs dec root) _ = wf at spec
    have inv : ∀ t, Reach dec store root t →
        (verifyClaim dec reds t).log = [] ∧
        ∀ r ∈ allRefs dec t, RefOk dec store reds r ∧ r.target ∈ wf.visited := by
      intro t ht
      induction ht with
      | root => exact ⟨spec.clean.1, spec.refs⟩
      | @step m t r _ hr hf ih =>
        refine ⟨((ih.2 r hr).1.of_found hf).2, ?_⟩
        rcases spec.fresh r.target (ih.2 r hr).2 with h1 | h1
        · have : r.target = root.label := by simpa using h1
          rw [this, hroot] at hf
          cases hf
          exact spec.refs
        · obtain ⟨t1, hf1, hrefs⟩ := h1
          cases hf.symm.trans hf1
          exact hrefs
    intro t ht
    exact ⟨(inv t ht).1, fun r hr => ((inv t ht).2 r hr).1⟩

end C2pa.C02
