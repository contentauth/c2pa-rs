import C2paModel.Lemmas.C13Build
import C2paModel.Lemmas.C13Run
/-
C13 — an input-level bound on the number of progress callbacks (`chunkCount`): the number of
pieces the builder returns is bounded by the number of entries, and the chunks of ordered,
non-overlapping pieces are bounded by `data.length / buf` plus the number of pieces.
This discharges the `chunkCount … ≤ u32Max` hypotheses from the inputs alone (`chunkCount_le_bound`;
the bound itself, `callbackBound`, is defined with the specification vocabulary in Lemmas/C13Spec).
-/
namespace C2pa.C13

theorem ceilDiv_le (a b : Nat) (hb : 0 < b) : ceilDiv a b ≤ a / b + 1 := by
  unfold ceilDiv
  have h1 : (a + (b - 1)) / b ≤ (a + b) / b := Nat.div_le_div_right (by omega)
  rw [Nat.add_div_right _ hb] at h1
  exact h1

/-- a piece `lo..=hi` and what lies behind it fit in `[k, N)` -/
theorem span_add_behind_le {k lo hi N : Nat} (h1 : k ≤ lo) (h2 : lo ≤ hi) (h3 : hi < N) :
    hi - lo + 1 + (N - (hi + 1)) ≤ N - k := by
  -- the two lengths add up to `N - lo`
  rw [← Nat.sub_add_comm h2, Nat.add_comm, Nat.sub_add_sub_cancel h3 (Nat.le_succ_of_le h2)]
  exact Nat.sub_le_sub_left h1 N

/-- `b` positions from `a` on end at `a + b - 1`, and that range has `b` positions -/
theorem span_of_length (a b : Nat) (hb : b ≠ 0) : a + b - 1 - a + 1 = b := by
  rw [Nat.sub_right_comm, Nat.add_sub_cancel_left, Nat.sub_add_cancel (Nat.pos_of_ne_zero hb)]

/-! ### the chunks of an ordered piece list -/

theorem chunkCount_append (buf : Nat) (a b : List Piece) :
    chunkCount buf (a ++ b) = chunkCount buf a + chunkCount buf b := by
  simp [chunkCount]

theorem WF_chunkCount {N : Nat} (buf : Nat) (hb : 0 < buf) : ∀ (L : List Piece) (k : Nat),
    WF N k L → chunkCount buf L ≤ (N - k) / buf + L.length
  | [], _, _ => Nat.zero_le _
  | p :: ps, k, ⟨h1, h2, h3, h4⟩ => by
    rw [chunkCount_cons, List.length_cons]
    split at h4
    · -- a marker is one chunk
      have ih := WF_chunkCount buf hb ps p.lo h4.2
      have hmono : (N - p.lo) / buf ≤ (N - k) / buf :=
        Nat.div_le_div_right (Nat.sub_le_sub_left h1 N)
      rw [h4.1, Nat.sub_self, ceilDiv_one buf hb, Nat.add_comm 1]
      exact Nat.succ_le_succ (Nat.le_trans ih (Nat.add_le_add_right hmono _))
    · -- a data piece of length `l` is at most `l / buf + 1` chunks, and the tail lies behind it
      have ih := WF_chunkCount buf hb ps (p.hi + 1) h4
      have hmono : (p.hi - p.lo + 1 + (N - (p.hi + 1))) / buf ≤ (N - k) / buf :=
        Nat.div_le_div_right (span_add_behind_le h1 h2 h3)
      calc _ ≤ ((p.hi - p.lo + 1) / buf + 1) + ((N - (p.hi + 1)) / buf + ps.length) :=
            Nat.add_le_add (ceilDiv_le _ buf hb) ih
        _ = ((p.hi - p.lo + 1) / buf + (N - (p.hi + 1)) / buf) + (ps.length + 1) := by
            rw [Nat.add_add_add_comm, Nat.add_comm 1]
        _ ≤ _ := Nat.add_le_add_right (Nat.le_trans Nat.div_add_div_le_add_div hmono) _

/-- ordered, non-overlapping data pieces inside `[k, N)` hold at most `N - k` bytes, and a piece needs
at most one chunk per byte -/
theorem WF_chunkCount_le {N : Nat} (buf : Nat) (hb : 0 < buf) : ∀ (L : List Piece) (k : Nat),
    WF N k L → (∀ p ∈ L, p.marker = false) → chunkCount buf L ≤ N - k
  | [], _, _, _ => Nat.zero_le _
  | p :: ps, k, ⟨h1, h2, h3, h4⟩, hm => by
    rw [hm p (List.mem_cons_self ..)] at h4
    have ih := WF_chunkCount_le buf hb ps (p.hi + 1) h4 (fun q hq => hm q (List.mem_cons_of_mem _ hq))
    have := ceilDiv_le_self (p.hi - p.lo + 1) buf hb
    rw [chunkCount_cons]
    omega

/-! ### how many pieces the exclusion branch builds -/

theorem splitRun_length (starts : List Nat) (cur : Nat × Nat) :
    (splitRun starts cur).length ≤
      1 + 2 * starts.countP (fun os => decide (cur.1 ≤ os) && decide (os ≤ cur.2)) := by
  fun_induction splitRun starts cur with
  | case1 cur => exact Nat.le_refl _
  | case2 more cur hin ih =>
    rw [List.length_cons, List.countP_cons, if_pos ((decide_le_and_le ..).2 hin)]
    omega
  | case3 os more cur hin heq ih =>
    -- the offsets inside the right part are inside the whole run
    have hmono : more.countP (fun x => decide (os ≤ x) && decide (x ≤ cur.2)) ≤
        more.countP (fun x => decide (cur.1 ≤ x) && decide (x ≤ cur.2)) :=
      List.countP_mono_left fun x _ hx =>
        (decide_le_and_le ..).2 ⟨Nat.le_trans hin.1 ((decide_le_and_le ..).1 hx).1, ((decide_le_and_le ..).1 hx).2⟩
    rw [List.length_cons, List.length_cons, List.countP_cons, if_pos ((decide_le_and_le ..).2 hin)]
    have : (splitRun more (os, cur.2)).length ≤
        1 + 2 * more.countP (fun x => decide (os ≤ x) && decide (x ≤ cur.2)) := ih
    omega
  | case4 os more cur hin ih =>
    rw [List.countP_cons, if_neg (mt (decide_le_and_le ..).1 hin)]
    exact ih

theorem countP_add_countP_of_disjoint {α : Type} (p q : α → Bool) (l : List α)
    (hd : ∀ x ∈ l, p x = true → q x = false) :
    l.countP p + l.countP q = l.countP (fun x => p x || q x) := by
  induction l with
  | nil => rfl
  | cons a as ih =>
    have := ih (fun x hx => hd x (List.mem_cons_of_mem _ hx))
    have ha := hd a (List.mem_cons_self ..)
    simp only [List.countP_cons]
    cases hp : p a
    · simp only [Bool.false_or, Bool.false_eq_true, if_false]; omega
    · simp only [ha hp, Bool.true_or, Bool.false_eq_true, if_true, if_false]; omega

theorem splitAll_length {N : Nat} (starts : List Nat) : ∀ (rs : List (Nat × Nat)) (k : Nat),
    WFR N k rs →
      (splitAll starts rs).length ≤ rs.length + 2 * starts.countP (fun os => runCover rs os)
  | [], _, _ => Nat.zero_le _
  | r :: rs, k, ⟨h1, h2, h3, h4⟩ => by
    have a := splitRun_length starts r
    have b := splitAll_length starts rs (r.2 + 1) h4
    -- an offset inside `r` is in none of the later ranges
    have hsum := countP_add_countP_of_disjoint (fun os => decide (r.1 ≤ os) && decide (os ≤ r.2))
      (fun os => runCover rs os) starts (fun x _ hx =>
        WFR_below rs (r.2 + 1) x h4 (Nat.lt_succ_of_le ((decide_le_and_le ..).1 hx).2))
    rw [splitAll_cons, List.length_append, List.length_cons]
    simp only [runCover_cons, ← hsum]
    refine Nat.le_trans (Nat.add_le_add a b) (Nat.le_of_eq ?_)
    rw [Nat.add_add_add_comm, Nat.add_comm 1, ← Nat.mul_add]

theorem exclPieces_length {N : Nat} (dataEnd : Nat) (rs : List (Nat × Nat)) (ms : List Nat)
    (hw : WFR N 0 rs) : (exclPieces dataEnd rs ms).length ≤ rs.length + 2 * ms.length := by
  have hs := stableSort_sorted id ms
  have a := splitAll_length (N := N) (stableSort id ms) rs 0 hw
  have b := length_addGaps dataEnd (stableSort id ms) (splitAll (stableSort id ms) rs)
  simp only [splitAll_anyContains hs hw] at b
  rw [exclPieces_eq dataEnd rs ms hw, (stableSort_perm Piece.lo _).length_eq,
    ← (stableSort_perm id ms).length_eq,
    List.length_eq_countP_add_countP (fun os => runCover rs os) (l := stableSort id ms), Nat.mul_add]
  -- a cut costs two pieces per offset inside a range, a gap marker one per offset outside
  exact Nat.le_trans b (by omega)

/-! ### the inclusion entries -/

/-- every inclusion entry needs at most `N / buf + 2` callbacks: at most one marker, then
`x.length ≤ N` bytes -/
theorem entryPieces_chunkCount {N : Nat} (buf : Nat) (hb : 0 < buf) (x : HashRange)
    (hx : x.start + x.length ≤ N) : chunkCount buf (entryPieces x) ≤ N / buf + 2 := by
  unfold entryPieces
  split
  · exact Nat.zero_le _
  · next hl =>
    have hcd := ceilDiv_le x.length buf hb
    have hmono : x.length / buf ≤ N / buf :=
      Nat.div_le_div_right (Nat.le_trans (Nat.le_add_left _ _) hx)
    have hmk : chunkCount buf (match x.off with | some o => [(⟨o, o, true⟩ : Piece)] | none => []) ≤ 1 := by
      cases x.off with
      | none => exact Nat.zero_le _
      | some o =>
        show ceilDiv (o - o + 1) buf + 0 ≤ 1
        rw [Nat.sub_self, ceilDiv_one buf hb]
        exact Nat.le_refl _
    rw [chunkCount_append]
    refine Nat.le_trans (Nat.add_le_add hmk (?_ : _ ≤ N / buf + 1)) (by omega)
    show ceilDiv (x.start + x.length - 1 - x.start + 1) buf + 0 ≤ _
    rw [span_of_length _ _ hl]
    omega

theorem inclLoop_chunkCount {N : Nat} (buf : Nat) (hb : 0 < buf) {l : List HashRange}
    {ps : List Piece} (h : inclLoop l = .ok ps) (hall : ∀ x ∈ l, x.start + x.length ≤ N) :
    chunkCount buf ps ≤ l.length * (N / buf + 2) := by
  rw [inclLoop_ok_eq h]
  clear h
  induction l with
  | nil => exact Nat.zero_le _
  | cons x xs ih =>
    rw [List.flatMap_cons, chunkCount_append, List.length_cons, Nat.succ_mul,
      Nat.add_comm (xs.length * _)]
    exact Nat.add_le_add (entryPieces_chunkCount buf hb x (hall x (List.mem_cons_self ..)))
      (ih fun y hy => hall y (List.mem_cons_of_mem _ hy))

/-! ### the bound from the inputs -/

theorem chunkCount_whole_le {n : Nat} {hr : Option (List HashRange)} {isExcl : Bool}
    {ps : List Piece} {buf : Nat} (hnone : hr = none ∨ hr = some [])
    (h : buildPieces n hr isExcl = .ok ps) (hn : 1 ≤ n) (hb : 0 < buf) :
    chunkCount buf ps ≤ n / buf + 1 := by
  rw [buildPieces_whole hnone] at h
  cases h
  show ceilDiv (n - 1 - 0 + 1) buf + 0 ≤ _
  rw [Nat.sub_zero, Nat.sub_add_cancel hn]
  exact ceilDiv_le n buf hb

/-- exclusion mode: the remaining ranges and the markers together are at most one more than the
entries, a range is one piece and a marker adds at most two, and ordered pieces inside `[0, n)` need
at most `n / buf` chunks plus one per piece -/
theorem chunkCount_excl_le {n : Nat} {hr : List HashRange} {ps : List Piece} {buf : Nat}
    (h : buildPieces n (some hr) true = .ok ps) (hn : 1 ≤ n) (hb : 0 < buf) :
    chunkCount buf ps ≤ n / buf + 2 * hr.length + 1 := by
  cases hr with
  | nil => exact chunkCount_whole_le (Or.inr rfl) h hn hb
  | cons a t =>
    obtain ⟨rs, ms, he, rfl⟩ := (buildPieces_cons_ok h).2
    have hw0 : WFR n 0 [(0, n - 1)] := WFR_whole hn
    obtain ⟨hw, hms, _, hlen⟩ := exclLoop_spec _ _ _ _ _ he hw0
    have hpl := exclPieces_length (N := n) (n - 1) rs ms hw
    have hcc := WF_chunkCount (N := n) buf hb _ 0 (exclPieces_WF hn rs ms hw)
    have hsl : (stableSort HashRange.start (a :: t)).length = (a :: t).length :=
      (stableSort_perm _ _).length_eq
    have hml : (markersOf (stableSort HashRange.start (a :: t))).length ≤
        (stableSort HashRange.start (a :: t)).length := List.length_filterMap_le _ _
    rw [List.nil_append] at hms
    subst hms
    rw [hsl] at hlen hml
    simp only [List.length_cons, List.length_nil, Nat.sub_zero] at hlen hml hcc ⊢
    omega

theorem chunkCount_incl_le {n : Nat} {hr : List HashRange} {ps : List Piece} {buf : Nat}
    (h : buildPieces n (some hr) false = .ok ps) (hne : hr ≠ []) (hb : 0 < buf) :
    chunkCount buf ps ≤ hr.length * (n / buf + 2) := by
  cases hr with
  | nil => exact absurd rfl hne
  | cons a t =>
    obtain ⟨hw, hi⟩ := buildPieces_cons_ok h
    have := inclLoop_chunkCount (N := n) buf hb hi
      (fun x hx => hw x ((mem_stableSort _ _ _).1 hx))
    rwa [(stableSort_perm _ _).length_eq] at this

theorem chunkCount_le_bound {n : Nat} {hr : Option (List HashRange)} {isExcl : Bool}
    {ps : List Piece} {buf : Nat} (h : buildPieces n hr isExcl = .ok ps) (hn : 1 ≤ n)
    (hb : 0 < buf) : chunkCount buf ps ≤ callbackBound n hr isExcl buf := by
  match hr, isExcl, h with
  | none, _, h => exact chunkCount_whole_le (Or.inl rfl) h hn hb
  | some [], _, h => exact chunkCount_whole_le (Or.inr rfl) h hn hb
  | some (a :: t), true, h => exact chunkCount_excl_le h hn hb
  | some (a :: t), false, h => exact chunkCount_incl_le h (List.cons_ne_nil _ _) hb

/-- exclusion mode without BMFF offset entries: no markers, the pieces are the remaining runs, and the
number of chunks is at most the stream length whatever the chunk size -/
theorem chunkCount_plain_le {n : Nat} {hr : List HashRange} {ps : List Piece} {buf : Nat}
    (h : buildPieces n (some hr) true = .ok ps) (hp : ∀ x ∈ hr, x.off = none) (hne : hr ≠ [])
    (hn : 1 ≤ n) (hb : 0 < buf) : chunkCount buf ps ≤ n := by
  cases hr with
  | nil => exact absurd rfl hne
  | cons a t =>
    obtain ⟨rs, ms, he, rfl⟩ := (buildPieces_cons_ok h).2
    obtain ⟨hw, hms, _⟩ := exclLoop_spec _ _ _ _ _ he (WFR_whole hn)
    have hm : ms = [] := by
      rw [hms, List.nil_append]
      exact List.filterMap_eq_nil_iff.2 fun x hx => hp x ((mem_stableSort _ _ _).1 hx)
    subst hm
    exact WF_chunkCount_le buf hb _ 0 (exclPieces_WF hn rs [] hw) fun p hq => by
      obtain ⟨r, _, rfl⟩ := List.mem_map.1 (show p ∈ rs.map _ from hq)
      rfl

end C2pa.C13
