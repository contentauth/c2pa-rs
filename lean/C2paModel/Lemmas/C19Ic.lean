import C2paModel.Lemmas.C19Basic
/-
C19 — `ingredient_checks`: safety for every outcome (with the fuel bound by unvisited claims),
fuel monotonicity, the fuel bound by remaining depth. Safety is stated with `IBounded` and `IBudget`
(`I…` as in the model's `ISt`).
-/
namespace C2pa.C19

theorem iLoop_nil (rec : Nat → ISt → Out × ISt) (s : Store) (st : ISt) :
    iLoop rec s [] st = (.ok, st) := rfl

theorem ic_zero (lim : Nat) (s : Store) (d u : Nat) (st : ISt) :
    ic lim s 0 d u st = (.outOfFuel, st) := rfl

/-- The visited set is a duplicate-free list of claims of the store: what the pigeonhole arguments
need of it. -/
structure IBounded (s : Store) (st : ISt) : Prop where
  vnd : st.visited.Nodup
  vlt : ∀ x ∈ st.visited, x < s.length

/-- What one call (`k` = out-degree of its claim) or one loop over `k` remaining ingredients may do
to the state: the visited set only grows, expansions grow by the new visited claims, inspections by
`k` and the out-degrees of the new visited claims (written without subtraction). -/
structure IBudget (s : Store) (k : Nat) (st st' : ISt) : Prop where
  bounded : IBounded s st'
  visl : st.visited.length ≤ st'.visited.length
  expg : st'.exp + st.visited.length = st.exp + st'.visited.length
  inspg : st'.insp + degSum s st.visited ≤ st.insp + k + degSum s st'.visited

def IOut (o : Out) : Prop := o = .ok ∨ o = .tooDeep ∨ o = .verifyFailed ∨ o = .outOfFuel

theorem IBudget.refl {s : Store} {st : ISt} (h : IBounded s st) : IBudget s 0 st st :=
  ⟨h, Nat.le_refl _, rfl, Nat.le_refl _⟩

theorem IBudget.trans {s : Store} {k₁ k₂ : Nat} {a b c : ISt}
    (h₁ : IBudget s k₁ a b) (h₂ : IBudget s k₂ b c) : IBudget s (k₁ + k₂) a c := by
  refine ⟨h₂.bounded, Nat.le_trans h₁.visl h₂.visl, ?_, ?_⟩
  · have := h₁.expg; have := h₂.expg; omega
  · have := h₁.inspg; have := h₂.inspg; omega

theorem IBudget.mono {s : Store} {k k' : Nat} {a b : ISt} (h : IBudget s k a b) (hk : k ≤ k') :
    IBudget s k' a b :=
  ⟨h.bounded, h.visl, h.expg, by have := h.inspg; omega⟩

theorem IBudget.cons {s : Store} {k : Nat} {a b c : ISt}
    (h₁ : IBudget s 1 a b) (h₂ : IBudget s k b c) : IBudget s (k + 1) a c :=
  Nat.add_comm 1 k ▸ h₁.trans h₂

theorem IBounded.hash {s : Store} {st : ISt} (h : IBounded s st) (i : Ing) (v : Nat) :
    IBudget s 1 st (iHash st i v) :=
  ⟨⟨h.vnd, h.vlt⟩, Nat.le_refl _, rfl, Nat.le_refl _⟩

theorem IBounded.ver {s : Store} {st : ISt} (h : IBounded s st) (i : Ing) (v : Nat) :
    IBudget s 1 st (iVer st i v) :=
  ⟨⟨h.vnd, h.vlt⟩, Nat.le_refl _, rfl, Nat.le_refl _⟩

theorem IBounded.skip {s : Store} {st : ISt} (h : IBounded s st) :
    IBudget s 1 st (iSkip st) :=
  ⟨⟨h.vnd, h.vlt⟩, Nat.le_refl _, rfl, Nat.le_refl _⟩

theorem IBounded.miss {s : Store} {st : ISt} (h : IBounded s st) (v : Nat) :
    IBudget s 1 st (iMiss st v) :=
  ⟨⟨h.vnd, h.vlt⟩, Nat.le_refl _, rfl, Nat.le_refl _⟩

theorem IBounded.insert {s : Store} {st : ISt} (h : IBounded s st) (i : Ing) {v : Nat} {c : Claim}
    (hs : s[v]? = some c) (hvis : ¬ st.visited.contains v = true) :
    v < s.length ∧ IBounded s (iIns st i v) :=
  have hv := (List.getElem?_eq_some_iff.1 hs).1
  ⟨hv, List.nodup_cons.2 ⟨mt List.contains_iff_mem.2 hvis, h.vnd⟩,
    List.forall_mem_cons.2 ⟨hv, h.vlt⟩⟩

/-- what the recursive call on `v` did, seen from the state before `v` was inserted -/
theorem IBudget.ofIns {s : Store} {st st' : ISt} {i : Ing} {v : Nat}
    (r : IBudget s (deg s v) (iIns st i v) st') : IBudget s 1 st st' := by
  refine ⟨r.bounded, Nat.le_trans (Nat.le_succ _) r.visl, ?_, ?_⟩
  · have := r.expg
    simp only [iIns, List.length_cons] at this
    omega
  · have := r.inspg
    simp only [iIns, iVer, iHash, degSum_cons] at this
    omega

/-- The loop is safe when the recursive call is, and runs out of fuel only if a call does (`m`: a
size of the visited set from which on the calls have fuel enough; the loop inserts the target before
it calls, so it needs one claim less). -/
theorem iLoop_safe (s : Store) (m : Nat) (rec : Nat → ISt → Out × ISt)
    (hrec : ∀ v st, IBounded s st → v < s.length →
      IBudget s (deg s v) st (rec v st).2 ∧ IOut (rec v st).1 ∧
        (m ≤ st.visited.length → (rec v st).1 ≠ .outOfFuel)) :
    ∀ (ings : List Ing) (st : ISt), IBounded s st →
      IBudget s ings.length st (iLoop rec s ings st).2 ∧ IOut (iLoop rec s ings st).1 ∧
        (m ≤ st.visited.length + 1 → (iLoop rec s ings st).1 ≠ .outOfFuel) := by
  intro ings st h
  fun_induction iLoop rec s ings st with
  | case1 => exact ⟨IBudget.refl h, .inl rfl, fun _ => Out.noConfusion⟩
  | case2 _ _ _ _ ih =>
    obtain ⟨l1, l2, l3⟩ := ih h.skip.bounded
    exact ⟨h.skip.cons l1, l2, l3⟩
  | case3 i _ _ v =>
    exact ⟨(h.hash i v).mono (Nat.le_add_left 1 _), .inr (.inr (.inl rfl)), fun _ => Out.noConfusion⟩
  | case4 i _ _ v _ _ _ _ _ ih =>
    obtain ⟨l1, l2, l3⟩ := ih (h.ver i v).bounded
    exact ⟨(h.ver i v).cons l1, l2, l3⟩
  | case5 i _ _ v _ _ hs _ hvis r _ ih =>
    obtain ⟨hv, hins⟩ := h.insert i hs hvis
    have hstep := (hrec v _ hins hv).1.ofIns
    obtain ⟨l1, l2, l3⟩ := ih hstep.bounded
    exact ⟨hstep.cons l1, l2, fun hm => l3 (Nat.le_trans hm (Nat.succ_le_succ hstep.visl))⟩
  | case6 i _ _ v _ _ hs _ hvis r _ =>
    obtain ⟨hv, hins⟩ := h.insert i hs hvis
    obtain ⟨r1, r2, r3⟩ := hrec v _ hins hv
    exact ⟨r1.ofIns.mono (Nat.le_add_left 1 _), r2, r3⟩
  | case7 _ _ _ v _ _ ih =>
    obtain ⟨l1, l2, l3⟩ := ih (h.miss v).bounded
    exact ⟨(h.miss v).cons l1, l2, l3⟩

/-- Safety of `ingredient_checks` for every outcome, and the fuel bound by claims:
`|V| - |visited| + 1` suffices. -/
theorem ic_safe (s : Store) (lim : Nat) :
    ∀ (n d u : Nat) (st : ISt), IBounded s st → u < s.length →
      IBudget s (deg s u) st (ic lim s n d u st).2 ∧ IOut (ic lim s n d u st).1 ∧
        (s.length + 1 ≤ st.visited.length + n → (ic lim s n d u st).1 ≠ .outOfFuel) := by
  intro n
  induction n with
  | zero =>
    intro d u st h _
    refine ⟨(IBudget.refl h).mono (Nat.zero_le _), .inr (.inr (.inr rfl)), fun hn => ?_⟩
    have := nodup_length_le s.length st.visited h.vnd h.vlt
    omega
  | succ n ih =>
    intro d u st h hu
    have hsome : s[u]? = some s[u] := List.getElem?_eq_getElem hu
    rw [ic, hsome, deg_of_get s u _ hsome]
    split
    · exact ⟨(IBudget.refl h).mono (Nat.zero_le _), .inr (.inl rfl), fun _ => Out.noConfusion⟩
    · -- the calls of the loop have fuel `n`: enough once `|V| + 1 - n` claims are visited
      obtain ⟨l1, l2, l3⟩ := iLoop_safe s (s.length + 1 - n) _
        (fun v st' hw hv =>
          let ⟨a, b, f⟩ := ih (d + 1) v st' hw hv
          ⟨a, b, fun hlen => f (Nat.sub_le_iff_le_add.1 hlen)⟩)
        s[u].ings st h
      exact ⟨l1, l2, fun hn => l3 (by omega)⟩

theorem iLoop_fuel_mono (s : Store) (rec rec' : Nat → ISt → Out × ISt)
    (hrec : ∀ v st, (rec v st).1 ≠ .outOfFuel → rec' v st = rec v st) :
    ∀ (ings : List Ing) (st : ISt), (iLoop rec s ings st).1 ≠ .outOfFuel →
      iLoop rec' s ings st = iLoop rec s ings st := by
  intro ings st h
  fun_induction iLoop rec s ings st with
  | case1 => rfl
  | case2 _ _ _ ht ih =>
    rw [iLoop, ht]
    exact ih h
  | case3 _ _ _ _ ht _ hs hsig => simp only [iLoop, ht, hs, hsig, ↓reduceIte]
  | case4 _ _ _ _ ht _ hs hsig hvis ih =>
    simp only [iLoop, ht, hs, hsig, hvis, Bool.false_eq_true, ↓reduceIte]
    exact ih h
  | case5 i _ st v ht _ hs hsig hvis r hok ih =>
    have e : rec' v (iIns st i v) = r := hrec v _ (by rw [hok]; decide)
    simp only [iLoop, ht, hs, hsig, hvis, e, hok, Bool.false_eq_true, ↓reduceIte]
    exact ih h
  | case6 i _ st v ht _ hs hsig hvis r hok =>
    have e : rec' v (iIns st i v) = r := hrec v _ h
    simp only [iLoop, ht, hs, hsig, hvis, e, hok, Bool.false_eq_true, ↓reduceIte]
  | case7 _ _ _ _ ht hs ih =>
    simp only [iLoop, ht, hs]
    exact ih h

theorem ic_fuel_succ (s : Store) (lim : Nat) :
    ∀ (n d u : Nat) (st : ISt), (ic lim s n d u st).1 ≠ .outOfFuel →
      ic lim s (n + 1) d u st = ic lim s n d u st := by
  intro n
  induction n with
  | zero => intro d u st h; exact absurd rfl h
  | succ n ih =>
    intro d u st
    rw [ic, ic]
    split
    · exact fun _ => rfl
    · split
      · exact fun _ => rfl
      · exact iLoop_fuel_mono s _ _ (ih (d + 1)) _ st

theorem ic_fuel_le (s : Store) (lim : Nat) (n d u : Nat) (st : ISt)
    (h : (ic lim s n d u st).1 ≠ .outOfFuel) :
    ∀ k, ic lim s (n + k) d u st = ic lim s n d u st :=
  stable_of_succ (ic lim s · d u st) (·.1 = .outOfFuel) (fun n => ic_fuel_succ s lim n d u st) n h

theorem iLoop_fuel_of_calls (s : Store) (rec : Nat → ISt → Out × ISt)
    (hrec : ∀ v st, (rec v st).1 ≠ .outOfFuel) :
    ∀ (ings : List Ing) (st : ISt), (iLoop rec s ings st).1 ≠ .outOfFuel := by
  intro ings st
  fun_induction iLoop rec s ings st with
  | case1 => exact Out.noConfusion
  | case2 _ _ _ _ ih => exact ih
  | case3 => exact Out.noConfusion
  | case4 _ _ _ _ _ _ _ _ _ ih => exact ih
  | case5 _ _ _ _ _ _ _ _ _ _ _ ih => exact ih
  | case6 => exact hrec _ _
  | case7 _ _ _ _ _ _ ih => exact ih

/-- Fuel `lim + 1 - depth` suffices: the recursion is never deeper than the limit. -/
theorem ic_fuel_depth (s : Store) (lim : Nat) :
    ∀ (n d u : Nat) (st : ISt), d ≤ lim → lim + 1 ≤ d + n →
      (ic lim s n d u st).1 ≠ .outOfFuel := by
  intro n
  induction n with
  | zero => intro d u st h1 h2; omega
  | succ n ih =>
    intro d u st h1 h2
    rw [ic]
    split
    · exact Out.noConfusion
    · split
      · exact Out.noConfusion
      · exact iLoop_fuel_of_calls s _ (fun v st' => ih (d + 1) v st' (by omega) (by omega)) _ st

end C2pa.C19
