/-
Import-free facts about lists and sums that the proofs of several properties use.
-/
namespace C2pa.Data
variable {α : Type _}

theorem foldl_horner_lt (radix : Nat) (v : α → Nat) :
    ∀ (ds : List α) (acc : Nat), (∀ d ∈ ds, v d < radix) →
      ds.foldl (fun a d => a * radix + v d) acc < (acc + 1) * radix ^ ds.length
  | [], acc, _ => by simp
  | d :: t, acc, h => by
    have hd := h d List.mem_cons_self
    have := foldl_horner_lt radix v t (acc * radix + v d) fun x hx => h x (List.mem_cons_of_mem _ hx)
    rw [List.foldl_cons, List.length_cons]
    calc _ < (acc * radix + v d + 1) * radix ^ t.length := this
      _ ≤ ((acc + 1) * radix) * radix ^ t.length :=
          Nat.mul_le_mul_right _ (by rw [Nat.add_mul]; omega)
      _ = (acc + 1) * radix ^ (t.length + 1) := by
          rw [Nat.pow_succ, Nat.mul_assoc, Nat.mul_comm radix]

theorem sum_map_mono (f g : α → Nat) (l : List α) (h : ∀ a ∈ l, f a ≤ g a) :
    (l.map f).sum ≤ (l.map g).sum := by
  induction l with
  | nil => exact Nat.le_refl _
  | cons a t ih =>
    simp only [List.map_cons, List.sum_cons]
    exact Nat.add_le_add (h a List.mem_cons_self) (ih fun b hb => h b (List.mem_cons_of_mem _ hb))

theorem sum_map_const (c : Nat) (l : List α) : (l.map fun _ => c).sum = c * l.length := by
  rw [List.map_const', List.sum_replicate_nat, Nat.mul_comm]

theorem findIdx_first (p : α → Bool) (y : α) (Q : List α) (hy : p y = true)
    (P : List α) (hP : ∀ x ∈ P, p x = false) : (P ++ y :: Q).findIdx? p = some P.length := by
  rw [List.findIdx?_append, List.findIdx?_eq_none_iff.2 hP, List.findIdx?_cons, if_pos hy]
  simp

theorem split_first (P : α → Prop) : ∀ l : List α,
    (∀ x ∈ l, ¬ P x) ∨ ∃ pre a post, l = pre ++ a :: post ∧ (∀ x ∈ pre, ¬ P x) ∧ P a
  | [] => .inl fun _ h => nomatch h
  | b :: l => by
    by_cases hb : P b
    · exact .inr ⟨[], b, l, rfl, (fun _ h => nomatch h), hb⟩
    · rcases split_first P l with h | ⟨pre, a, post, rfl, hp, ha⟩
      · exact .inl (List.forall_mem_cons.2 ⟨hb, h⟩)
      · exact .inr ⟨b :: pre, a, post, rfl, List.forall_mem_cons.2 ⟨hb, hp⟩, ha⟩

theorem span_append (p : α → Bool) (a b : List α) (ha : ∀ x ∈ a, p x = true)
    (hb : ∀ x ∈ b.head?, p x = false) :
    (a ++ b).takeWhile p = a ∧ (a ++ b).dropWhile p = b := by
  rw [List.takeWhile_append_of_pos ha, List.dropWhile_append_of_pos ha]
  cases b with
  | nil => simp
  | cons x t => simp [hb x rfl]

theorem flatMap_congr_mem {β : Type _} {l : List α} {f g : α → List β} (h : ∀ a ∈ l, f a = g a) :
    l.flatMap f = l.flatMap g := by
  rw [List.flatMap_def, List.flatMap_def, List.map_congr_left h]

theorem getElem?_outside_mid (p w w' q : List α) (hw : w'.length = w.length) (x : Nat)
    (hx : x < p.length ∨ p.length + w.length ≤ x) :
    (p ++ w' ++ q)[x]? = (p ++ w ++ q)[x]? := by
  rcases hx with hx | hx
  · rw [List.append_assoc, List.append_assoc, List.getElem?_append_left hx,
      List.getElem?_append_left hx]
  · rw [List.getElem?_append_right (by simp; omega), List.getElem?_append_right (by simp; omega)]
    simp [hw]

end C2pa.Data
