import C2paModel.Lemmas.C03Base
/-
C03 — sidecar / remote manifests: the zeroed object locations yield a DataHash without
exclusions and the hasher absorbs the whole asset; `start_save_stream` without embedding is
`start_save_stream` with a handler that writes nothing (`noEmbedEnv`).
-/
namespace C2pa.C03
open C2pa

theorem hash_whole (alg : String) (data : List UInt8) (buf : Nat)
    (halg : C13.supported alg = true) (h1 : 1 ≤ data.length) (hlen : data.length ≤ C13.u32Max)
    (hb : 0 < buf) : ∃ prog, C13.hashModel alg data none true buf none = .ok data prog := by
  have hu : C13.u32Max ≤ C13.u64Max := by decide
  have hps : C13.buildPieces data.length none true = .ok [⟨0, data.length - 1, false⟩] := rfl
  generalize ho : C13.hashModel alg data none true buf none = o
  cases ho ▸ C13.outcome_of_built none halg h1 (by omega) hb hps with
  | overflow h =>
    -- the single piece needs at most one chunk per byte
    have := C13.ceilDiv_le_self (data.length - 1 - 0 + 1) buf hb
    simp only [C13.chunkCount, List.map_cons, List.map_nil, List.sum_cons, List.sum_nil] at h
    omega
  | cancelled _ _ _ h => cases h
  | digest => exact ⟨_, by rw [C13.whole_digest alg data none true buf none _ _ (Or.inl rfl) ho]⟩

theorem zeroLocs_spec (locs : List Loc) (hno : ∀ l ∈ locs, l.kind ≠ .otherExcl) :
    ∀ l ∈ zeroLocs locs, l.kind ≠ .otherExcl ∧ (l.kind = .cai → l.offset = 0 ∧ l.length = 0) := by
  intro l hl
  obtain ⟨⟨o, n, k⟩, hm, rfl⟩ := List.mem_map.1 hl
  have := hno _ hm
  cases k
  · exact ⟨nofun, fun _ => ⟨rfl, rfl⟩⟩
  · exact ⟨nofun, nofun⟩
  · exact ⟨nofun, nofun⟩
  · exact absurd rfl this

theorem scan_zero (ls : List Loc)
    (h0 : ∀ l ∈ ls, l.kind ≠ .otherExcl ∧ (l.kind = .cai → l.offset = 0 ∧ l.length = 0)) :
    ∀ s : Scan, s.start = 0 ∧ s.stop = 0 ∧ s.others = [] →
      (ls.foldl scanStep s).start = 0 ∧ (ls.foldl scanStep s).stop = 0 ∧ (ls.foldl scanStep s).others = [] := by
  induction ls with
  | nil => intro s hs; exact hs
  | cons it t ih =>
    intro s hs
    rw [List.foldl_cons]
    apply ih (fun l hl => h0 l (List.mem_cons_of_mem _ hl))
    obtain ⟨hk, hz⟩ := h0 it (List.mem_cons_self ..)
    obtain ⟨a, b, c⟩ := hs
    unfold scanStep
    cases hkind : it.kind
    · obtain ⟨ho, hl⟩ := hz hkind
      cases hf : s.found <;> simp [hf, a, b, c, ho, hl]
    · simp [a, b, c]
    · simp [a, b, c]
    · exact absurd hkind hk

theorem exclusionsOf_zero (len : Nat) (locs : List Loc) (hno : ∀ l ∈ locs, l.kind ≠ .otherExcl) :
    exclusionsOf len (zeroLocs locs) true = some [] := by
  have h := scan_zero (C13.stableSort Loc.offset (zeroLocs locs))
    (fun l hl => zeroLocs_spec locs hno l ((C13.mem_stableSort _ _ _).1 hl)) ⟨0, 0, false, []⟩ ⟨rfl, rfl, rfl⟩
  obtain ⟨a, b, c⟩ := h
  unfold exclusionsOf
  simp only [scan, a, b, c, if_true]
  split <;> simp

/-- The sidecar flow is the embedded flow with a handler that writes nothing and reports the zeroed
locations. -/
def noEmbedEnv (E : Env) : Env := { E with embed := fun a _ => ⟨a.bytes, zeroLocs a.locs⟩ }

theorem startSaveNoEmbed_eq (E : Env) (alg : String) (inter : Asset) (buf : Nat) :
    startSaveNoEmbed E alg inter buf =
      (startSave (noEmbedEnv E) alg inter buf).map fun st => { st with out0 := inter } := by
  unfold startSaveNoEmbed startSave noEmbedEnv
  -- the same three matches and the same test on both sides
  dsimp only
  split
  · rfl
  split
  · rfl
  split
  · rfl
  split <;> rfl

end C2pa.C03
