import C2paModel.Model.C01
import C2paModel.Lemmas.C13Spec
import C2paModel.Lemmas.List
import C2paModel.Lemmas.Sel
/-
C01 — lemmas about the position-wise selection `exclSpec` (C13) used by the data-hash and BMFF
binding theorems: equal selections of two streams under the same exclusion list mean equal
bytes at every position that is not excluded, and equal lengths: always without offset markers
(`exclSpec_plain_binds`), with them once some byte is hashed (`exclSpec_markers_length`). Without
markers the selection is `Data.selBy (excluded ex)` (`exclSpec_plain`; Lemmas/Sel.lean).
-/
namespace C2pa.C01
open C2pa.C13

/-- no entry carries a BMFF offset (what a `c2pa.hash.data` assertion can express: the offset
field of `HashRange` is `#[serde(skip)]`) -/
def Plain (ex : List HashRange) : Prop := ∀ r ∈ ex, r.off = none
/-- all entries end inside a stream of `n` bytes (what the C13 end check guarantees on success) -/
def Within (ex : List HashRange) (n : Nat) : Prop := ∀ r ∈ ex, r.start + r.length ≤ n

theorem flatMap_inj_len {α β : Type} (L : List α) (f g : α → List β)
    (hl : ∀ x ∈ L, (f x).length = (g x).length) (h : L.flatMap f = L.flatMap g) :
    ∀ x ∈ L, f x = g x := by
  induction L with
  | nil => intro x hx; cases hx
  | cons a as ih =>
    simp only [List.flatMap_cons] at h
    obtain ⟨h1, h2⟩ := List.append_inj h (hl a (List.mem_cons_self ..))
    intro x hx
    rcases List.mem_cons.1 hx with rfl | hx
    · exact h1
    · exact ih (fun y hy => hl y (List.mem_cons_of_mem _ hy)) h2 x hx

theorem byteAt_length (d : List UInt8) (x : Nat) (h : x < d.length) : (byteAt d x).length = 1 := by
  simp [byteAt, h]

theorem exclSpec_eq_chunks (d : List UInt8) (hr : List HashRange) :
    exclSpec d hr = (List.range d.length).flatMap (specAt d hr) := rfl

theorem specAt_length (d : List UInt8) (hr : List HashRange) (x : Nat) (hx : x < d.length) :
    (specAt d hr x).length =
      markerCopies d.length hr x * (be64 x).length + (if included d.length hr x then 1 else 0) := by
  have e : ∀ (k : Nat) (l : List UInt8), (List.replicate k l).flatten.length = k * l.length := by
    intro k l; simp
  unfold specAt
  rw [List.length_append, e]
  split
  · rw [byteAt_length d x hx]
  · rfl

/-- With equal lengths the per-position chunks of `exclSpec` have the same shape on both
streams, so equal selections are equal chunk by chunk. Holds with markers as well. -/
theorem exclSpec_eq_bytes (a a' : List UInt8) (ex : List HashRange) (hlen : a.length = a'.length)
    (h : exclSpec a ex = exclSpec a' ex) :
    ∀ x, excluded ex x = false → a[x]? = a'[x]? := by
  intro x hx
  by_cases hxn : x < a.length
  · rw [exclSpec_eq_chunks, exclSpec_eq_chunks, ← hlen] at h
    have hchunk := flatMap_inj_len (List.range a.length) _ _ (fun y hy => by
      have hy1 := List.mem_range.1 hy
      rw [specAt_length a ex y hy1, specAt_length a' ex y (by omega), hlen]) h x (List.mem_range.2 hxn)
    have hinc : included a.length ex x = true := by simp [included, hxn, hx]
    unfold specAt at hchunk
    rw [← hlen, hinc, if_pos rfl, if_pos rfl] at hchunk
    have hx' : x < a'.length := by omega
    simpa [byteAt, hxn, hx'] using List.append_cancel_left hchunk
  · have h1 : a.length ≤ x := by omega
    have h2 : a'.length ≤ x := by omega
    rw [List.getElem?_eq_none h1, List.getElem?_eq_none h2]

/-- converse of `exclSpec_eq_bytes` -/
theorem exclSpec_congr (a a' : List UInt8) (ex : List HashRange) (hlen : a.length = a'.length)
    (hb : ∀ x, excluded ex x = false → a[x]? = a'[x]?) : exclSpec a ex = exclSpec a' ex :=
  C13.exclSpec_congr a' a ex hlen fun x hi => hb x (by simp [included] at hi; exact hi.2)

/-! ### the selection fixes the length

A longer stream keeps every chunk of the shorter one at least as long, provided lengthening
removes no marker copy (`hm`), and adds at least one byte per new position, since the ranges end
inside the shorter stream. Without markers `hm` is trivial. With BMFF offset markers, hashed
in-line, two streams of different length can in general have the same selection (eight data
bytes that spell an offset); under *one* exclusion list `hm` holds as soon as some byte of the
shorter stream is hashed (`markerCopies_mono`). `exclSpec_length_inj` asks for `hm` only in the
direction in which the stream grows, whichever of the two that is. -/

theorem within_not_excluded (ex : List HashRange) (n x : Nat) (hw : Within ex n) (hx : n ≤ x) :
    excluded ex x = false := by
  rw [Bool.eq_false_iff]
  intro h
  obtain ⟨r, hr, hc⟩ := List.any_eq_true.1 h
  have := hw r hr
  simp only [Bool.and_eq_true, decide_eq_true_eq] at hc
  omega

theorem included_of_lt (hr : List HashRange) (n n' x : Nat) (hx : x < n) (hn : n ≤ n') :
    included n' hr x = included n hr x := by
  have h1 : x < n' := by omega
  simp [included, hx, h1]

theorem exclSpec_length_grow (a a' : List UInt8) (ex : List HashRange) (hn : a.length ≤ a'.length)
    (hw : Within ex a.length)
    (hm : ∀ x, x < a.length → markerCopies a.length ex x ≤ markerCopies a'.length ex x) :
    (exclSpec a ex).length + (a'.length - a.length) ≤ (exclSpec a' ex).length := by
  have hpre : ((List.range a.length).flatMap (specAt a ex)).length ≤
      ((List.range a.length).flatMap (specAt a' ex)).length := by
    rw [List.length_flatMap, List.length_flatMap]
    apply Data.sum_map_mono
    intro x hx
    have hx1 := List.mem_range.1 hx
    rw [specAt_length a ex x hx1, specAt_length a' ex x (by omega), included_of_lt ex _ _ x hx1 hn]
    exact Nat.add_le_add_right (Nat.mul_le_mul_right _ (hm x hx1)) _
  have htail : (List.range' a.length (a'.length - a.length)).length ≤
      ((List.range' a.length (a'.length - a.length)).flatMap (specAt a' ex)).length := by
    rw [List.length_flatMap, ← Nat.one_mul (List.length _), ← Data.sum_map_const]
    apply Data.sum_map_mono
    intro x hx
    rw [List.mem_range'_1] at hx
    have hinc : included a'.length ex x = true := by
      simp [included, within_not_excluded ex a.length x hw hx.1]; omega
    rw [specAt_length a' ex x (by omega), hinc, if_pos rfl]
    omega
  rw [exclSpec_eq_chunks, exclSpec_eq_chunks a', List.range_eq_range' (n := a'.length),
    range'_split 0 a'.length a.length hn, ← List.range_eq_range', Nat.zero_add,
    List.flatMap_append, List.length_append]
  rw [List.length_range'] at htail
  omega

theorem exclSpec_length_inj (a a' : List UInt8) (ex : List HashRange)
    (hw : Within ex a.length) (hw' : Within ex a'.length)
    (hm : a.length ≤ a'.length →
      ∀ x, x < a.length → markerCopies a.length ex x ≤ markerCopies a'.length ex x)
    (hm' : a'.length ≤ a.length →
      ∀ x, x < a'.length → markerCopies a'.length ex x ≤ markerCopies a.length ex x)
    (h : exclSpec a ex = exclSpec a' ex) : a.length = a'.length := by
  have hl := congrArg List.length h
  rcases Nat.le_total a.length a'.length with hn | hn
  · have := exclSpec_length_grow a a' ex hn hw (hm hn)
    omega
  · have := exclSpec_length_grow a' a ex hn hw' (hm' hn)
    omega

/-! ### without offset markers: selection by a predicate on positions -/

theorem markersOf_plain (ex : List HashRange) (hp : Plain ex) : markersOf ex = [] := by
  unfold markersOf
  rw [List.filterMap_eq_nil_iff]
  intro r hr; exact hp r hr

theorem markerCopies_plain (ex : List HashRange) (hp : Plain ex) (n x : Nat) :
    markerCopies n ex x = 0 := by
  simp [markerCopies, markersOf_plain ex hp]

theorem exclSpec_plain (d : List UInt8) (ex : List HashRange) (hp : Plain ex) :
    exclSpec d ex = Data.selBy (excluded ex) d := by
  unfold exclSpec Data.selBy
  apply Data.flatMap_congr_mem
  intro x hx
  have hx1 := List.mem_range.1 hx
  simp [markerCopies_plain ex hp, included, hx1, byteAt]
  cases excluded ex x <;> simp

/-- what `datahash_binds` and `update_binds_positions` rest on -/
theorem exclSpec_plain_binds (a a' : List UInt8) (ex : List HashRange) (hp : Plain ex)
    (hw : Within ex a.length) (hw' : Within ex a'.length)
    (h : exclSpec a ex = exclSpec a' ex) :
    a.length = a'.length ∧ ∀ x, excluded ex x = false → a[x]? = a'[x]? := by
  have hl : a.length = a'.length := exclSpec_length_inj a a' ex hw hw'
    (fun _ x _ => by rw [markerCopies_plain ex hp]; exact Nat.zero_le _)
    (fun _ x _ => by rw [markerCopies_plain ex hp]; exact Nat.zero_le _) h
  exact ⟨hl, exclSpec_eq_bytes a a' ex hl h⟩

/-! ### with offset markers: a hashed byte of the shorter stream keeps every marker copy -/

theorem markerCopies_mono (hr : List HashRange) (n n' x : Nat) (hx : x < n) (hn : n ≤ n')
    (hany : ∃ y, y < n ∧ excluded hr y = false) :
    markerCopies n hr x ≤ markerCopies n' hr x := by
  obtain ⟨y, hy, hey⟩ := hany
  have hinc : ∀ z, z < n → included n' hr z = included n hr z := fun z hz => included_of_lt hr n n' z hz hn
  have hiy : included n hr y = true := by simp [included, hy, hey]
  -- a hashed byte before and one behind `x` in the shorter stream are still there
  have hb : between n hr x = true → between n' hr x = true := by
    rw [between_iff_of_hashed hiy, between_iff_of_hashed ((hinc y hy).trans hiy)]
    rintro ⟨⟨q, hq, hiq⟩, ⟨q', hq', hiq'⟩⟩
    exact ⟨⟨q, hq, (hinc q (Nat.lt_trans hq hx)).trans hiq⟩,
      ⟨q', hq', (hinc q' (included_lt hiq')).trans hiq'⟩⟩
  unfold markerCopies
  rw [hinc x hx]
  split
  · exact Nat.le_refl _
  · cases hbn : between n hr x
    · rw [Bool.and_false, if_neg Bool.false_ne_true]; exact Nat.zero_le _
    · rw [hb hbn]; exact Nat.le_refl _

theorem exclSpec_markers_length (a a' : List UInt8) (ex : List HashRange)
    (hw : Within ex a.length) (hw' : Within ex a'.length)
    (hany : ∃ y, y < a.length ∧ excluded ex y = false)
    (hany' : ∃ y, y < a'.length ∧ excluded ex y = false)
    (h : exclSpec a ex = exclSpec a' ex) : a.length = a'.length :=
  exclSpec_length_inj a a' ex hw hw'
    (fun hn x hx => markerCopies_mono ex _ _ x hx hn hany)
    (fun hn x hx => markerCopies_mono ex _ _ x hx hn hany') h

end C2pa.C01
