import C2paModel.Lemmas.C20Loop
import C2paModel.Lemmas.C34
/-
C20 / C21 — the `ValidationResults::from_store` filter (`Model/C20.lean`: `keep`,
`fromStoreFilter`) composed with the C04 model of `add_status` / `validation_state`.

`reportS` is what the Reader computes from a validation log: the statuses (with their URLs) that
survive the filter are added, in log order, to the results. The ingredient assertions are written by
the signers of the manifests under validation; whatever they record, these statuses survive: one
logged while the active claim itself was validated (no ingredient URI), one whose URL names the
active manifest, one no ingredient assertion records.
-/
namespace C2pa.C20
open C2pa.C34

/-! `manifest_label_from_uri` never panics (`mlabel_eq`), so neither does anything here: `isActiveUrl`
and `keep` are `some` of the Boolean functions `activeUrl` and `keeps`, and the filter is an ordinary
`List.filter`. -/

def activeUrl (active : Str) (u : Option Str) : Bool :=
  u.any fun u => mlabelS (segs u) == some active

def keeps (active : Str) (recs : List Rec) (s : St) : Bool :=
  !s.ing || activeUrl active s.url || !recordedIn recs s

theorem isActiveUrl_eq (active : Str) (u : Option Str) : isActiveUrl active u = some (activeUrl active u) := by
  cases u with
  | none => rfl
  | some u => simp [isActiveUrl, mlabel_eq, activeUrl]

theorem keep_eq (active : Str) (recs : List Rec) (s : St) : keep active recs s = some (keeps active recs s) := by
  simp [keep, isActiveUrl_eq, keeps]

theorem filterP_eq {α : Type} {p : α → P Bool} {q : α → Bool} (h : ∀ x, p x = some (q x)) :
    ∀ l : List α, filterP p l = some (l.filter q)
  | [] => rfl
  | x :: xs => by simp [filterP, h, filterP_eq h xs, List.filter_cons, apply_ite some]

theorem anyP_eq {α : Type} {p : α → P Bool} {q : α → Bool} (h : ∀ x, p x = some (q x)) :
    ∀ l : List α, anyP p l = some (l.any q)
  | [] => rfl
  | x :: xs => by cases hq : q x <;> simp [anyP, h, hq, anyP_eq h xs]

theorem fromStoreFilter_eq (active : Str) (recs : List Rec) (l : List St) :
    fromStoreFilter active recs l =
      some (if l.any (fun s => !activeUrl active s.url) then l.filter (keeps active recs) else l) := by
  unfold fromStoreFilter
  rw [anyP_eq (q := fun s => !activeUrl active s.url) (fun s => by simp [notActive, isActiveUrl_eq]),
    filterP_eq (keep_eq active recs)]
  exact (apply_ite some ..).symm

theorem keep_active_url (active : Str) (recs : List Rec) (s : St) (b : Bool)
    (h : keep active recs s = some b) (ha : isActiveUrl active s.url = some true) : b = true := by
  rw [isActiveUrl_eq] at ha
  rw [keep_eq, keeps, Option.some.inj ha] at h
  rw [← Option.some.inj h]; cases s.ing <;> rfl

theorem keep_false_iff (active : Str) (recs : List Rec) (s : St) :
    keep active recs s = some false ↔
      s.ing = true ∧ isActiveUrl active s.url = some false ∧ recordedIn recs s = true := by
  simp [keep_eq, keeps, isActiveUrl_eq, and_assoc]

theorem fromStoreFilter_sub (active : Str) (recs : List Rec) (l k : List St)
    (h : fromStoreFilter active recs l = some k) : ∀ x ∈ k, x ∈ l := by
  rw [fromStoreFilter_eq] at h
  obtain rfl := Option.some.inj h
  split
  · exact fun x hx => (List.mem_filter.1 hx).1
  · exact fun x hx => hx

theorem fromStoreFilter_mem (active : Str) (recs : List Rec) (l k : List St)
    (h : fromStoreFilter active recs l = some k) (x : St) (hx : x ∈ l)
    (hkeep : keeps active recs x = true) : x ∈ k := by
  rw [fromStoreFilter_eq] at h
  obtain rfl := Option.some.inj h
  split
  · exact List.mem_filter.2 ⟨hx, hkeep⟩
  · exact hx

theorem fromStoreFilter_keeps_active_scope (active : Str) (recs : List Rec) (l k : List St)
    (h : fromStoreFilter active recs l = some k) (x : St) (hx : x ∈ l) (hi : x.ing = false) :
    x ∈ k :=
  fromStoreFilter_mem active recs l k h x hx (by simp [keeps, hi])

theorem fromStoreFilter_keeps_unrecorded (active : Str) (recs : List Rec) (l k : List St)
    (h : fromStoreFilter active recs l = some k) (x : St) (hx : x ∈ l)
    (hr : recordedIn recs x = false) : x ∈ k :=
  fromStoreFilter_mem active recs l k h x hx (by simp [keeps, hr])

/-- `ValidationStatus` → C04 status; `uriOf` gives the ingredient URI of an ingredient-scoped one -/
def toStatusS (uriOf : St → List Char) (s : St) : C04.Status :=
  { code := s.code,
    kind := match s.kind with
      | .success => .success | .info => .informational | .failure => .failure,
    uri := if s.ing then some (uriOf s) else none }

/-- `ValidationResults::from_store`: filter, then `add_status` in log order (`none` = a URI
helper panicked) -/
def reportS (active : Str) (recs : List Rec) (uriOf : St → List Char) (r0 : C04.Results)
    (log : List St) : P C04.Results := do
  let kept ← fromStoreFilter active recs log
  pure ((kept.map (toStatusS uriOf)).foldl C04.addStatus r0)

theorem reportS_invalid (active : Str) (recs : List Rec) (uriOf : St → List Char) (r0 r : C04.Results)
    (log : List St) (h : reportS active recs uriOf r0 log = some r) (x : St) (hx : x ∈ log)
    (hkeep : keeps active recs x = true)
    (hf : x.kind = .failure) (ht : C04.tolerated x.code = false) :
    C04.state r = .invalid := by
  unfold reportS at h
  obtain ⟨kept, hk, h⟩ := Option.bind_eq_some_iff.1 h
  cases h
  refine C04.nontolerated_failure_in_sequence_invalid r0 _ (toStatusS uriOf x) ?_ ?_ ht
  · exact List.mem_map.2 ⟨x, fromStoreFilter_mem active recs log kept hk x hx hkeep, rfl⟩
  · simp [toStatusS, hf]

/-- a log decorated with URLs: `sts` is the list of `ValidationStatus`es `from_store` makes from
the logged events `log` (same codes, kinds and scopes, any URLs) -/
def Decorates (sts : List St) (log : List Ev) : Prop := sts.map St.toEv = log

/-- What the "never Valid" theorems of C20/C21 use: a non-tolerated failure event of the log makes
the Reader's state `Invalid`, for every URL decoration of the log. `hrec` is needed only for an event
logged in ingredient scope: `from_store` never filters a status of the active claim's own validation. -/
theorem failure_invalid (log : List Ev) (e : Ev) (he : e ∈ log)
    (hf : e.isFailure = true) (ht : C04.tolerated e.code = false)
    (sts : List St) (hd : Decorates sts log)
    (active : Str) (recs : List Rec) (uriOf : St → List Char) (r0 r : C04.Results)
    (hrec : e.ing = true → ∀ s ∈ sts, s.code = e.code → s.ing = true → recordedIn recs s = false)
    (h : reportS active recs uriOf r0 sts = some r) : C04.state r = .invalid := by
  obtain ⟨s, hs, rfl⟩ := List.mem_map.1 (hd ▸ he)
  have hkf : s.kind = .failure := by unfold Ev.isFailure at hf; simpa [St.toEv] using hf
  refine reportS_invalid active recs uriOf r0 r sts h s hs ?_ hkf ht
  cases hi : s.ing
  · simp [keeps, hi]
  · simp [keeps, hrec hi s hs rfl hi]

theorem fail_invalid (log : List Ev) (c : String) (ing : Bool) (he : fail c ing ∈ log)
    (ht : C04.tolerated c.toList = false)
    (sts : List St) (hd : Decorates sts log)
    (active : Str) (recs : List Rec) (uriOf : St → List Char) (r0 r : C04.Results)
    (hrec : ing = true → ∀ s ∈ sts, s.code = c.toList → s.ing = true → recordedIn recs s = false)
    (h : reportS active recs uriOf r0 sts = some r) : C04.state r = .invalid :=
  failure_invalid log (fail c ing) he rfl ht sts hd active recs uriOf r0 r hrec h

theorem active_scope_failure_invalid (log : List Ev) (e : Ev) (he : e ∈ log)
    (hf : e.isFailure = true) (hi : e.ing = false) (ht : C04.tolerated e.code = false)
    (sts : List St) (hd : Decorates sts log)
    (active : Str) (recs : List Rec) (uriOf : St → List Char) (r0 r : C04.Results)
    (h : reportS active recs uriOf r0 sts = some r) : C04.state r = .invalid :=
  failure_invalid log e he hf ht sts hd active recs uriOf r0 r
    (fun hi' => by rw [hi] at hi'; cases hi') h

theorem unrecorded_failure_invalid (log : List Ev) (e : Ev) (he : e ∈ log)
    (hf : e.isFailure = true) (ht : C04.tolerated e.code = false)
    (sts : List St) (hd : Decorates sts log)
    (active : Str) (recs : List Rec) (uriOf : St → List Char) (r0 r : C04.Results)
    (hrec : ∀ s ∈ sts, s.code = e.code → s.ing = true → recordedIn recs s = false)
    (h : reportS active recs uriOf r0 sts = some r) : C04.state r = .invalid :=
  failure_invalid log e he hf ht sts hd active recs uriOf r0 r (fun _ => hrec) h

end C2pa.C20
