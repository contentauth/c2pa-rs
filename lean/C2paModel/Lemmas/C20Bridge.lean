import C2paModel.Lemmas.C34
import C2paModel.Model.C20
/-
C20 — bridge between the two ways the code looks at a redaction URI: the assertion loop skips a
hashed URI when `assertion_label_from_link` of a redaction gives its label, the disallowed-
redaction rule tests `contains` on the URI text. `label_prefix_in_uri`: whatever label
`assertion_label_from_link` extracts from a URI, every protected label that is a prefix of it
occurs in the URI text — so a redaction that *targets* an actions or hard-binding assertion is
always *flagged*.
-/
namespace C2pa.C20
open C2pa.C34

/-- a redaction whose manifest part (`manifest_label_from_uri`) is the claim's own label passes the
`contains(claim.label())` test of the self-redaction rule -/
theorem manifest_label_in_uri (r m : Str) (h : manifestLabelFromUri r = some (some m)) :
    containsSub m r = true := by
  rw [containsSub_iff]
  rw [mlabel_eq] at h
  by_cases hm : m = []
  · exact hm ▸ List.nil_infix
  · exact seg_prefix_infix (mlabelS_mem (Option.some.inj h)) (List.prefix_refl m) hm

/-- the protected labels: `c2pa.actions` and the four hard-binding labels -/
def Protected (p : Str) : Prop := p = cActions ∨ p ∈ hashLabels

theorem protected_label_shape (p : Str) (hp : Protected p) :
    p ≠ [] ∧ ∀ x : Str, p.isPrefixOf (cIngThumb ++ x) = false := by
  have h5 : p = cActions ∨ p = "c2pa.hash.data".toList ∨ p = "c2pa.hash.boxes".toList ∨
      p = "c2pa.hash.bmff".toList ∨ p = "c2pa.hash.collection.data".toList := by
    rcases hp with h | h
    · exact Or.inl h
    · right; simpa [hashLabels] using h
  -- on character lists `isPrefixOf` reduces without decoding the literals
  unfold cActions at h5
  unfold cIngThumb
  rcases h5 with rfl | rfl | rfl | rfl | rfl <;> rw [String.toList_ofList, String.toList_ofList] <;>
    exact ⟨by decide, fun x => rfl⟩

/-- The label is read off the last `/`-segment `s` of the normal form. If `s` is an ingredient-thumbnail
label, so is `l`, and no protected label is a prefix of one (`protected_label_shape`); otherwise `l`
is the first `__`-piece of `s`, hence a prefix of `s`, and a non-empty prefix of a segment occurs in
the URI text (`seg_prefix_infix`). -/
theorem label_prefix_in_uri (r l : Str) (i : Nat) (hl : assertionLabelFromLink r = some (l, i))
    (p : Str) (hprot : Protected p) (hpre : p.isPrefixOf l = true) : containsSub p r = true := by
  obtain ⟨hne, hthumb⟩ := protected_label_shape p hprot
  have hpl : p <+: l := List.isPrefixOf_iff_prefix.1 hpre
  rw [containsSub_iff]
  rw [link_eq] at hl
  refine seg_prefix_infix (List.getLast_mem (segs_ne_nil r)) ?_ hne
  generalize (segs r).getLast (segs_ne_nil r) = s at hl
  obtain rfl : (laiS s).1 = l := congrArg Prod.fst (Option.some.inj hl)
  unfold laiS at hpl hpre
  split at hpl
  · rw [if_pos ‹_›, ing, instSuffix, List.nil_append, hthumb] at hpre
    cases hpre
  · obtain ⟨h, t, hsd, hhp⟩ := splitDU_head_prefix s
    rw [hsd] at hpl
    exact hpl.trans hhp

end C2pa.C20
