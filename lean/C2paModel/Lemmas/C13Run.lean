import C2paModel.Lemmas.C13Pieces
/-
C13 — the hashing loop.
Bytes: whatever the chunk size, a successful run absorbs exactly the bytes of the pieces, in
order (`runPieces_ok`); the chunks one range is read in are `loopChunks`.
Counters: on well-formed pieces (`PieceOK`) the loop never reaches an arithmetic panic, an I/O
error or fuel exhaustion; `Ran` counts the progress callbacks, sequencing adds the numbers
(`Ran.seq`), so the whole run makes `chunkCount` of them (`runPieces_ran`).
`back` is the part of `hashModel` after the builder; on well-formed pieces it ends as `Late` says
(`back_late`).
-/
namespace C2pa.C13

/-- the callback sequence (1,T),(2,T),…,(n,T) -/
def ticks (total n : Nat) : List (Nat × Nat) := (List.range n).map fun i => (i + 1, total)

theorem ticks_succ (T n : Nat) : ticks T (n + 1) = ticks T n ++ [(n + 1, T)] := by
  simp [ticks, List.range_succ]

theorem ticks_length (T n : Nat) : (ticks T n).length = n := by simp [ticks]

/-- `(len as usize).div_ceil(buf)` -/
def ceilDiv (a b : Nat) : Nat := (a + (b - 1)) / b

theorem ceilDiv_zero (b : Nat) (hb : 0 < b) : ceilDiv 0 b = 0 := by
  unfold ceilDiv; simp; omega

theorem ceilDiv_step (a b : Nat) (hb : 0 < b) (ha : a ≠ 0) :
    ceilDiv a b = 1 + ceilDiv (a - min a b) b := by
  unfold ceilDiv
  by_cases h : a ≤ b
  · rw [Nat.min_eq_left h, Nat.sub_self, Nat.zero_add, Nat.div_eq_of_lt (by omega : b - 1 < b),
      Nat.div_eq_of_lt_le (k := 1) (by omega) (by omega)]
  · have e : a + (b - 1) = (a - b + (b - 1)) + b := by omega
    rw [Nat.min_eq_right (by omega), e, Nat.add_div_right _ hb, Nat.add_comm]

theorem ceilDiv_one (b : Nat) (hb : 0 < b) : ceilDiv 1 b = 1 := by
  rw [ceilDiv_step 1 b hb (by omega), show 1 - min 1 b = 0 by omega, ceilDiv_zero b hb]

theorem ceilDiv_le_self (a b : Nat) (hb : 0 < b) : ceilDiv a b ≤ a := by
  rcases Nat.eq_zero_or_pos a with h | h
  · subst h
    rw [ceilDiv_zero b hb]
    exact Nat.le_refl 0
  · unfold ceilDiv
    obtain ⟨c, rfl⟩ : ∃ c, b = c + 1 := ⟨b - 1, by omega⟩
    apply Nat.div_le_of_le_mul
    show a + (c + 1 - 1) ≤ (c + 1) * a
    have : c ≤ c * a := Nat.le_mul_of_pos_right c h
    rw [Nat.add_mul, Nat.one_mul]
    omega

theorem ceilDiv_right_one (a : Nat) : ceilDiv a 1 = a := by simp [ceilDiv]

theorem tick_ok {T : Nat} {c : Option Nat} {st st' : St} (h : tick T c st = .ok st') :
    st'.absorbed = st.absorbed ∧ st'.step = st.step + 1 ∧
      st'.prog = st.prog ++ [(st.step + 1, T)] ∧ st.step + 1 ≤ u32Max := by
  unfold tick at h
  split at h
  · cases h
  · dsimp only at h
    split at h
    · cases h
    · cases h; exact ⟨rfl, rfl, rfl, by omega⟩

theorem tick_none {T : Nat} {st : St} (h : st.step + 1 ≤ u32Max) :
    tick T none st = .ok { st with step := st.step + 1, prog := st.prog ++ [(st.step + 1, T)] } := by
  unfold tick
  have : ¬ st.step + 1 > u32Max := by omega
  simp [this]

theorem readExact_some {data : List UInt8} {pos n : Nat} {c : List UInt8}
    (h : readExact data pos n = some c) :
    c = (data.drop pos).take n ∧ pos + n ≤ data.length ∧ c.length = n := by
  unfold readExact at h
  split at h
  · cases h; exact ⟨rfl, ‹_›, List.length_take_of_le (by rw [List.length_drop]; omega)⟩
  · cases h

theorem readExact_ok {data : List UInt8} {pos n : Nat} (h : pos + n ≤ data.length) :
    ∃ chunk, readExact data pos n = some chunk ∧ chunk.length = n :=
  ⟨_, if_pos h, List.length_take_of_le (by rw [List.length_drop]; omega)⟩

theorem readExact_next {data : List UInt8} {pos L buf : Nat} (hL : L ≠ 0) (hb : 0 < buf)
    (hin : pos + L ≤ data.length) :
    ∃ chunk, readExact data pos (min L buf) = some chunk ∧ chunk.length = min L buf ∧
      1 ≤ chunk.length ∧ chunk.length ≤ L := by
  have hm1 : 1 ≤ min L buf := Nat.le_min.2 ⟨Nat.pos_of_ne_zero hL, hb⟩
  have hm2 := Nat.min_le_left L buf
  obtain ⟨chunk, hr, hl⟩ := readExact_ok (data := data) (pos := pos) (n := min L buf) (by omega)
  exact ⟨chunk, hr, hl, hl ▸ hm1, hl ▸ hm2⟩

/-- the chunks `chunkLoop` reads after the one it was entered with: `left` bytes from stream
position `pos`, each chunk `min left buf` bytes long (`fuel` as in `chunkLoop`) -/
def loopChunks (data : List UInt8) (buf : Nat) : Nat → Nat → Nat → List (List UInt8)
  | 0, _, _ => []
  | fuel + 1, pos, left =>
    if left = 0 then []
    else (data.drop pos).take (min left buf) :: loopChunks data buf fuel (pos + min left buf) (left - min left buf)

theorem loopChunks_len (data : List UInt8) (buf : Nat) : ∀ (fuel pos left : Nat),
    pos + left ≤ data.length → 0 < buf →
    ∀ ch ∈ loopChunks data buf fuel pos left, 1 ≤ ch.length ∧ ch.length ≤ buf := by
  intro fuel
  induction fuel with
  | zero => intro pos left _ _ ch h; cases h
  | succ fuel ih =>
    intro pos left hin hb ch h
    unfold loopChunks at h
    split at h
    · cases h
    · have hm := Nat.min_le_left left buf
      rcases List.mem_cons.1 h with rfl | h
      · rw [List.length_take_of_le (by rw [List.length_drop]; omega)]
        exact ⟨Nat.le_min.2 ⟨by omega, hb⟩, Nat.min_le_right _ _⟩
      · exact ih _ _ (by omega) hb ch h

/-- The second conjunct (the chunks read after the entry chunk are the next `left - |chunk|` bytes of
the stream) is what the step of the induction appends to `absorbed` in the first, so the two are
proved in one induction. -/
theorem chunkLoop_ok {data : List UInt8} {buf T : Nat} {c : Option Nat} :
    ∀ (fuel pos : Nat) (chunk : List UInt8) (left : Nat) (st st' : St),
      chunkLoop data buf T c fuel pos chunk left st = .ok st' →
      st'.absorbed =
        st.absorbed ++ chunk ++ (loopChunks data buf fuel pos (left - chunk.length)).flatten ∧
      (loopChunks data buf fuel pos (left - chunk.length)).flatten =
        (data.drop pos).take (left - chunk.length) := by
  intro fuel
  induction fuel with
  | zero => intro pos chunk left st st' h; cases h
  | succ fuel ih =>
    intro pos chunk left st st' h
    unfold chunkLoop at h
    unfold loopChunks
    by_cases h1 : left < chunk.length
    · rw [if_pos h1] at h; cases h
    · rw [if_neg h1] at h
      dsimp only at h
      by_cases h2 : left - chunk.length = 0
      · rw [if_pos h2] at h ⊢
        cases h
        simp [h2]
      · rw [if_neg h2] at h ⊢
        cases hr : readExact data pos (min (left - chunk.length) buf) with
        | none => rw [hr] at h; cases h
        | some next =>
          rw [hr] at h
          dsimp only at h
          cases ht : tick T c { st with absorbed := st.absorbed ++ chunk } with
          | error o => rw [ht] at h; cases h
          | ok st2 =>
            rw [ht] at h
            obtain ⟨hn, _, hl⟩ := readExact_some hr
            obtain ⟨ha, hf⟩ := ih _ _ _ _ _ h
            rw [hl] at ha hf
            have e : min (left - chunk.length) buf +
                (left - chunk.length - min (left - chunk.length) buf) = left - chunk.length :=
              Nat.add_sub_of_le (Nat.min_le_left _ _)
            rw [List.flatten_cons, hf, ← hn]
            refine ⟨by rw [ha, (tick_ok ht).1, List.append_assoc _ next, hf], ?_⟩
            rw [hn, ← List.drop_drop, ← List.take_add, e]

/-- what a successful iteration of `for (r, is_bmff_v2_offset) in ranges` went through -/
theorem runPiece_ok_inv {data : List UInt8} {buf T : Nat} {c : Option Nat} {p : Piece}
    {st st' : St} (h : runPiece data buf T c p st = .ok st') :
    p.lo ≤ p.hi ∧ ∃ st1, tick T c st = .ok st1 ∧
      if p.marker then st' = { st1 with absorbed := st1.absorbed ++ be64 p.lo }
      else ∃ chunk, readExact data p.lo (min (p.hi - p.lo + 1) buf) = some chunk ∧
        chunkLoop data buf T c (p.hi - p.lo + 1) (p.lo + min (p.hi - p.lo + 1) buf) chunk
          (p.hi - p.lo + 1) st1 = .ok st' := by
  unfold runPiece at h
  cases ht : tick T c st with
  | error o => rw [ht] at h; cases h
  | ok st1 =>
    rw [ht] at h
    dsimp only at h
    by_cases h1 : p.hi < p.lo
    · rw [if_pos h1] at h; cases h
    · refine ⟨by omega, st1, rfl, ?_⟩
      rw [if_neg h1] at h
      by_cases h2 : p.hi - p.lo + 1 > u64Max
      · rw [if_pos h2] at h; cases h
      · rw [if_neg h2] at h
        by_cases hm : p.marker = true
        · rw [if_pos hm] at h ⊢; cases h; rfl
        · rw [if_neg hm] at h ⊢
          cases hr : readExact data p.lo (min (p.hi - p.lo + 1) buf) with
          | none => rw [hr] at h; cases h
          | some chunk => rw [hr] at h; exact ⟨chunk, rfl, h⟩

theorem runPiece_ok {data : List UInt8} {buf T : Nat} {c : Option Nat} {p : Piece} {st st' : St}
    (h : runPiece data buf T c p st = .ok st') :
    st'.absorbed = st.absorbed ++ pieceBytes data p := by
  obtain ⟨hle, st1, ht, h⟩ := runPiece_ok_inv h
  unfold pieceBytes
  split at h
  · rw [h, if_pos ‹_›, ← (tick_ok ht).1]
  · obtain ⟨chunk, hr, h⟩ := h
    obtain ⟨hn, _, hl⟩ := readExact_some hr
    obtain ⟨ha, hf⟩ := chunkLoop_ok _ _ _ _ _ _ h
    have e : min (p.hi - p.lo + 1) buf + (p.hi - p.lo + 1 - min (p.hi - p.lo + 1) buf) =
        p.hi + 1 - p.lo :=
      (Nat.add_sub_of_le (Nat.min_le_left _ _)).trans (Nat.sub_add_comm hle).symm
    rw [if_neg ‹_›, ha, hf, (tick_ok ht).1, hl, hn, List.append_assoc, ← List.drop_drop, ← List.take_add, e]

theorem runPieces_append {data : List UInt8} {buf T : Nat} {c : Option Nat} (ps qs : List Piece) :
    ∀ st, runPieces data buf T c (ps ++ qs) st =
      match runPieces data buf T c ps st with
      | .error o => .error o
      | .ok st1 => runPieces data buf T c qs st1 := by
  induction ps with
  | nil => intro st; rfl
  | cons p ps ih =>
    intro st
    simp only [List.cons_append, runPieces]
    cases runPiece data buf T c p st with
    | error o => rfl
    | ok st1 => exact ih st1

theorem runPieces_ok {data : List UInt8} {buf T : Nat} {c : Option Nat} :
    ∀ (ps : List Piece) (st st' : St), runPieces data buf T c ps st = .ok st' →
      st'.absorbed = st.absorbed ++ ps.flatMap (pieceBytes data) := by
  intro ps
  induction ps with
  | nil => intro st st' h; cases h; simp
  | cons p ps ih =>
    intro st st' h
    unfold runPieces at h
    split at h
    · cases h
    · rw [ih _ _ h, runPiece_ok ‹_›, List.flatMap_cons, List.append_assoc]

/-- progress invariant: the callback has seen exactly (1,T)…(step,T) -/
def ProgInv (T : Nat) (st : St) : Prop := st.prog = ticks T st.step

/-- number of progress callbacks a piece list needs (one per chunk) -/
def chunkCount (buf : Nat) (ps : List Piece) : Nat :=
  (ps.map fun p => ceilDiv (p.hi - p.lo + 1) buf).sum

/-- `chunkCount` with each summand truncated to `u32` (what `total` is computed from) -/
def wrapCount (buf : Nat) (ps : List Piece) : Nat :=
  (ps.map fun p => ceilDiv (p.hi - p.lo + 1) buf % (u32Max + 1)).sum

/-- an early stop between step `lo` and the step `hi` that a full run would reach -/
inductive Stopped (T : Nat) (c : Option Nat) (lo hi : Nat) : Stop → Prop
  | counter : hi > u32Max → Stopped T c lo hi (.panic .counter)
  | cancelled (n : Nat) : lo < n → n ≤ hi → c = some n →
      Stopped T c lo hi (.err .cancelled (ticks T n))

theorem Stopped.mono {T : Nat} {c : Option Nat} {lo hi lo' hi' : Nat} {o : Stop}
    (h : Stopped T c lo hi o) (h1 : lo' ≤ lo) (h2 : hi ≤ hi') : Stopped T c lo' hi' o := by
  cases h with
  | counter b => exact .counter (by omega)
  | cancelled n b c' d => exact .cancelled n (by omega) (by omega) d

/-- `r` is the result of `n` callbacks after step `lo`: all made (and then none of them went
past `u32::MAX`), or stopped at one of them -/
def Ran (T : Nat) (c : Option Nat) (lo n : Nat) : Except Stop St → Prop
  | .ok st' => st'.step = lo + n ∧ ProgInv T st' ∧ (n = 0 ∨ lo + n ≤ u32Max)
  | .error o => Stopped T c lo (lo + n) o

theorem Ran.seq {T : Nat} {c : Option Nat} {lo n m : Nat} {r : Except Stop St}
    {f : St → Except Stop St} (h1 : Ran T c lo n r)
    (h2 : ∀ st', st'.step = lo + n → ProgInv T st' → Ran T c (lo + n) m (f st')) :
    Ran T c lo (n + m) (match (generalizing := false) r with | .error o => .error o | .ok st' => f st') := by
  cases r with
  | error o => exact Stopped.mono h1 (Nat.le_refl _) (by omega)
  | ok st' =>
    obtain ⟨hs, hi, hb⟩ := h1
    have h := h2 st' hs hi
    show Ran T c lo (n + m) (f st')
    cases hf : f st' with
    | error o => rw [hf] at h; exact Stopped.mono h (by omega) (by omega)
    | ok st'' =>
      rw [hf] at h
      obtain ⟨a, b, d⟩ := h
      exact ⟨by omega, b, by omega⟩

theorem tick_ran {T : Nat} {c : Option Nat} {st : St} (hi : ProgInv T st) :
    Ran T c st.step 1 (tick T c st) := by
  have hp : st.prog ++ [(st.step + 1, T)] = ticks T (st.step + 1) := by rw [ticks_succ, ← hi]
  unfold tick
  split
  · exact Stopped.counter (by omega)
  · dsimp only
    split
    · rename_i hc
      rw [hp, ticks_length] at hc
      rw [hp]
      exact Stopped.cancelled (st.step + 1) (by omega) (by omega) hc
    · exact ⟨rfl, hp, Or.inr (by omega)⟩

theorem chunkLoop_ran {data : List UInt8} {buf T : Nat} {c : Option Nat} (hb : 0 < buf) :
    ∀ (fuel pos : Nat) (chunk : List UInt8) (left : Nat) (st : St),
      ProgInv T st → 1 ≤ chunk.length → chunk.length ≤ left → left < fuel + chunk.length →
      pos + (left - chunk.length) ≤ data.length →
      Ran T c st.step (ceilDiv (left - chunk.length) buf)
        (chunkLoop data buf T c fuel pos chunk left st) := by
  intro fuel
  induction fuel with
  | zero => intro pos chunk left st _ h1 h2 h3 _; omega
  | succ fuel ih =>
    intro pos chunk left st hi h1 h2 h3 h4
    unfold chunkLoop
    rw [if_neg (by omega)]
    dsimp only
    by_cases hz : left - chunk.length = 0
    · rw [if_pos hz, hz, ceilDiv_zero buf hb]
      exact ⟨rfl, hi, Or.inl rfl⟩
    · rw [if_neg hz, ceilDiv_step _ buf hb hz]
      obtain ⟨next, hr, hl, hn1, hn2⟩ := readExact_next hz hb h4
      rw [hr, ← hl]
      clear hl  -- from here on only `1 ≤ next.length ≤ left - chunk.length` matters
      refine Ran.seq (tick_ran hi) fun st2 hs hi2 => ?_
      have := ih (pos + next.length) next (left - chunk.length) st2 hi2 hn1 hn2 (by omega) (by omega)
      rwa [hs] at this

theorem runPiece_ran {data : List UInt8} {buf T : Nat} {c : Option Nat} (hb : 0 < buf)
    (p : Piece) (st : St) (hp : PieceOK data p) (hi : ProgInv T st) :
    Ran T c st.step (ceilDiv (p.hi - p.lo + 1) buf) (runPiece data buf T c p st) := by
  obtain ⟨p1, p2, p3, p4⟩ := hp
  unfold runPiece
  rw [ceilDiv_step _ buf hb (by omega)]
  refine Ran.seq (tick_ran hi) fun st1 hs hi1 => ?_
  rw [if_neg (by omega), if_neg (by omega)]
  dsimp only
  by_cases hm : p.marker = true
  · have e : p.hi - p.lo + 1 - min (p.hi - p.lo + 1) buf = 0 := by have := p3 hm; omega
    rw [if_pos hm, e, ceilDiv_zero buf hb]
    exact ⟨hs, hi1, Or.inl rfl⟩
  · have hlt : p.hi < data.length := p4.resolve_left hm
    rw [if_neg hm]
    obtain ⟨chunk, hr, hl, hc1, hc2⟩ := readExact_next (data := data) (pos := p.lo) (L := p.hi - p.lo + 1)
      (Nat.succ_ne_zero _) hb (by omega)
    rw [hr, ← hl]
    clear hl
    have := chunkLoop_ran (data := data) (T := T) (c := c) hb (p.hi - p.lo + 1) (p.lo + chunk.length)
      chunk (p.hi - p.lo + 1) st1 hi1 hc1 hc2 (by omega) (by omega)
    rwa [hs] at this

theorem chunkCount_cons (buf : Nat) (p : Piece) (ps : List Piece) :
    chunkCount buf (p :: ps) = ceilDiv (p.hi - p.lo + 1) buf + chunkCount buf ps := by
  simp [chunkCount]

theorem runPieces_ran {data : List UInt8} {buf T : Nat} {c : Option Nat} (hb : 0 < buf) :
    ∀ (ps : List Piece) (st : St), (∀ p ∈ ps, PieceOK data p) → ProgInv T st →
      Ran T c st.step (chunkCount buf ps) (runPieces data buf T c ps st) := by
  intro ps
  induction ps with
  | nil => intro st _ hi; exact ⟨rfl, hi, Or.inl rfl⟩
  | cons p ps ih =>
    intro st hp hi
    rw [chunkCount_cons]
    unfold runPieces
    exact Ran.seq (runPiece_ran hb p st (hp p (List.mem_cons_self ..)) hi) fun st1 hs hi1 =>
      hs ▸ ih st1 (fun q hq => hp q (List.mem_cons_of_mem _ hq)) hi1

theorem wrapCount_cons (buf : Nat) (p : Piece) (ps : List Piece) :
    wrapCount buf (p :: ps) = ceilDiv (p.hi - p.lo + 1) buf % (u32Max + 1) + wrapCount buf ps := by
  simp [wrapCount]

theorem wrapCount_le (buf : Nat) (ps : List Piece) : wrapCount buf ps ≤ chunkCount buf ps := by
  induction ps with
  | nil => simp [wrapCount, chunkCount]
  | cons p ps ih =>
    rw [wrapCount_cons, chunkCount_cons]
    have := Nat.mod_le (ceilDiv (p.hi - p.lo + 1) buf) (u32Max + 1)
    omega

theorem wrapCount_eq (buf : Nat) (ps : List Piece) (h : chunkCount buf ps ≤ u32Max) :
    wrapCount buf ps = chunkCount buf ps := by
  induction ps with
  | nil => simp [wrapCount, chunkCount]
  | cons p ps ih =>
    rw [wrapCount_cons, chunkCount_cons] at *
    rw [ih (by omega), Nat.mod_eq_of_lt (by omega)]

theorem pieceChunks_ok {data : List UInt8} (buf : Nat) {p : Piece} (hp : PieceOK data p) :
    pieceChunks buf p = .ok (ceilDiv (p.hi - p.lo + 1) buf % (u32Max + 1)) := by
  obtain ⟨p1, p2, _, _⟩ := hp
  unfold pieceChunks
  rw [if_neg (by omega), if_neg (by omega)]
  rfl

theorem totalOf_spec {data : List UInt8} (buf : Nat) : ∀ (ps : List Piece) (acc : Nat),
    (∀ p ∈ ps, PieceOK data p) →
      match totalOf buf ps acc with
      | .ok t => t = acc + wrapCount buf ps
      | .error o => o = .panic .counter ∧ acc + wrapCount buf ps > u32Max := by
  intro ps
  induction ps with
  | nil => intro acc _; simp [totalOf, wrapCount]
  | cons p ps ih =>
    intro acc hp
    unfold totalOf
    rw [pieceChunks_ok buf (hp p (List.mem_cons_self ..)), wrapCount_cons]
    dsimp only
    generalize ceilDiv (p.hi - p.lo + 1) buf % (u32Max + 1) = k
    by_cases hov : acc + k > u32Max
    · rw [if_pos hov]
      exact ⟨rfl, by omega⟩
    · rw [if_neg hov]
      have := ih (acc + k) (fun q hq => hp q (List.mem_cons_of_mem _ hq))
      generalize totalOf buf ps (acc + k) = r at this ⊢
      cases r with
      | ok t => show t = _; have : t = _ := this; omega
      | error o => exact ⟨this.1, by have := this.2; omega⟩

/-- `hashModel` after the builder: the total, then the run (`run` is `runPieces … ` or
`runPiecesE …` with everything but the total fixed) -/
def back (run : Nat → List Piece → St → Except Stop St) (buf : Nat) (ps : List Piece) : Outcome :=
  match totalOf buf ps 0 with
  | .error o => o.out
  | .ok total =>
    match run total ps {} with
    | .error o => o.out
    | .ok st => .ok st.absorbed st.prog

theorem Stop.out_ne_ok (s : Stop) (a : List UInt8) (p : List (Nat × Nat)) : s.out ≠ .ok a p := by
  cases s <;> simp [Stop.out]

theorem back_ok_inv {run : Nat → List Piece → St → Except Stop St} {buf : Nat} {ps : List Piece}
    {abs : List UInt8} {prog : List (Nat × Nat)} (h : back run buf ps = .ok abs prog) :
    ∃ T st, totalOf buf ps 0 = .ok T ∧ run T ps {} = .ok st ∧ abs = st.absorbed ∧ prog = st.prog := by
  unfold back at h
  split at h
  · exact absurd h (Stop.out_ne_ok _ _ _)
  · split at h
    · exact absurd h (Stop.out_ne_ok _ _ _)
    · cases h; exact ⟨_, _, ‹_›, ‹_›, rfl, rfl⟩

/-- what a run ends with on pieces the builder accepts (chunk size ≥ 1): a counter panic, a
cancellation at callback `n`, or the digest -/
inductive Late (data : List UInt8) (buf : Nat) (c : Option Nat) (ps : List Piece) : Outcome → Prop
  | overflow : chunkCount buf ps > u32Max → Late data buf c ps (.panic .counter)
  | cancelled (n : Nat) : 0 < n → n ≤ chunkCount buf ps → c = some n →
      Late data buf c ps (.err .cancelled (ticks (wrapCount buf ps) n))
  | digest : chunkCount buf ps ≤ u32Max →
      Late data buf c ps
        (.ok (ps.flatMap (pieceBytes data)) (ticks (chunkCount buf ps) (chunkCount buf ps)))

theorem back_late {data : List UInt8} {buf : Nat} {c : Option Nat} {ps : List Piece}
    (hok : ∀ p ∈ ps, PieceOK data p) (hb : 0 < buf) :
    Late data buf c ps (back (fun T => runPieces data buf T c) buf ps) := by
  have htot := totalOf_spec (data := data) buf ps 0 hok
  have hw := wrapCount_le buf ps
  unfold back
  cases ht : totalOf buf ps 0 with
  | error s =>
    rw [ht] at htot
    rw [htot.1]
    exact .overflow (by omega)
  | ok T =>
    rw [ht] at htot
    have hran : Ran T c 0 (chunkCount buf ps) (runPieces data buf T c ps {}) :=
      runPieces_ran hb ps {} hok (by simp [ProgInv, ticks])
    dsimp only
    cases hrun : runPieces data buf T c ps {} with
    | error s =>
      rw [hrun] at hran
      cases hran with
      | counter b => exact .overflow (by omega)
      | cancelled n b1 b2 b3 =>
        rw [htot, Nat.zero_add]
        exact .cancelled n b1 (by omega) b3
    | ok st =>
      rw [hrun] at hran
      obtain ⟨hstep, hprog, hle⟩ := hran
      have hcc : chunkCount buf ps ≤ u32Max := by omega
      show Late data buf c ps (Outcome.ok st.absorbed st.prog)
      rw [hprog, hstep, htot, wrapCount_eq buf ps hcc, runPieces_ok ps {} st hrun]
      simpa using Late.digest hcc

end C2pa.C13
