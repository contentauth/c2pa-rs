/-
ASCII lower-casing of a character (Rust's `to_ascii_lowercase`), which the models C11
(`asciiLower`) and C34 (`toAsciiLower`) each define with this body.
No equation between those functions and this one is stated: Lemmas/C11Norm and Lemmas/C34 apply the
lemmas here to their own function, which fits because both unfold to the same body.
-/
namespace C2pa.Data

def asciiLower (c : Char) : Char :=
  if 'A' ≤ c ∧ c ≤ 'Z' then Char.ofNat (c.toNat + 32) else c

theorem asciiLower_toNat (c : Char) :
    (asciiLower c).toNat = if 65 ≤ c.toNat ∧ c.toNat ≤ 90 then c.toNat + 32 else c.toNat := by
  unfold asciiLower
  have e1 : ('A' ≤ c) ↔ 65 ≤ c.toNat := by
    rw [Char.le_def, UInt32.le_iff_toNat_le, Char.toNat_val]; rfl
  have e2 : (c ≤ 'Z') ↔ c.toNat ≤ 90 := by
    rw [Char.le_def, UInt32.le_iff_toNat_le, Char.toNat_val]; rfl
  simp only [e1, e2]
  split
  · next h =>
    have hv : (c.toNat + 32).isValidChar := by left; omega
    rw [Char.ofNat, dif_pos hv]
    rfl
  · rfl

/-- lower-casing neither creates nor removes a character outside `A–Z` / `a–z` -/
theorem asciiLower_eq_iff {c d : Char}
    (hd : d.toNat < 65 ∨ (90 < d.toNat ∧ d.toNat < 97) ∨ 122 < d.toNat) :
    asciiLower c = d ↔ c = d := by
  constructor
  · intro h
    have h1 := asciiLower_toNat c
    rw [h] at h1
    apply Char.toNat_inj.mp
    split at h1 <;> omega
  · rintro rfl
    apply Char.toNat_inj.mp
    rw [asciiLower_toNat]
    split <;> omega

theorem asciiLower_idem (c : Char) : asciiLower (asciiLower c) = asciiLower c := by
  apply Char.toNat_inj.mp
  rw [asciiLower_toNat (asciiLower c), asciiLower_toNat c]
  by_cases h : 65 ≤ c.toNat ∧ c.toNat ≤ 90
  · rw [if_pos h, if_neg (by omega)]
  · rw [if_neg h, if_neg h]

end C2pa.Data
