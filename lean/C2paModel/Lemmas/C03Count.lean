import C2paModel.Lemmas.C03Base
/-
C03 — the hasher's preconditions (`HashOK`) from input-level facts: a supported algorithm, a
non-empty asset shorter than 4 GiB, a positive chunk size and in-range exclusions. The only
non-obvious field is the `u32` progress-counter bound: the exclusions carry no BMFF offset, so the
pieces are ordered, non-overlapping runs of the asset, and a piece needs at most one chunk per byte
(`C13.chunkCount_plain_le`): the number of chunks is at most the asset length.
-/
namespace C2pa.C03
open C2pa

theorem supported_of_digestLen {alg : String} {n : Nat} (h : digestLen alg = some n) :
    C13.supported alg = true := by
  unfold digestLen at h
  unfold C13.supported
  by_cases h1 : (alg == "sha256") = true
  · simp [h1]
  · by_cases h2 : (alg == "sha384") = true
    · simp [h2]
    · by_cases h3 : (alg == "sha512") = true
      · simp [h3]
      · simp [h1, h2, h3] at h

theorem chunkCount_le_len (n : Nat) (ex : List C15.Range) (buf : Nat) (hb : 0 < buf)
    (hne : ex ≠ []) (h1 : 1 ≤ n) (hn : n ≤ C13.u64Max) (ps : List C13.Piece)
    (hps : C13.buildPieces n (some (ex.map toHR)) true = .ok ps) : C13.chunkCount buf ps ≤ n :=
  C13.chunkCount_plain_le hps (fun x hx => by obtain ⟨r, _, rfl⟩ := List.mem_map.1 hx; rfl)
    (mt List.map_eq_nil_iff.1 hne) h1 hb

theorem hashOK_of {alg : String} {d : Nat} (hd : digestLen alg = some d) (n : Nat)
    (ex : List C15.Range) (buf : Nat) (hb : 0 < buf) (hne : ex ≠ []) (h1 : 1 ≤ n)
    (hn : n ≤ C13.u32Max) (hw : ∀ r ∈ ex, r.start + r.length ≤ n) :
    HashOK alg n (ex.map toHR) buf := by
  have hu : C13.u32Max ≤ C13.u64Max := by decide
  refine ⟨supported_of_digestLen hd, h1, by omega, hb, ?_, ?_⟩
  · intro x hx
    obtain ⟨r, hr, rfl⟩ := List.mem_map.1 hx
    exact hw r hr
  · intro ps hps
    have := chunkCount_le_len n ex buf hb hne h1 (by omega) ps hps
    omega

end C2pa.C03
