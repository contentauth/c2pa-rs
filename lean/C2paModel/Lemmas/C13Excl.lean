import C2paModel.Model.C13
/-
C13 — the exclusion loop: interval subtraction keeps the remaining ranges ordered and disjoint,
removes exactly the excluded positions and adds at most one range per exclusion; the offsets of
the marker entries are collected in list order (`exclLoop_spec`).
-/
namespace C2pa.C13

/-! ### statement side: what the entries of an exclusion list say

(the rest of the specification vocabulary is at the head of Lemmas/C13Spec; these two are needed
here, by `exclLoop_spec`) -/

/-- position `x` lies in an exclusion range (entries carrying a BMFF offset are not ranges) -/
def excluded (hr : List HashRange) (x : Nat) : Bool :=
  hr.any fun h => h.off.isNone && h.length != 0 && decide (h.start ≤ x) && decide (x < h.start + h.length)

/-- the BMFF offsets of the entries, in list order -/
def markersOf (hr : List HashRange) : List Nat := hr.filterMap (·.off)

theorem excluded_cons (a : HashRange) (hr : List HashRange) (x : Nat) :
    excluded (a :: hr) x = ((a.off.isNone && a.length != 0 && decide (a.start ≤ x) &&
      decide (x < a.start + a.length)) || excluded hr x) := List.any_cons ..

theorem markersOf_cons (a : HashRange) (hr : List HashRange) :
    markersOf (a :: hr) = a.off.toList ++ markersOf hr := by
  cases ho : a.off <;> simp [markersOf, ho]

/-! ### `u64::checked_add` -/

theorem checkedAdd_some {a b e : Nat} (h : checkedAdd a b = some e) : e = a + b ∧ a + b ≤ u64Max := by
  unfold checkedAdd at h
  split at h
  · cases h; exact ⟨rfl, ‹_›⟩
  · cases h

theorem checkedAdd_none {a b : Nat} (h : checkedAdd a b = none) : a + b > u64Max := by
  unfold checkedAdd at h
  split at h
  · cases h
  · omega

theorem checkedAdd_ok {a b : Nat} (h : a + b ≤ u64Max) : checkedAdd a b = some (a + b) := if_pos h

/-! ### remaining ranges (`RangeSet`) -/

/-- ordered, disjoint, non-empty ranges inside `[k, N)`: what `WF` (Lemmas/C13Pieces) says of the
data pieces `splitAll []` makes of them -/
def WFR (N : Nat) : Nat → List (Nat × Nat) → Prop
  | _, [] => True
  | k, r :: rs => k ≤ r.1 ∧ r.1 ≤ r.2 ∧ r.2 < N ∧ WFR N (r.2 + 1) rs

def runCover (rs : List (Nat × Nat)) (x : Nat) : Bool := rs.any fun r => r.1 ≤ x && x ≤ r.2

theorem decide_le_and_le (c b x : Nat) : (decide (c ≤ x) && decide (x ≤ b)) = true ↔ c ≤ x ∧ x ≤ b := by
  rw [Bool.and_eq_true, decide_eq_true_eq, decide_eq_true_eq]

theorem decide_le_and_le_cut {c os b : Nat} (h1 : c < os) (h2 : os ≤ b) (x : Nat) :
    ((decide (c ≤ x) && decide (x ≤ os - 1)) || (decide (os ≤ x) && decide (x ≤ b))) =
      (decide (c ≤ x) && decide (x ≤ b)) := by
  rw [Bool.eq_iff_iff, Bool.or_eq_true, decide_le_and_le, decide_le_and_le, decide_le_and_le]; omega

theorem runCover_cons (r : Nat × Nat) (rs : List (Nat × Nat)) (x : Nat) :
    runCover (r :: rs) x = ((decide (r.1 ≤ x) && decide (x ≤ r.2)) || runCover rs x) := List.any_cons ..

theorem runCover_append (a b : List (Nat × Nat)) (x : Nat) :
    runCover (a ++ b) x = (runCover a x || runCover b x) := List.any_append ..

theorem WFR_mono {N : Nat} (rs : List (Nat × Nat)) (k k' : Nat) (h : WFR N k rs) (hk : k' ≤ k) :
    WFR N k' rs := by
  cases rs with
  | nil => trivial
  | cons r rs => exact ⟨by have := h.1; omega, h.2⟩

theorem WFR_whole {n : Nat} (hn : 1 ≤ n) : WFR n 0 [(0, n - 1)] :=
  ⟨Nat.le_refl _, Nat.zero_le _, Nat.sub_lt hn Nat.one_pos, trivial⟩

theorem runCover_whole {n : Nat} (hn : 0 < n) (x : Nat) : runCover [(0, n - 1)] x = decide (x < n) := by
  rw [runCover_cons, show runCover [] x = false from rfl, Bool.or_false, Bool.eq_iff_iff,
    decide_le_and_le, decide_eq_true_eq, Nat.le_sub_one_iff_lt hn]
  exact and_iff_right (Nat.zero_le x)

/-! ### `RangeSet::remove_range` -/

theorem removeOne_cover (s e : Nat) (r : Nat × Nat) (x : Nat) :
    runCover (removeOne s e r) x =
      ((decide (r.1 ≤ x) && decide (x ≤ r.2)) && !(decide (s ≤ x) && decide (x ≤ e))) := by
  -- a rest that is kept only under a condition covers `x` iff the condition holds and it covers `x`
  have cover_rest : ∀ (c : Prop) [Decidable c] (q : Nat × Nat),
      runCover (if c then [q] else []) x = (decide c && (decide (q.1 ≤ x) && decide (x ≤ q.2))) := by
    intro c _ q; split <;> simp [runCover, *]
  unfold removeOne
  split
  -- `s..=e` misses `r`: `r` stays whole, and no `x` of `r` lies in `s..=e`
  · rw [Bool.eq_iff_iff]; simp [runCover]; omega
  -- otherwise: the rest left of `s` and the rest right of `e`; both sides are arithmetic on `x`
  · rw [runCover_append, cover_rest, cover_rest, Bool.eq_iff_iff]; simp; omega

theorem removeRange_cover (s e : Nat) (rs : List (Nat × Nat)) (x : Nat) :
    runCover (removeRange s e rs) x = (runCover rs x && !(decide (s ≤ x) && decide (x ≤ e))) := by
  unfold removeRange
  split
  · have : (decide (s ≤ x) && decide (x ≤ e)) = false := by simp; omega
    rw [this]; simp
  · induction rs with
    | nil => rfl
    | cons r rs ih =>
      rw [List.flatMap_cons, runCover_append, ih, removeOne_cover, runCover_cons,
        Bool.and_or_distrib_right]

theorem removeOne_WFR {N : Nat} (s e : Nat) (r : Nat × Nat) (rest : List (Nat × Nat)) (k : Nat)
    (hse : s ≤ e)
    (h1 : k ≤ r.1) (h2 : r.1 ≤ r.2) (h3 : r.2 < N) (h4 : WFR N (r.2 + 1) rest) :
    WFR N k (removeOne s e r ++ rest) := by
  unfold removeOne
  split
  · exact ⟨h1, h2, h3, h4⟩
  · next c1 =>
    -- `r` meets `s..=e`: a part on the left, a part on the right, either may be missing
    have hs : s ≤ r.2 := Nat.le_of_not_lt fun h => c1 (Or.inl h)
    have he : r.1 ≤ e := Nat.le_of_not_lt fun h => c1 (Or.inr h)
    have hpred : r.1 < s → s - 1 + 1 ≤ s := fun c2 =>
      Nat.le_of_eq (Nat.sub_add_cancel (Nat.zero_lt_of_lt c2))
    have hsN : s - 1 < N := Nat.lt_of_le_of_lt (Nat.sub_le s 1) (Nat.lt_of_le_of_lt hs h3)
    have hk : k ≤ e + 1 := Nat.le_succ_of_le (Nat.le_trans h1 he)
    split <;> split <;> simp only [List.cons_append, List.nil_append, WFR]
    · next c2 c3 =>
      exact ⟨h1, Nat.le_sub_one_of_lt c2, hsN, Nat.le_trans (hpred c2) (Nat.le_succ_of_le hse),
        c3, h3, h4⟩
    · next c2 c3 =>
      exact ⟨h1, Nat.le_sub_one_of_lt c2, hsN,
        WFR_mono rest _ _ h4 (Nat.le_trans (hpred c2) (Nat.le_succ_of_le hs))⟩
    · next c2 c3 => exact ⟨hk, c3, h3, h4⟩
    · exact WFR_mono rest _ _ h4 (Nat.le_succ_of_le (Nat.le_trans h1 h2))

theorem removeRange_WFR {N : Nat} (s e : Nat) : ∀ (rs : List (Nat × Nat)) (k : Nat),
    WFR N k rs → WFR N k (removeRange s e rs) := by
  intro rs k h
  unfold removeRange
  split
  · exact h
  · induction rs generalizing k with
    | nil => trivial
    | cons r rs ih =>
      obtain ⟨h1, h2, h3, h4⟩ := h
      rw [List.flatMap_cons]
      exact removeOne_WFR s e r _ k (by omega) h1 h2 h3 (ih _ h4)

/-! Removing `s..=e` adds at most one range: one stored range gives at most two, at most one unless
it reaches beyond `e`, and behind a range that reaches beyond `e` nothing changes. -/

theorem length_opt_le {α : Type} (c : Prop) [Decidable c] (a : α) :
    (if c then [a] else []).length ≤ 1 :=
  iteInduction (motive := (List.length · ≤ 1)) (fun _ => Nat.le_refl _) fun _ => Nat.zero_le _

theorem removeOne_length (s e : Nat) (r : Nat × Nat) : (removeOne s e r).length ≤ 2 := by
  unfold removeOne
  by_cases h : r.2 < s ∨ e < r.1
  · rw [if_pos h]; exact Nat.le_succ 1
  · rw [if_neg h, List.length_append]
    exact Nat.add_le_add (length_opt_le ..) (length_opt_le ..)

theorem removeOne_length_of_not_lt (s e : Nat) (r : Nat × Nat) (h2 : ¬ e < r.2) :
    (removeOne s e r).length ≤ 1 := by
  unfold removeOne
  by_cases h : r.2 < s ∨ e < r.1
  · rw [if_pos h]; exact Nat.le_refl _
  · rw [if_neg h, if_neg h2, List.append_nil]
    exact length_opt_le ..

theorem flatMap_removeOne_above {N : Nat} (s e : Nat) : ∀ (rs : List (Nat × Nat)) (k : Nat),
    WFR N k rs → e < k → rs.flatMap (removeOne s e) = rs
  | [], _, _, _ => rfl
  | r :: rs, k, ⟨h1, h2, h3, h4⟩, hk => by
    have : r.2 < s ∨ e < r.1 := Or.inr (by omega)
    rw [List.flatMap_cons, flatMap_removeOne_above s e rs (r.2 + 1) h4 (by omega), removeOne,
      if_pos this]
    rfl

theorem flatMap_removeOne_length {N : Nat} (s e : Nat) : ∀ (rs : List (Nat × Nat)) (k : Nat),
    WFR N k rs → (rs.flatMap (removeOne s e)).length ≤ rs.length + 1
  | [], _, _ => Nat.zero_le _
  | r :: rs, k, ⟨h1, h2, h3, h4⟩ => by
    rw [List.flatMap_cons, List.length_append, List.length_cons]
    by_cases c3 : e < r.2
    · -- `r` reaches beyond `e`: everything after `r` is untouched
      rw [flatMap_removeOne_above s e rs (r.2 + 1) h4 (Nat.lt_succ_of_lt c3)]
      have := removeOne_length s e r
      omega
    · have := flatMap_removeOne_length s e rs (r.2 + 1) h4
      have := removeOne_length_of_not_lt s e r c3
      omega

theorem removeRange_length {N : Nat} (s e : Nat) (rs : List (Nat × Nat)) (k : Nat)
    (h : WFR N k rs) : (removeRange s e rs).length ≤ rs.length + 1 := by
  unfold removeRange
  split
  · exact Nat.le_succ _
  · exact flatMap_removeOne_length s e rs k h

theorem exclLoop_spec {N : Nat} : ∀ (hr : List HashRange) (rs : List (Nat × Nat)) (ms : List Nat)
    (rs' : List (Nat × Nat)) (ms' : List Nat),
    exclLoop hr rs ms = .ok (rs', ms') → WFR N 0 rs →
      WFR N 0 rs' ∧ ms' = ms ++ markersOf hr ∧
      (∀ x, runCover rs' x = (runCover rs x && !excluded hr x)) ∧
      rs'.length + (markersOf hr).length ≤ rs.length + hr.length := by
  intro hr rs ms rs' ms'
  fun_induction exclLoop hr rs ms with
  | case1 rs ms =>
    intro h hw
    cases h
    exact ⟨hw, by simp [markersOf], fun x => by simp [excluded], Nat.le_refl _⟩
  | case2 a hr rs ms o ho ih =>
    -- an offset entry: one more marker, no range
    intro h hw
    obtain ⟨w, m, c, n⟩ := ih h hw
    refine ⟨w, by rw [m, markersOf_cons, ho]; simp, fun x => ?_, ?_⟩
    · rw [c x, excluded_cons, ho]; rfl
    · rw [markersOf_cons, ho]; exact Nat.succ_le_succ n
  | case3 a hr rs ms ho hl ih =>
    intro h hw
    obtain ⟨w, m, c, n⟩ := ih h hw
    refine ⟨w, by rw [m, markersOf_cons, ho]; rfl, fun x => ?_, ?_⟩
    · rw [c x, excluded_cons, hl]; simp
    · rw [markersOf_cons, ho]; exact Nat.le_succ_of_le n
  | case4 => intro h; cases h
  | case5 => intro h; cases h
  | case6 a hr rs ms ho hl e1 hc hz ih =>
    -- a proper range `start .. start + length - 1` is taken out of every remaining range
    intro h hw
    obtain ⟨w, m, c, n⟩ := ih h (removeRange_WFR _ _ rs 0 hw)
    -- a proper range adds at most one remaining range
    have := removeRange_length (N := N) a.start (e1 - 1) rs 0 hw
    refine ⟨w, by rw [m, markersOf_cons, ho]; rfl, fun x => ?_, by
      rw [markersOf_cons, ho, List.length_cons]; exact Nat.le_trans n (by omega)⟩
    have he1 : e1 = a.start + a.length := (checkedAdd_some hc).1
    have hx : decide (x ≤ e1 - 1) = decide (x < a.start + a.length) := by
      rw [decide_eq_decide, Nat.le_sub_one_iff_lt (Nat.pos_of_ne_zero hz), he1]
    have hl' : (a.length != 0) = true := by simpa using hl
    rw [c x, removeRange_cover, excluded_cons, ho, hl', hx, Bool.not_or, Bool.and_assoc]
    rfl

end C2pa.C13
