import C2paModel.Model.C18
import C2paModel.Lemmas.List
/-
C18 — shared lemmas: the `Res` monad with a Hoare-style postcondition calculus (`Post`, `Part`), big-endian
encode/decode, the written form of a description box, and the predicates and functions on trees that the
theorems are stated with (`Valid`, `height`, `QuirkFree`, `norm`).
-/
namespace C2pa.C18

@[simp] theorem bind_ok {α β : Type} (a : α) (f : α → Res β) : (Res.ok a >>= f) = f a := rfl
@[simp] theorem bind_err {α β : Type} (e : Err) (f : α → Res β) : ((Res.err e : Res α) >>= f) = .err e := rfl
@[simp] theorem bind_panic {α β : Type} (f : α → Res β) : ((Res.panic : Res α) >>= f) = .panic := rfl
@[simp] theorem bind_oof {α β : Type} (f : α → Res β) : ((Res.oof : Res α) >>= f) = .oof := rfl
@[simp] theorem pure_eq {α : Type} (a : α) : (pure a : Res α) = .ok a := rfl
@[simp] theorem mapErr_ok {α : Type} (a : α) (e : Err) : (Res.ok a).mapErr e = .ok a := rfl
@[simp] theorem mapErr_err {α : Type} (e' e : Err) : ((Res.err e' : Res α)).mapErr e = .err e := rfl
@[simp] theorem mapErr_panic {α : Type} (e : Err) : ((Res.panic : Res α)).mapErr e = .panic := rfl
@[simp] theorem mapErr_oof {α : Type} (e : Err) : ((Res.oof : Res α)).mapErr e = .oof := rfl

theorem mapErr_eq_ok {α : Type} {x : Res α} {e : Err} {a : α} (h : x.mapErr e = .ok a) : x = .ok a := by
  cases x <;> simp_all [Res.mapErr]

theorem bind_eq_ok {α β : Type} {x : Res α} {f : α → Res β} {b : β} (h : (x >>= f) = .ok b) :
    ∃ a, x = .ok a ∧ f a = .ok b := by
  cases x with
  | ok a => exact ⟨a, rfl, h⟩
  | err e => cases h
  | panic => cases h
  | oof => cases h

theorem usub_ok (a b : Nat) (h : b ≤ a) : usub a b = .ok (a - b) := by
  unfold usub; rw [if_neg (by omega)]

theorem usub_add (a b : Nat) : usub (a + b) b = .ok a := by
  rw [usub_ok _ _ (Nat.le_add_left ..), Nat.add_sub_cancel]

theorem unread_ok (p : Nat) (h : 8 ≤ p) : unread p = .ok (p - 8) := by
  unfold unread; rw [if_neg (by omega)]

/-- `r` is neither `panic` nor `oof`, and an `ok` value satisfies `Q`. -/
def Res.Post {α : Type} (r : Res α) (Q : α → Prop) : Prop :=
  match r with
  | .ok a => Q a
  | .err _ => True
  | .panic => False
  | .oof => False

@[simp] theorem post_ok {α : Type} (a : α) (Q : α → Prop) : (Res.ok a).Post Q ↔ Q a := Iff.rfl
@[simp] theorem post_err {α : Type} (e : Err) (Q : α → Prop) : (Res.err e : Res α).Post Q ↔ True := Iff.rfl
@[simp] theorem post_panic {α : Type} (Q : α → Prop) : (Res.panic : Res α).Post Q ↔ False := Iff.rfl
@[simp] theorem post_oof {α : Type} (Q : α → Prop) : (Res.oof : Res α).Post Q ↔ False := Iff.rfl

theorem Res.Post.bind_eq {α β : Type} {x : Res α} {f : α → Res β} {P : α → Prop} {Q : β → Prop}
    (hx : x.Post P) (hf : ∀ a, x = .ok a → P a → (f a).Post Q) : (x >>= f).Post Q := by
  cases x with
  | ok a => exact hf a rfl hx
  | err e => trivial
  | panic => exact hx
  | oof => exact hx

theorem Res.Post.bind {α β : Type} {x : Res α} {f : α → Res β} {P : α → Prop} {Q : β → Prop}
    (hx : x.Post P) (hf : ∀ a, P a → (f a).Post Q) : (x >>= f).Post Q :=
  hx.bind_eq fun a _ => hf a

theorem Res.Post.mono {α : Type} {x : Res α} {P Q : α → Prop}
    (hx : x.Post P) (h : ∀ a, P a → Q a) : x.Post Q := by
  cases x with
  | ok a => exact h a hx
  | err e => trivial
  | panic => exact hx
  | oof => exact hx

theorem Res.Post.mapErr {α : Type} {x : Res α} {P : α → Prop} (e : Err)
    (hx : x.Post P) : (x.mapErr e).Post P := by
  cases x <;> first | exact hx | trivial

theorem Res.Post.ite {α : Type} {c : Prop} [Decidable c] {x y : Res α} {Q : α → Prop}
    (hx : c → x.Post Q) (hy : ¬ c → y.Post Q) : (if c then x else y).Post Q :=
  iteInduction (motive := (Res.Post · Q)) hx hy

theorem Res.Post.guard {α : Type} {c : Prop} [Decidable c] {e : Err} {y : Res α} {Q : α → Prop}
    (h : ¬ c → y.Post Q) : (if c then .err e else y).Post Q :=
  .ite (fun _ => trivial) h

theorem Res.Post.of_eq_ok {α : Type} {x : Res α} {P : α → Prop} {a : α}
    (hx : x.Post P) (h : x = .ok a) : P a := by
  subst h; exact hx

/-- partial correctness only: an `ok` value satisfies `Q`; `panic` and `oof` are allowed, which `Post`
excludes. -/
def Res.Part {α : Type} (r : Res α) (Q : α → Prop) : Prop :=
  match r with
  | .ok a => Q a
  | _ => True

@[simp] theorem part_ok {α : Type} (a : α) (Q : α → Prop) : (Res.ok a).Part Q ↔ Q a := Iff.rfl
@[simp] theorem part_err {α : Type} (e : Err) (Q : α → Prop) : (Res.err e : Res α).Part Q ↔ True := Iff.rfl
@[simp] theorem part_panic {α : Type} (Q : α → Prop) : (Res.panic : Res α).Part Q ↔ True := Iff.rfl
@[simp] theorem part_oof {α : Type} (Q : α → Prop) : (Res.oof : Res α).Part Q ↔ True := Iff.rfl

theorem be_be32 (n : Nat) (h : n < 4294967296) : be (be32 n) = n := by
  have d2 : n / 256 / 256 = n / 65536 := Nat.div_div_eq_div_mul n 256 256
  have d3 : n / 256 / 256 / 256 = n / 16777216 := by rw [d2]; exact Nat.div_div_eq_div_mul n 65536 256
  have b0 : n / 256 / 256 / 256 % 256 = n / 256 / 256 / 256 := by
    rw [d3]; exact Nat.mod_eq_of_lt (Nat.div_lt_of_lt_mul h)
  simp only [be, be32, List.foldl_cons, List.foldl_nil, UInt8.toNat_ofNat', Nat.reducePow, Nat.zero_mul,
    Nat.zero_add, ← d3, ← d2]
  rw [b0, Nat.mul_comm (n / 256 / 256 / 256), Nat.div_add_mod, Nat.mul_comm (n / 256 / 256), Nat.div_add_mod,
    Nat.mul_comm (n / 256), Nat.div_add_mod]

@[simp] theorem be32_length (n : Nat) : (be32 n).length = 4 := rfl

theorem be_lt (bs : Bytes) : be bs < 256 ^ bs.length := by
  simpa [be] using Data.foldl_horner_lt 256 UInt8.toNat bs 0 fun b _ => b.toNat_lt

theorem avail_of_drop {d : Bytes} {pos : Nat} {x : Bytes} (h : d.drop pos = x) :
    d.length - pos = x.length := by
  rw [← h, List.length_drop]

@[simp] theorem slice_length (d : Bytes) (pos n : Nat) : (slice d pos n).length = min n (d.length - pos) := by
  simp [slice]

theorem strNonEmpty_nil : strNonEmpty ([] : Bytes) = false := by simp [strNonEmpty]

/-! ### the written form of the optional fields of a description box -/

def idBytes (boxId : Option Nat) : Bytes := match boxId with | some x => be32 x | none => []
def saltBytes (salt : Option Bytes) : Bytes := match salt with | some s => serSalt s | none => []

theorem descPayload_eq (d : Desc) :
    descPayload d = d.uuid ++ [d.toggles] ++ (if strNonEmpty d.label then d.label ++ [0] else [])
      ++ idBytes d.boxId ++ optBytes d.sig ++ saltBytes d.salt := rfl

theorem descPayload_length (d : Desc) :
    (descPayload d).length = d.uuid.length + 1 + (if strNonEmpty d.label then d.label.length + 1 else 0)
      + (idBytes d.boxId).length + (optBytes d.sig).length + (saltBytes d.salt).length := by
  rw [descPayload_eq]
  split <;> simp only [List.length_append, List.length_cons, List.length_nil, Nat.zero_add, Nat.add_zero]

theorem descPayload_length_le (d : Desc) :
    (descPayload d).length ≤ d.uuid.length + 1 + (d.label.length + 1) + (idBytes d.boxId).length
      + (optBytes d.sig).length + (saltBytes d.salt).length := by
  rw [descPayload_length]
  split <;> omega

/-- what `read_desc_box` guarantees -/
def Desc.Valid0 (d : Desc) : Prop :=
  d.uuid.length = 16 ∧ d.toggles &&& 0x03 = 0x03 ∧ (0 : UInt8) ∉ d.label ∧
  (d.boxId.isSome = true ↔ d.toggles &&& 0x04 = 0x04) ∧ (∀ x, d.boxId = some x → x < 4294967296) ∧
  (d.sig.isSome = true ↔ d.toggles &&& 0x08 = 0x08) ∧ (∀ s, d.sig = some s → s.length = 32) ∧
  (d.salt.isSome = true ↔ d.toggles &&& 0x10 = 0x10)

/-- what holds of the description box of every super box the reader returns: `Valid0` and the label
check of `read_super_box_impl` -/
def Desc.Valid (d : Desc) : Prop := d.Valid0 ∧ strNonEmpty d.label = true

mutual
/-- structural invariants of everything the reader returns -/
def Box.Valid : Box → Prop
  | .super d cs => d.Valid ∧ ValidList cs
  | .leaf _ _ => True
  | .uuid u _ => u.length = 16
  | .bfdb _ _ _ => True
def ValidList : List Box → Prop
  | [] => True
  | b :: bs => b.Valid ∧ ValidList bs
end

def Box.isSuper : Box → Prop
  | .super _ _ => True
  | _ => False

theorem Box.isSuper.eq_super {b : Box} (h : b.isSuper) : ∃ d cs, b = .super d cs := by
  cases b with
  | super d cs => exact ⟨d, cs, rfl⟩
  | _ => exact absurd h id

mutual
def Box.height : Box → Nat
  | .super _ cs => 1 + heightList cs
  | .leaf _ _ => 0
  | .uuid _ _ => 0
  | .bfdb _ _ _ => 0
def heightList : List Box → Nat
  | [] => 0
  | b :: bs => max b.height (heightList bs)
end

mutual
/-- none of the three shapes whose re-serialisation may not read back to the same bytes:
a super box without content boxes (the reader goes on reading at its end and takes whatever follows
in the data, its own sibling or one of an enclosing box, for its child; only as the very last thing in
the data it reads back, so the predicate is sufficient, not necessary), a `uuid` box without data, a `bfdb`
box with toggles = 1 whose (valid UTF-8) media type contains a NUL. -/
def Box.QuirkFree : Box → Prop
  | .super _ cs => cs ≠ [] ∧ QuirkFreeList cs
  | .leaf _ _ => True
  | .uuid _ data => data ≠ []
  | .bfdb t m _ => ¬ (t = 1 ∧ (0 : UInt8) ∈ m ∧ utf8Valid m = true)
def QuirkFreeList : List Box → Prop
  | [] => True
  | b :: bs => b.QuirkFree ∧ QuirkFreeList bs
end

/-- what reading the written form of a `bfdb` box gives back (the file name is not written; a
media type that is not a non-empty `str` is not written either) -/
def normBfdb (t : UInt8) (m : Bytes) : Box :=
  if strNonEmpty m then (if t = 1 then .bfdb 1 m (some [0]) else .bfdb t m none)
  else .bfdb t [] none

/-- the two fields `normBfdb` fills in: the media type as far as it is written, and the file name the
reader makes of the terminating NUL when the toggles say there is one -/
def normMt (m : Bytes) : Bytes := if strNonEmpty m then m else []
def normFn (t : UInt8) (m : Bytes) : Option Bytes := if strNonEmpty m = true ∧ t = 1 then some [0] else none

theorem normBfdb_eq (t : UInt8) (m : Bytes) : normBfdb t m = .bfdb t (normMt m) (normFn t m) := by
  unfold normBfdb normMt normFn
  by_cases h : strNonEmpty m = true <;> by_cases ht : t = 1 <;> simp [h, ht]

theorem bfdbPayload_normMt (t : UInt8) (m : Bytes) : bfdbPayload t (normMt m) = bfdbPayload t m := by
  unfold normMt
  split
  · rfl
  · simp_all [bfdbPayload, strNonEmpty]

mutual
/-- the tree that reading the written form of a tree gives back: `normBfdb` at every `bfdb` box,
nothing else changes -/
def Box.norm : Box → Box
  | .super d cs => .super d (normList cs)
  | .leaf k data => .leaf k data
  | .uuid u data => .uuid u data
  | .bfdb t m _ => normBfdb t m
def normList : List Box → List Box
  | [] => []
  | b :: bs => b.norm :: normList bs
end

end C2pa.C18
