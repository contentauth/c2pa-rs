import C2paModel.Lemmas.C18Base
/-
C18 — evaluation of the individual readers on the bytes the writer produced
(`At d pos (<written form> ++ rest)`).
-/
namespace C2pa.C18

/-- the cursor stands at `pos` inside `d`, and `s` is all that is left to read -/
structure At (d : Bytes) (pos : Nat) (s : Bytes) : Prop where
  le : pos ≤ d.length
  drop : d.drop pos = s

theorem At.length {d : Bytes} {pos : Nat} {s : Bytes} (h : At d pos s) : d.length = pos + s.length := by
  have := avail_of_drop h.drop
  have := h.le
  omega

/-- `k` is a variable so that the new position can be written as the reader computes it (`pos + 4`,
not `pos + (be32 n).length`) -/
theorem At.skip {d : Bytes} {pos : Nat} (a : Bytes) {rest : Bytes} {k : Nat}
    (h : At d pos (a ++ rest)) (hk : k = a.length) : At d (pos + k) rest := by
  subst hk
  have := h.length
  rw [List.length_append] at this
  exact ⟨by omega, by rw [← List.drop_drop, h.drop, List.drop_left]⟩

theorem At.slice {d : Bytes} {pos : Nat} {a rest : Bytes} (h : At d pos (a ++ rest)) :
    slice d pos a.length = a := by
  rw [C18.slice, h.drop, List.take_left]

theorem readHeader_at {d : Bytes} {pos n t : Nat} {rest : Bytes}
    (h : At d pos (be32 n ++ (be32 t ++ rest))) (hn : n < 4294967296) (ht : t < 4294967296)
    (h1 : n ≠ 1) : readHeader d pos = .ok (⟨t, n⟩, pos + 8) := by
  have hav := h.length
  simp only [List.length_append, be32_length] at hav
  have s1 : slice d pos 4 = be32 n := h.slice
  have s2 : slice d (pos + 4) 4 = be32 t := (h.skip (be32 n) rfl).slice
  unfold readHeader
  simp only [s1, s2, be_be32 n hn, be_be32 t ht]
  rw [hav, Nat.add_sub_cancel_left, if_neg (by omega), if_neg (by omega), if_neg h1]

theorem At.header {d : Bytes} {pos n t : Nat} {rest : Bytes}
    (h : At d pos (be32 n ++ (be32 t ++ rest))) : At d (pos + 8) rest :=
  (h.skip (be32 n) (k := 4) rfl).skip (be32 t) (k := 4) rfl

theorem readToVec_at {d : Bytes} {pos : Nat} {s rest : Bytes} (h : At d pos (s ++ rest))
    (hL : d.length < 2 ^ 64) : readToVec d pos s.length = .ok (s, pos + s.length) := by
  have := (h.skip s rfl).le
  unfold readToVec
  rw [if_neg (by omega), if_neg (by omega), h.slice]

theorem readExact_at {d : Bytes} {pos : Nat} {s rest : Bytes} (h : At d pos (s ++ rest)) :
    readExact d pos s.length = .ok (s, pos + s.length) := by
  have := (h.skip s rfl).le
  unfold readExact
  rw [if_neg (by omega), h.slice]

theorem readByte_at {d : Bytes} {pos : Nat} {b : UInt8} {rest : Bytes} (h : At d pos ([b] ++ rest)) :
    readByte d pos = .ok (b, pos + 1) := by
  unfold readByte; rw [h.drop]; rfl

/-- the header of a written box, read a second time by the reader of the box type: the same
header, no seek back -/
theorem reseek_same (n p : Nat) : reseek (n != n) p = .ok p := by
  simp [reseek]

theorem readData_at {d : Bytes} {pos t : Nat} {data rest : Bytes}
    (h : At d pos (be32 (8 + data.length) ++ (be32 t ++ (data ++ rest))))
    (hL : d.length < 2 ^ 64) (hs : 8 + data.length < 4294967296) (ht : t < 4294967296) :
    readData d pos (8 + data.length) = .ok (data, pos + (8 + data.length)) := by
  unfold readData
  rw [readHeader_at h hs ht (by omega)]
  simp only [mapErr_ok, bind_ok, reseek_same]
  rw [if_neg (by omega), if_neg (by omega), Nat.add_sub_cancel_left, readToVec_at h.header hL, Nat.add_assoc]

theorem readUuid_at {d : Bytes} {pos : Nat} {u data rest : Bytes}
    (h : At d pos (be32 (8 + (16 + data.length)) ++ (be32 UUID ++ (u ++ (data ++ rest)))))
    (hu : u.length = 16) (hL : d.length < 2 ^ 64) (hs : 8 + (16 + data.length) < 4294967296) :
    readUuid d pos (8 + (16 + data.length)) = .ok ((u, data), pos + (8 + (16 + data.length))) := by
  have e1 := readExact_at h.header
  have e2 := readToVec_at (h.header.skip u hu.symm) hL
  rw [hu] at e1
  unfold readUuid
  rw [readHeader_at h hs (by decide) (by omega)]
  simp only [mapErr_ok, bind_ok, reseek_same]
  rw [if_neg (by omega), e1]
  simp only [bind_ok]
  rw [if_neg (by omega), show 8 + (16 + data.length) - 24 = data.length by omega, e2]
  simp only [bind_ok, Nat.add_assoc]

theorem findIdx_nul (m : Bytes) (h : (0 : UInt8) ∉ m) :
    (m ++ [0]).findIdx? (· = 0) = some m.length :=
  Data.findIdx_first _ 0 [] (by simp) m fun x hx => by simpa using fun e : x = 0 => h (e ▸ hx)

theorem splitMedia_written (t : UInt8) (m : Bytes) (hq : ¬ (t = 1 ∧ (0 : UInt8) ∈ m ∧ utf8Valid m = true))
    (hne : strNonEmpty m = true) :
    splitMedia t (m ++ [0]) = .ok (if t = 1 then (m, some [0]) else (m, none)) := by
  have hv : utf8Valid m = true := by
    simp [strNonEmpty] at hne; exact hne.2
  unfold splitMedia
  by_cases ht : t = 1
  · have h0 : (0 : UInt8) ∉ m := fun h => hq ⟨ht, h, hv⟩
    simp only [ht, if_true, findIdx_nul m h0]
    rw [usub_ok _ 1 (by simp)]
    simp
  · simp [ht]

theorem splitMedia_empty (t : UInt8) : splitMedia t [] = .ok ([], none) := by
  unfold splitMedia
  split <;> simp

theorem splitMedia_payload (t : UInt8) (m : Bytes)
    (hq : ¬ (t = 1 ∧ (0 : UInt8) ∈ m ∧ utf8Valid m = true)) :
    splitMedia t (if strNonEmpty m then m ++ [0] else []) = .ok (normMt m, normFn t m) := by
  unfold normMt normFn
  by_cases hne : strNonEmpty m = true
  · rw [if_pos hne, if_pos hne, splitMedia_written t m hq hne]
    by_cases ht : t = 1 <;> simp [hne, ht]
  · rw [if_neg hne, if_neg hne, if_neg (fun h => hne h.1), splitMedia_empty]

theorem readBfdb_at {d : Bytes} {pos : Nat} {t : UInt8} {m rest : Bytes}
    (h : At d pos (be32 (8 + (bfdbPayload t m).length) ++ (be32 BFDB ++ (bfdbPayload t m ++ rest))))
    (hq : ¬ (t = 1 ∧ (0 : UInt8) ∈ m ∧ utf8Valid m = true))
    (hL : d.length < 2 ^ 64) (hs : 8 + (bfdbPayload t m).length < 4294967296) :
    readBfdb d pos (8 + (bfdbPayload t m).length)
      = .ok ((t, normMt m, normFn t m), pos + (8 + (bfdbPayload t m).length)) := by
  have hsplit := splitMedia_payload t m hq
  have hh := readHeader_at h hs (by decide) (by omega)
  have h8 := h.header
  -- the payload is the toggles byte and a `tail`
  unfold bfdbPayload at hh h8 hs ⊢
  generalize (if strNonEmpty m then m ++ [0] else []) = tail at *
  rw [List.length_cons] at hh hs ⊢
  unfold readBfdb
  rw [if_neg (by omega), hh]
  simp only [mapErr_ok, bind_ok, reseek_same]
  rw [if_neg (by omega), readByte_at h8]
  simp only [bind_ok]
  rw [usub_ok _ 8 (by omega)]
  simp only [Res.bind]
  rw [usub_ok _ 1 (by omega), show 8 + (tail.length + 1) - 8 - 1 = tail.length by omega]
  simp only [bind_ok]
  rw [readToVec_at (h8.skip [t] (k := 1) rfl) hL]
  simp only [bind_ok, hsplit]
  congr 2; omega

/-! ### the description box

`bytes_left` is written as what is left after the field plus the field, so that no subtraction
appears. -/

theorem readLabel_at : ∀ (label : Bytes) (more : Bytes) (bl : Nat), (0 : UInt8) ∉ label → 8 ≤ bl →
    readLabel (label ++ ([0] ++ more)) (bl + (label.length + 1)) = .ok (label, bl) := by
  intro label
  induction label with
  | nil =>
    intro more bl _ hbl
    unfold readLabel
    rw [if_neg (by simp only [List.length_nil]; omega)]
    simp only [List.nil_append, List.cons_append, List.length_nil, Nat.zero_add, usub_add, bind_ok, if_true]
  | cons a l ih =>
    intro more bl h0 hbl
    have ha : a ≠ 0 := fun e => h0 (by simp [e])
    have hl : (0 : UInt8) ∉ l := fun e => h0 (by simp [e])
    unfold readLabel
    rw [if_neg (by omega), List.cons_append (a := a) (as := l), List.length_cons, ← Nat.add_assoc bl]
    rw [usub_add]
    simp only [bind_ok]
    rw [if_neg ha, ih more bl hl hbl]
    rfl

theorem readBoxId_at {d : Bytes} {togs : UInt8} {p bl : Nat} {boxId : Option Nat} {rest : Bytes}
    (hi1 : boxId.isSome = true ↔ togs &&& 0x04 = 0x04) (hi2 : ∀ x, boxId = some x → x < 4294967296)
    (h : At d p (idBytes boxId ++ rest)) :
    readBoxId d togs p (bl + (idBytes boxId).length) = .ok (boxId, bl, p + (idBytes boxId).length) := by
  unfold readBoxId
  cases boxId with
  | none => rw [if_neg (by simpa using hi1)]; rfl
  | some x =>
    have e := readExact_at (s := be32 x) h
    simp only [idBytes, be32_length] at e ⊢
    rw [if_pos (by simpa using hi1), e]
    simp only [bind_ok, usub_add, be_be32 x (hi2 x rfl)]

theorem readSig_at {d : Bytes} {togs : UInt8} {p bl : Nat} {sig : Option Bytes} {rest : Bytes}
    (hs1 : sig.isSome = true ↔ togs &&& 0x08 = 0x08) (hs2 : ∀ s, sig = some s → s.length = 32)
    (h : At d p (optBytes sig ++ rest)) :
    readSig d togs p (bl + (optBytes sig).length) = .ok (sig, bl, p + (optBytes sig).length) := by
  unfold readSig
  cases sig with
  | none => rw [if_neg (by simpa using hs1)]; rfl
  | some s =>
    have e := readExact_at (s := s) h
    simp only [optBytes, hs2 s rfl] at e ⊢
    rw [if_pos (by simpa using hs1), e]
    simp only [bind_ok]
    rw [if_neg (by omega), Nat.add_sub_cancel]

/-- the salt is the last field: `bytes_left` is its size plus 8, and only then is its header not sought
back over -/
theorem readSalt_at {d : Bytes} {togs : UInt8} {p : Nat} {salt : Option Bytes} {rest : Bytes}
    (ha1 : salt.isSome = true ↔ togs &&& 0x10 = 0x10)
    (h : At d p (saltBytes salt ++ rest)) (hL : d.length < 2 ^ 64)
    (hsz : (saltBytes salt).length < 4294967296) :
    readSalt d togs p (8 + (saltBytes salt).length) = .ok (salt, 8, p + (saltBytes salt).length) := by
  unfold readSalt
  cases salt with
  | none => rw [if_neg (by simpa using ha1)]; rfl
  | some s =>
    have hlen : (saltBytes (some s)).length = 8 + s.length := by
      simp only [saltBytes, serSalt, List.length_append, be32_length]
    rw [hlen] at hsz ⊢
    simp only [saltBytes, serSalt, List.append_assoc] at h
    rw [if_pos (by simpa using ha1), readHeader_at h (by omega) (by decide) (by omega)]
    simp only [mapErr_ok, bind_ok]
    have hc : (decide (8 + (8 + s.length) < 8) || 8 + (8 + s.length) - 8 != 8 + s.length) = false := by
      simp
    rw [if_neg (by omega), hc]
    simp only [reseek, Bool.false_eq_true, if_false, bind_ok]
    rw [if_neg (by simp), if_neg (by omega), Nat.add_sub_cancel_left, readToVec_at h.header hL]
    simp only [bind_ok]
    rw [if_neg (by omega), Nat.add_sub_cancel, Nat.add_assoc]

theorem descPayload_written (d : Desc) (hne : strNonEmpty d.label = true) :
    descPayload d = d.uuid ++ ([d.toggles] ++ (d.label ++ ([0] ++ (idBytes d.boxId ++
      (optBytes d.sig ++ saltBytes d.salt))))) := by
  rw [descPayload_eq, if_pos hne]
  simp only [List.append_assoc]

theorem readDesc_at {d : Bytes} {p : Nat} {desc : Desc} {rest : Bytes}
    (hv : desc.Valid) (h : At d p (descPayload desc ++ rest))
    (hL : d.length < 2 ^ 64) (hs : 8 + (descPayload desc).length < 4294967296) :
    readDesc d p (8 + (descPayload desc).length) = .ok (desc, p + (descPayload desc).length) := by
  obtain ⟨uuid, togs, label, boxId, sig, salt⟩ := desc
  obtain ⟨⟨hu, ht3, hl0, hi1, hi2, hs1, hs2, ha1⟩, hne⟩ := hv
  dsimp only at hu ht3 hl0 hi1 hi2 hs1 hs2 ha1 hne
  have hdp := descPayload_written ⟨uuid, togs, label, boxId, sig, salt⟩ hne
  -- from here on the payload is a variable `dp` with the equation `hdp`, so that nothing unfolds it
  generalize descPayload ⟨uuid, togs, label, boxId, sig, salt⟩ = dp at *
  -- the size as the reader counts it down, field by field from the end
  have hsz : 8 + dp.length = 8 + (saltBytes salt).length + (optBytes sig).length + (idBytes boxId).length
      + (label.length + 1) + 1 + 16 := by
    rw [hdp]; simp only [List.length_append, List.length_singleton, hu]; omega
  have hav := h.length
  rw [List.length_append] at hav
  rw [hdp] at h
  simp only [List.append_assoc] at h
  have h16 := h.skip uuid hu.symm
  have h17 := h16.skip [togs] (k := 1) rfl
  have hl1 := (h17.skip label rfl).skip [0] (k := 1) rfl
  have hi := hl1.skip (idBytes boxId) rfl
  have hsg := hi.skip (optBytes sig) rfl
  have hsl : slice d p 16 = uuid := by
    have := h.slice; rwa [hu] at this
  rw [hsz] at hs ⊢
  unfold readDesc
  rw [if_neg (by omega), hav, Nat.add_sub_cancel_left, Nat.min_eq_left (by omega)]
  rw [if_neg (by decide), usub_add, bind_ok, readByte_at h16, bind_ok]
  dsimp only
  rw [usub_add, bind_ok, if_neg (fun hc => hc ht3), h17.drop, readLabel_at label _ _ hl0 (by omega), bind_ok]
  rw [readBoxId_at hi1 hi2 hl1, bind_ok]
  rw [readSig_at hs1 hs2 hi, bind_ok]
  rw [readSalt_at ha1 hsg hL (by omega), bind_ok]
  dsimp only
  rw [if_neg (fun hc => hc rfl), hsl]
  congr 2
  omega

end C2pa.C18
