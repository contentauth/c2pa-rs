import C2paModel.Lemmas.C34
/-
C34 — manifest label parts. `Display` writes the `:`-join of `pieces p`; on a bare label the parser is
`ofPieces` of its `:`-pieces (Lemmas/C34). So parts → label → parts is `ofPieces (pieces p) = some p` for
well-formed `p` (`WF`: every piece free of `:` and `/`, so that split undoes join), a fact about lists
of pieces with no text in it; and the converse, whatever the parser returns is well-formed, is
`ofPieces_wf`.
-/
namespace C2pa.C34

/-! ### pieces free of `:` and `/`, and the well-formed parts -/

def clean (s : Str) : Bool := !s.contains ':' && !s.contains '/'

def optLt (o : Option Nat) : Bool :=
  match o with
  | none => true
  | some n => decide (n < usizeLimit)

/-- Well-formed parts: enough for what `Display` prints to parse back to them (`parts_roundtrip_partial`),
and met by whatever the parser returns for a bare label or a manifest URI (`parse_wf`). Not
necessary: a 1.x GUID with a `/` that does not spell a manifest URI also reads back. -/
def WF (p : Parts) : Bool :=
  clean p.guid
  && (match p.cgi with | none => true | some v => clean v)
  && (if p.isV1 then p.version.isNone && p.reason.isNone
      else (match p.cgi with | none => true | some v => !v.isEmpty && !vendorBad v)
        && (p.reason.isNone || p.version.isSome) && optLt p.version && optLt p.reason)

theorem clean_iff {s : Str} : clean s = true ↔ ':' ∉ s ∧ '/' ∉ s := by
  simp [clean]

theorem WF_clean {p : Parts} (h : WF p = true) :
    (':' ∉ p.guid ∧ '/' ∉ p.guid) ∧ ∀ v, p.cgi = some v → ':' ∉ v ∧ '/' ∉ v := by
  simp only [WF, Bool.and_eq_true] at h
  exact ⟨clean_iff.mp h.1.1, fun v e => clean_iff.mp (by simpa [e] using h.1.2)⟩

theorem c2pa_ne_urn : cC2pa ≠ cUrn := by unfold cC2pa cUrn; decide_run
theorem c2pa_ne_uuid : cC2pa ≠ cUuid := by unfold cC2pa cUuid; decide_run
theorem uuid_ne_urn : cUuid ≠ cUrn := by unfold cUuid cUrn; decide_run

/-! ### `Display` on pieces -/

/-! the fixed openings `Display` writes, in terms of the words the parser compares with -/
theorem urn_uuid_lit : "urn:uuid:".toList = cUrn ++ ':' :: (cUuid ++ [':']) := by
  unfold cUrn cUuid; decide_run
theorem colon_urn_uuid_lit : ":urn:uuid:".toList = ':' :: (cUrn ++ ':' :: (cUuid ++ [':'])) := by
  unfold cUrn cUuid; decide_run
theorem urn_c2pa_lit : "urn:c2pa:".toList = cUrn ++ ':' :: (cC2pa ++ [':']) := by
  unfold cUrn cC2pa; decide_run

/-- the version piece `<n>[_<r>]` -/
def verStr (n : Nat) : Option Nat → Str
  | none => showNat n
  | some r => showNat n ++ '_' :: showNat r

/-- the `:`-pieces `Display` writes; a version without a vendor leaves the vendor's piece empty (`::`) -/
def pieces (p : Parts) : List Str :=
  if p.isV1 then p.cgi.toList ++ [cUrn, cUuid, p.guid]
  else cUrn :: cC2pa :: p.guid ::
    match p.version with
    | none => p.cgi.toList
    | some n => [p.cgi.getD [], verStr n p.reason]

theorem pieces_ne_nil (p : Parts) : pieces p ≠ [] := by
  unfold pieces; split <;> simp

theorem display_eq (p : Parts) : display p = joinWith ':' (pieces p) := by
  obtain ⟨g, v1, cgi, ver, rsn⟩ := p
  -- `String.reduceToList` would spell the openings out before the `_lit` equations can rewrite them
  cases v1 <;> cases cgi <;> cases ver <;> (try cases rsn) <;>
    simp [-String.reduceToList, display, pieces, verStr, joinWith, urn_uuid_lit, colon_urn_uuid_lit, urn_c2pa_lit]

/-- `Claim::new` writes exactly what `Display` writes for (GUID, lower-cased vendor). -/
theorem newLabel_is_display (g : Str) (vendor : Option Str) (v1 : Bool) :
    newLabel g vendor v1 = display ⟨g, v1, vendor.map lowerAscii, none, none⟩ := by
  cases vendor <;> cases v1 <;> simp [newLabel, display]

theorem sep_not_mem_words : ∀ c ∈ [':', '/', '='], c ∉ cUrn ++ (cUuid ++ cC2pa) := by
  unfold cUrn cUuid cC2pa; decide_run

theorem not_mem_pieces {c : Char} (p : Parts) (hd : c.isDigit = false) (hu : c ≠ '_')
    (hw : c ∉ cUrn ++ (cUuid ++ cC2pa)) (hg : c ∉ p.guid) (hv : ∀ v, p.cgi = some v → c ∉ v) :
    ∀ x ∈ pieces p, c ∉ x := by
  simp only [List.mem_append, not_or] at hw
  have hcgi : ∀ x ∈ p.cgi.toList, c ∉ x := fun x hx => hv x (Option.mem_toList.mp hx)
  have hgd : c ∉ p.cgi.getD [] := by
    cases h : p.cgi with
    | none => exact List.not_mem_nil
    | some v => exact hv v h
  have hn : ∀ n r, c ∉ verStr n r
    | n, none => not_mem_showNat hd n
    | n, some r => not_mem_ver_reason hd hu n r
  unfold pieces
  split
  · simp only [List.forall_mem_append, List.forall_mem_cons]
    exact ⟨hcgi, hw.1, hw.2.1, hg, mem_nil_all⟩
  · simp only [List.forall_mem_cons]
    refine ⟨hw.1, hw.2.2, hg, ?_⟩
    split
    · exact hcgi
    · exact mem_cons_all hgd (mem_cons_all (hn _ _) mem_nil_all)

/-! ### parts → pieces → parts -/

theorem versionOf_none : versionOf none = some (none, none) := rfl

theorem versionOf_verStr {n : Nat} {r : Option Nat} (hn : n < usizeLimit)
    (hr : ∀ x, r = some x → x < usizeLimit) : versionOf (some (verStr n r)) = some (some n, r) := by
  cases r with
  | none =>
    simp [versionOf, readVer, verStr, showNat_ne_nil, splitOnC_of_not_mem (us_not_mem_showNat n),
      usize_roundtrip n hn]
  | some r =>
    have hr := hr r rfl
    simp [versionOf, readVer, verStr, splitOnC_append_sep _ (us_not_mem_showNat n),
      splitOnC_of_not_mem (us_not_mem_showNat r), usize_roundtrip, hn, hr]

theorem ofPieces_pieces (p : Parts) (h : WF p = true) : ofPieces (pieces p) = some p := by
  obtain ⟨g, v1, cgi, ver, rsn⟩ := p
  cases v1 <;> cases cgi <;> cases ver <;> cases rsn <;> simp [WF, optLt] at h <;>
    simp [pieces, ofPieces, vendorOf, versionOf_verStr, versionOf_none,
      uuid_ne_urn, c2pa_ne_urn, c2pa_ne_uuid, h]

theorem split_display {p : Parts} (h : WF p = true) :
    '/' ∉ display p ∧ splitOnC ':' (display p) = pieces p := by
  obtain ⟨cg, cv⟩ := WF_clean h
  have hc := not_mem_pieces (c := ':') p rfl (by decide) (sep_not_mem_words _ (by decide)) cg.1
    fun v e => (cv v e).1
  have hs := not_mem_pieces (c := '/') p rfl (by decide) (sep_not_mem_words _ (by decide)) cg.2
    fun v e => (cv v e).2
  rw [display_eq]
  exact ⟨not_mem_joinWith (by decide) hs, split_join ':' _ (pieces_ne_nil p) hc⟩

theorem ofPieces_display {p : Parts} (h : WF p = true) : ofPieces (splitOnC ':' (display p)) = some p := by
  rw [(split_display h).2, ofPieces_pieces p h]

/-! ### pieces → parts: what the parser returns is well-formed -/

theorem vendorOf_wf {o vend : Option Str} (h : vendorOf o = some vend) :
    ∀ v, vend = some v → o = some v ∧ v ≠ [] ∧ vendorBad v = false := by
  rintro v rfl
  rcases o with _ | d
  · cases h
  · by_cases hd : d = [] <;> by_cases hb : vendorBad d = true <;> simp [vendorOf, hd, hb] at h
    subst h
    exact ⟨rfl, hd, by simpa using hb⟩

theorem versionOf_wf {o : Option Str} {ver rsn : Option Nat} (h : versionOf o = some (ver, rsn)) :
    optLt ver = true ∧ optLt rsn = true ∧ (rsn.isNone || ver.isSome) = true := by
  rcases o with _ | e
  · cases h; exact ⟨rfl, rfl, rfl⟩
  simp only [versionOf] at h
  split at h
  · cases h; exact ⟨rfl, rfl, rfl⟩
  unfold readVer at h
  split at h
  · obtain ⟨n, hn, h2⟩ := Option.bind_eq_some_iff.mp h
    obtain ⟨m, hm, he⟩ := Option.map_eq_some_iff.mp h2
    cases he
    exact ⟨decide_eq_true (parseUsize_lt hn), decide_eq_true (parseUsize_lt hm), rfl⟩
  · obtain ⟨n, hn, he⟩ := Option.map_eq_some_iff.mp h
    cases he
    exact ⟨decide_eq_true (parseUsize_lt hn), rfl, rfl⟩
  · cases h

theorem ofPieces_wf {l : List Str} {p : Parts} (hc : ∀ x ∈ l, ':' ∉ x ∧ '/' ∉ x) (h : ofPieces l = some p) :
    WF p = true := by
  rcases l with _ | ⟨a, _ | ⟨b, _ | ⟨c, t⟩⟩⟩
  iterate 3 cases h
  simp only [List.forall_mem_cons, ← clean_iff] at hc
  obtain ⟨ha, -, hcc, ht⟩ := hc
  simp only [ofPieces] at h
  split at h
  · -- 1.x label with vendor
    cases h
    simp [WF, ha, ht _ (List.mem_singleton_self _)]
  · -- 1.x label without vendor
    cases h
    simp [WF, hcc]
  · -- 2.x label
    split at h
    · cases h
    obtain ⟨vend, hv, h⟩ := Option.bind_eq_some_iff.mp h
    obtain ⟨⟨ver, rsn⟩, hw, h⟩ := Option.map_eq_some_iff.mp h
    cases h
    obtain ⟨w1, w2, w3⟩ := versionOf_wf hw
    cases vend with
    | none => simp [WF, hcc, w1, w2, w3]
    | some v =>
      obtain ⟨v1, v2, v3⟩ := vendorOf_wf hv v rfl
      simp [WF, hcc, ht v (List.mem_of_getElem? v1), w1, w2, w3, v2, v3]
  · cases h

/-- What the parser returns is well-formed, whenever its input is a bare label (no `/`)
or a JUMBF URI that names a manifest: the parts can be printed and parsed again. (An input
with `/` that is *not* such a URI is the exception, see `parts_display_idempotent_false`.) -/
theorem parse_wf {s : Str} {p : Parts}
    (hs : '/' ∉ s ∨ ∃ L, manifestLabelFromUri s = some (some L))
    (h : manifestLabelToParts s = some (some p)) : WF p = true := by
  rw [parts_eq] at h
  refine ofPieces_wf (fun x hx => ⟨(mem_splitOnC x hx).1, fun hm => ?_⟩) (Option.some.inj h)
  have hx := (mem_splitOnC x hx).2 _ hm
  -- a `/` in the label: the label is `s` itself or a `/`-segment
  rcases hs with hs | ⟨L, hL⟩
  · rw [mlabelS_noSlash hs] at hx; exact hs hx
  · rw [mlabel_eq] at hL
    rw [Option.some.inj hL] at hx
    exact (mem_splitOnC _ (mlabelS_mem (Option.some.inj hL))).1 hx

/-! ### what the vendor tests accept -/

/-- printable, non-space ASCII -/
def visible (c : Char) : Bool := 33 ≤ c.toNat && c.toNat ≤ 126

theorem visible_iff {c : Char} : visible c = true ↔ 33 ≤ c.toNat ∧ c.toNat ≤ 126 := by
  simp [visible]

theorem utf8Size_visible (c : Char) (h : visible c = true) : c.utf8Size = 1 := by
  have hv := visible_iff.mp h
  simp [Char.utf8Size]
  intro h2
  exfalso
  rw [UInt32.lt_iff_toNat_lt] at h2
  simp at h2
  omega

theorem isWs_visible (c : Char) (h : visible c = true) : isWs c = false := by
  have := visible_iff.mp h
  simp [isWs]
  omega

theorem utf8Len_visible : ∀ (v : Str), (∀ c ∈ v, visible c = true) → utf8Len v = v.length
  | [], _ => rfl
  | c :: cs, h => by
    simp [utf8Len, utf8Size_visible c (h c (by simp)), utf8Len_visible cs (fun d hd => h d (by simp [hd]))]
    omega

theorem wsTok_true_visible : ∀ (v : Str), (∀ c ∈ v, visible c = true) → wsTokAux true v = 0
  | [], _ => rfl
  | c :: cs, h => by
    simp [wsTokAux, isWs_visible c (h c (by simp)), wsTok_true_visible cs (fun d hd => h d (by simp [hd]))]

theorem isAscii_visible (v : Str) (h : ∀ c ∈ v, visible c = true) : isAscii v = true := by
  simp only [isAscii, List.all_eq_true, decide_eq_true_eq]
  intro c hc
  have := visible_iff.mp (h c hc)
  omega

theorem vendorBad_visible {v : Str} (hne : v ≠ []) (hlen : v.length ≤ 32)
    (hv : ∀ c ∈ v, visible c = true) : vendorBad v = false := by
  have h1 := utf8Len_visible v hv
  have h3 := isAscii_visible v hv
  have h2 : wsTokenCount v = 1 := by
    cases v with
    | nil => exact absurd rfl hne
    | cons c cs =>
      simp [wsTokenCount, wsTokAux, isWs_visible c (hv c (by simp)),
        wsTok_true_visible cs (fun d hd => hv d (by simp [hd]))]
  simp [vendorBad, h1, h2, h3]
  omega

theorem visible_lower {c : Char} (h : visible c = true) : visible (toAsciiLower c) = true := by
  rw [visible_iff] at h ⊢
  rw [toAsciiLower_toNat]
  split <;> omega

/-! ### the vendor test of `Builder::to_claim` -/

theorem asciiGraphic_eq_visible (c : Char) : asciiGraphic c = visible c := rfl

theorem vendorOk_iff {v : Str} : vendorOk v = true ↔
    v ≠ [] ∧ utf8Len v ≤ 32 ∧ ∀ c ∈ v, visible c = true ∧ c ≠ ':' ∧ c ≠ '/' ∧ c ≠ '=' := by
  simp only [vendorOk, asciiGraphic_eq_visible, Bool.and_eq_true, Bool.not_eq_true', List.all_eq_true,
    Bool.or_eq_false_iff, beq_eq_false_iff_ne, decide_eq_true_eq, List.isEmpty_eq_false_iff, ne_eq,
    and_assoc]

/-- What the accepted vendor looks like after `Claim::new` has lower-cased it. -/
theorem vendorOk_lower {v : Str} (h : vendorOk v = true) :
    lowerAscii v ≠ [] ∧ (lowerAscii v).length ≤ 32
    ∧ (∀ c ∈ lowerAscii v, visible c = true) ∧ ':' ∉ lowerAscii v ∧ '/' ∉ lowerAscii v ∧ '=' ∉ lowerAscii v := by
  obtain ⟨h1, h2, h3⟩ := vendorOk_iff.mp h
  have hlen : utf8Len v = v.length := utf8Len_visible v (fun c hc => (h3 c hc).1)
  refine ⟨?_, ?_, ?_, ?_, ?_, ?_⟩
  · exact fun e => h1 (List.map_eq_nil_iff.mp e)
  · simp [lowerAscii]; omega
  · intro c hc
    simp only [lowerAscii, List.mem_map] at hc
    obtain ⟨d, hd, rfl⟩ := hc
    exact visible_lower (h3 d hd).1
  · exact not_mem_lower (by decide) (fun hm => (h3 _ hm).2.1 rfl)
  · exact not_mem_lower (by decide) (fun hm => (h3 _ hm).2.2.1 rfl)
  · exact not_mem_lower (by decide) (fun hm => (h3 _ hm).2.2.2 rfl)

end C2pa.C34
