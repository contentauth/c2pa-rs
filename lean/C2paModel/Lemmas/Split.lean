/-
Splitting a list at every occurrence of a separator and joining with it (Rust's `str::split` /
`join`): the function that the models C27 (`splitOn`), C29 (`splitSlash`, `joinSlash`) and C34
(`splitOnC`, `joinWith`) each define for their own element type.
The equalities are stated where they are used (`splitOn_eq` in Lemmas/C27Net, `splitSlash_eq` / `joinSlash_eq`
in Lemmas/C29Split, `splitOnC_eq` / `joinWith_eq` in Lemmas/C34); the facts are taken from here through them.
-/
namespace C2pa.Data
variable {α : Type _}

def joinSep (sep : α) : List (List α) → List α
  | [] => []
  | [a] => a
  | a :: b :: rest => a ++ sep :: joinSep sep (b :: rest)

theorem mem_joinSep {sep c : α} : ∀ {l : List (List α)}, c ∈ joinSep sep l → c = sep ∨ ∃ x ∈ l, c ∈ x
  | [], h => nomatch h
  | [a], h => .inr ⟨a, List.mem_singleton_self a, h⟩
  | a :: b :: l, h => by
    rcases List.mem_append.1 h with h | h
    · exact .inr ⟨a, List.mem_cons_self, h⟩
    · rcases List.mem_cons.1 h with h | h
      · exact .inl h
      · exact (mem_joinSep h).imp_right fun ⟨x, hx, hc⟩ => ⟨x, List.mem_cons_of_mem _ hx, hc⟩

variable [DecidableEq α]

/-- never empty: `n` separators give `n + 1` pieces -/
def splitSep (sep : α) : List α → List (List α)
  | [] => [[]]
  | c :: cs =>
    if c = sep then [] :: splitSep sep cs
    else match splitSep sep cs with
      | [] => [[c]]
      | s :: ss => (c :: s) :: ss

theorem splitSep_cons_sep (sep : α) (cs : List α) : splitSep sep (sep :: cs) = [] :: splitSep sep cs := by
  rw [splitSep, if_pos rfl]

theorem splitSep_cons_ne {c sep : α} (hc : c ≠ sep) {cs s : List α} {ss : List (List α)}
    (h : splitSep sep cs = s :: ss) : splitSep sep (c :: cs) = (c :: s) :: ss := by
  rw [splitSep, if_neg hc, h]

theorem splitSep_eq_cons (sep : α) : ∀ s : List α, ∃ a t, splitSep sep s = a :: t
  | [] => ⟨_, _, rfl⟩
  | c :: cs => by
    obtain ⟨a, t, h⟩ := splitSep_eq_cons sep cs
    by_cases hc : c = sep
    · exact hc ▸ ⟨_, _, splitSep_cons_sep c cs⟩
    · exact ⟨_, _, splitSep_cons_ne hc h⟩

theorem splitSep_ne_nil (sep : α) (s : List α) : splitSep sep s ≠ [] := by
  obtain ⟨a, t, h⟩ := splitSep_eq_cons sep s
  exact h ▸ List.cons_ne_nil a t

theorem splitSep_append_sep {sep : α} : ∀ {a : List α} (b : List α), sep ∉ a →
    splitSep sep (a ++ sep :: b) = a :: splitSep sep b
  | [], b, _ => splitSep_cons_sep sep b
  | _ :: _, b, h =>
    splitSep_cons_ne (fun e => h (List.mem_cons.2 (.inl e.symm)))
      (splitSep_append_sep b fun m => h (List.mem_cons_of_mem _ m))

theorem splitSep_of_not_mem {sep : α} : ∀ {s : List α}, sep ∉ s → splitSep sep s = [s]
  | [], _ => rfl
  | _ :: _, h =>
    splitSep_cons_ne (fun e => h (List.mem_cons.2 (.inl e.symm)))
      (splitSep_of_not_mem fun m => h (List.mem_cons_of_mem _ m))

theorem split_join (sep : α) : ∀ (l : List (List α)), l ≠ [] → (∀ x ∈ l, sep ∉ x) →
    splitSep sep (joinSep sep l) = l
  | [], h, _ => absurd rfl h
  | [a], _, h => splitSep_of_not_mem (h a (List.mem_singleton_self a))
  | a :: b :: rest, _, h => by
    rw [joinSep, splitSep_append_sep _ (h a List.mem_cons_self),
      split_join sep (b :: rest) (List.cons_ne_nil _ _) fun x hx => h x (List.mem_cons_of_mem _ hx)]

theorem join_split (sep : α) : ∀ s : List α, joinSep sep (splitSep sep s) = s
  | [] => rfl
  | c :: cs => by
    have ih := join_split sep cs
    obtain ⟨x, xs, hs⟩ := splitSep_eq_cons sep cs
    rw [hs] at ih
    by_cases hc : c = sep
    · rw [hc, splitSep_cons_sep, hs, joinSep, ih]; rfl
    · rw [splitSep_cons_ne hc hs, ← ih]
      cases xs <;> rfl

theorem mem_splitSep {sep : α} : ∀ {s : List α}, ∀ x ∈ splitSep sep s, sep ∉ x ∧ ∀ c ∈ x, c ∈ s
  | [] => List.forall_mem_singleton.2 ⟨nofun, nofun⟩
  | d :: ds => by
    have ih := mem_splitSep (sep := sep) (s := ds)
    obtain ⟨y, ys, hs⟩ := splitSep_eq_cons sep ds
    rw [hs] at ih
    obtain ⟨hy, tail⟩ := List.forall_mem_cons.1 ih
    have tail' : ∀ x ∈ ys, sep ∉ x ∧ ∀ c ∈ x, c ∈ d :: ds := fun x hx =>
      ⟨(tail x hx).1, fun c hc => List.mem_cons_of_mem _ ((tail x hx).2 c hc)⟩
    by_cases hd : d = sep
    · rw [hd, splitSep_cons_sep, hs]
      exact List.forall_mem_cons.2 ⟨⟨nofun, nofun⟩, List.forall_mem_cons.2
        ⟨⟨hy.1, fun c hc => List.mem_cons_of_mem _ (hy.2 c hc)⟩, hd ▸ tail'⟩⟩
    · rw [splitSep_cons_ne hd hs]
      -- the first piece gains `d`, which is not `sep`
      exact List.forall_mem_cons.2 ⟨⟨fun hm => (List.mem_cons.1 hm).elim (fun e => hd e.symm) hy.1,
        List.forall_mem_cons.2 ⟨List.mem_cons_self, fun c hc => List.mem_cons_of_mem _ (hy.2 c hc)⟩⟩, tail'⟩

end C2pa.Data
