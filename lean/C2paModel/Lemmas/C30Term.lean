import C2paModel.Model.C30Scan
/-
C30 — the reader model always consumes text: every `read_event` that leaves the reader in a
state other than `Done` returns a strictly shorter remaining text. Hence the run-time guards
in `readToEnd` / `extractLoop` (`Model/C30Scan.lean`) are dead code: the functions satisfy
their guard-free recursion equations (`readToEnd_eq`, `extractLoop_eq`) and `extractLoop`
never answers `guard`.

Each scanner for a closing `>` returns less than it was given; `readMarkup` and `readRef`
return at most what they were given, and `readEvent` has consumed a character before it
calls them (`readEvent_length`).
-/
namespace C2pa.C30

theorem dropWs_eq : dropWs = List.dropWhile isWs := by
  funext s
  induction s with
  | nil => rfl
  | cons c cs ih => rw [dropWs, List.dropWhile_cons, ih]

theorem breakOn_eq (p : Char → Bool) (s : Str) :
    breakOn p s = (s.takeWhile (!p ·), s.dropWhile (!p ·)) := by
  induction s with
  | nil => rfl
  | cons c cs ih => cases h : p c <;> simp [breakOn, h, ih]

theorem length_dropWs (a : Str) : (dropWs a).length ≤ a.length := by
  rw [dropWs_eq]; exact (List.dropWhile_sublist _).length_le

theorem breakOn_length (p : Char → Bool) (s : Str) : (breakOn p s).2.length ≤ s.length := by
  rw [breakOn_eq]; exact (List.dropWhile_sublist _).length_le

theorem elemEnd_split (s : Str) : ∀ q a b, elemEnd q s = some (a, b) → s = a ++ '>' :: b := by
  intro q
  fun_induction elemEnd q s
  case case1 => exact nofun
  case case2 cs h => intro a b e; cases e; exact congrArg (· :: cs) h.2
  case case3 => exact nofun
  case case4 c _ _ _ _ heq ih => intro a b h; cases h; exact congrArg (c :: ·) (ih _ _ heq)

theorem commentEnd_length (s : Str) : ∀ i p2 p1 r, commentEnd i p2 p1 s = some r → r.length < s.length := by
  intro i p2 p1 r
  fun_induction commentEnd i p2 p1 s
  case case1 => exact nofun
  case case2 => intro h; cases h; exact Nat.lt_succ_self _
  case case3 ih => exact fun h => Nat.lt_succ_of_lt (ih h)

theorem cdataEnd_length (s : Str) : ∀ p2 p1 r, cdataEnd p2 p1 s = some r → r.length < s.length := by
  intro p2 p1 r
  fun_induction cdataEnd p2 p1 s
  case case1 => exact nofun
  case case2 => intro h; cases h; exact Nat.lt_succ_self _
  case case3 ih => exact fun h => Nat.lt_succ_of_lt (ih h)

theorem piEnd_length (s : Str) : ∀ n p1 m r, piEnd n p1 s = some (m, r) → r.length < s.length := by
  intro n p1 m r
  fun_induction piEnd n p1 s
  case case1 => exact nofun
  case case2 => intro h; cases h; exact Nat.lt_succ_self _
  case case3 ih => exact fun h => Nat.lt_succ_of_lt (ih h)

theorem readRef_length (stk : List Str) (r : Str) (ev : Ev) (stk' : List Str) (r' : Str)
    (h : readRef stk r = (ev, stk', some r')) : r'.length ≤ r.length := by
  have hb := breakOn_length (fun x => x == ';' || x == '&' || x == '<') r
  revert h
  fun_cases readRef stk r
  case case1 => exact nofun
  case case2 heq => intro h; cases h; rw [heq] at hb; exact Nat.le_of_lt hb
  case case3 heq _ => intro h; cases h; rw [heq] at hb; exact hb

/-- `readMarkup` returns a remaining text on five of its seventeen paths (`fun_cases` numbers
them in the order of the definition): 4 a comment, 7 a CDATA section, 12 an end tag, 14 a
processing instruction, 17 a start tag. On each, one of the scanners found its closing `>`. -/
theorem readMarkup_length (stk : List Str) (s : Str) (ev : Ev) (stk' : List Str) (r : Str)
    (h : readMarkup stk s = (ev, stk', some r)) : r.length ≤ s.length := by
  revert h
  fun_cases readMarkup stk s
  case case4 hce =>
    intro h; cases h
    have := commentEnd_length _ _ _ _ _ hce
    simp only [List.length_cons] at this ⊢; omega
  case case7 hce _ _ =>
    intro h; cases h
    have := cdataEnd_length _ _ _ _ hce
    simp only [List.length_cons]; omega
  case case12 hee _ _ _ _ =>
    intro h; cases h
    rw [elemEnd_split _ _ _ _ hee]
    simp only [List.length_append, List.length_cons]; omega
  case case14 hpe _ _ _ =>
    intro h; cases h
    have := piEnd_length _ _ _ _ _ hpe
    simp only [List.length_cons]; omega
  case case17 hee _ =>
    intro h; cases h
    rw [elemEnd_split _ _ _ _ hee]
    simp only [List.length_append, List.length_cons]; omega
  all_goals exact nofun

theorem readEvent_length (trim : Bool) (stk : List Str) (s : Str) (ev : Ev) (stk' : List Str) (r : Str)
    (h : readEvent trim stk s = (ev, stk', some r)) : r.length < s.length := by
  have hlen : ∀ c cs, (if trim = true then dropWs s else s) = c :: cs → cs.length < s.length := by
    intro c cs heq
    have : (if trim = true then dropWs s else s).length ≤ s.length := by
      split
      · exact length_dropWs s
      · exact Nat.le_refl _
    rw [heq] at this
    exact this
  revert h
  fun_cases readEvent trim stk s
  case case1 => exact nofun
  case case2 heq => exact fun h => Nat.lt_of_le_of_lt (readMarkup_length _ _ _ _ _ h) (hlen _ _ heq)
  case case3 heq _ => exact fun h => Nat.lt_of_le_of_lt (readRef_length _ _ _ _ _ h) (hlen _ _ heq)
  case case4 => exact nofun
  case case5 heq _ _ _ =>
    intro h; cases h
    exact Nat.lt_of_le_of_lt (breakOn_length _ _) (hlen _ _ heq)

theorem readToEnd_length (name : Str) (depth : Nat) (stk : List Str) (s : Str) (ev : Ev)
    (e : Option Str) (stk' : List Str) (r : Str)
    (h : readToEnd name depth stk s = (ev, e, stk', some r)) : r.length < s.length := by
  revert h
  -- paths 1, 4, 6 recurse on the text `read_event` left; 3 (the matching end tag) and 9 (any
  -- event that is passed up) return it
  fun_induction readToEnd name depth stk s
  case case1 hlt ih => exact fun h => Nat.lt_trans (ih h) hlt
  case case4 hlt ih => exact fun h => Nat.lt_trans (ih h) hlt
  case case6 hlt ih => exact fun h => Nat.lt_trans (ih h) hlt
  case case3 hre _ => intro h; cases h; exact readEvent_length _ _ _ _ _ _ hre
  case case9 hre => intro h; cases h; exact readEvent_length _ _ _ _ _ _ hre
  all_goals exact nofun

theorem contOrEnd_cont (stk : List Str) (st : Option Str) (stk' : List Str) (s' : Str)
    (h : contOrEnd stk st = .cont stk' s') : st = some s' := by
  cases st with
  | none => simp [contOrEnd] at h
  | some x => simp only [contOrEnd, Act.cont.injEq] at h; rw [h.2]

/-- `extractStep` goes on (`cont`) on four of its ten paths: 2 an rdf:Description without the
key, 6 an element named like the key whose `read_to_end` failed, 7 any other element, 10 an
event that is not an element. -/
theorem extractStep_length (k : Str) (stk : List Str) (s : Str) (stk' : List Str) (s' : Str)
    (h : extractStep k stk s = .cont stk' s') : s'.length < s.length := by
  revert h
  fun_cases extractStep k stk s
  case case2 hre _ _ =>
    intro h; cases contOrEnd_cont _ _ _ _ h; exact readEvent_length _ _ _ _ _ _ hre
  case case6 hrt hre =>
    intro h; cases contOrEnd_cont _ _ _ _ h
    exact Nat.lt_trans (readToEnd_length _ _ _ _ _ _ _ _ hrt) (readEvent_length _ _ _ _ _ _ hre)
  case case7 hre _ _ =>
    intro h; cases contOrEnd_cont _ _ _ _ h; exact readEvent_length _ _ _ _ _ _ hre
  case case10 hre =>
    intro h; cases contOrEnd_cont _ _ _ _ h; exact readEvent_length _ _ _ _ _ _ hre
  all_goals exact nofun

theorem extractLoop_eq (k : Str) (stk : List Str) (s : Str) :
    extractLoop k stk s =
      match extractStep k stk s with
      | .found v => .found v
      | .notFound => .notFound
      | .unmodelled => .unmodelled
      | .cont stk' s' => extractLoop k stk' s' := by
  rw [extractLoop]
  cases h : extractStep k stk s with
  | found v => simp
  | notFound => simp
  | unmodelled => simp
  | cont stk' s' => simp [extractStep_length k stk s stk' s' h]

theorem extractLoop_ne_guard (k : Str) (stk : List Str) (s : Str) : extractLoop k stk s ≠ .guard := by
  fun_induction extractLoop k stk s
  case case4 ih => exact ih
  case case5 h hn => exact absurd (extractStep_length _ _ _ _ _ h) hn
  all_goals exact nofun

theorem readToEnd_eq (name : Str) (depth : Nat) (stk : List Str) (s : Str) :
    readToEnd name depth stk s =
      match readEvent false stk s with
      | (.elem t, stk', some s') =>
        readToEnd name (if !t.empty ∧ t.name = name then depth + 1 else depth) stk' s'
      | (.endTag n, stk', some s') =>
        if n = name ∧ depth = 0 then (.endTag n, some s, stk', some s')
        else readToEnd name (if n = name then depth - 1 else depth) stk' s'
      | (.other, stk', some s') => readToEnd name depth stk' s'
      | (.other, stk', none) => (.eof, none, stk', none)
      | (ev, stk', st) => (ev, none, stk', st) := by
  rw [readToEnd]
  rcases h : readEvent false stk s with ⟨ev, stk', st⟩
  cases st with
  | none => cases ev <;> simp
  | some s' =>
    have hl := readEvent_length _ _ _ _ _ _ h
    cases ev <;> simp [hl]

end C2pa.C30
