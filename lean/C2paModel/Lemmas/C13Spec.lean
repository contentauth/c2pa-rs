import C2paModel.Lemmas.C13Markers
/-
C13 — the two specifications, `exclSpec` (exclusion hashing, position by position) and `inclSpec`
(inclusion hashing, entry by entry), and the proof that the piece list built by the exclusion
branch reads, position by position, as `exclSpec`. (That the inclusion pieces read as `inclSpec` is
`inclLoop_spec`, Lemmas/C13Build.lean.)
-/
namespace C2pa.C13

/-! ### specifications (statement side)

The vocabulary of the property theorems. `excluded` and `markersOf` stand at the head of
Lemmas/C13Excl, which needs them first; `inSpan` and `digestSpec` are defined in Props/C13 from
what is here. -/

/-- byte `x` of a stream of length `n` is hashed: it exists and no exclusion range covers it -/
def included (n : Nat) (hr : List HashRange) (x : Nat) : Bool := decide (x < n) && !excluded hr x

/-- some hashed byte lies strictly before `x` -/
def includedBelow (n : Nat) (hr : List HashRange) (x : Nat) : Bool :=
  (List.range x).any (included n hr)

/-- some hashed byte lies strictly after `x` -/
def includedAbove (n : Nat) (hr : List HashRange) (x : Nat) : Bool :=
  (List.range' (x + 1) (n - (x + 1))).any (included n hr)

/-- `x` lies strictly inside the hashed span: strictly between the first and the last hashed
byte; when no byte at all is hashed the span is the whole stream (strictly inside). -/
def between (n : Nat) (hr : List HashRange) (x : Nat) : Bool :=
  if (List.range n).any (included n hr) then includedBelow n hr x && includedAbove n hr x
  else decide (0 < x) && decide (x + 1 < n)

/-- how many times the offset `x` is hashed (immediately before position `x`): every marker
entry with offset `x` when byte `x` is hashed; once when `x` is an excluded position strictly
inside the hashed span and some marker entry has offset `x`; otherwise not at all. -/
def markerCopies (n : Nat) (hr : List HashRange) (x : Nat) : Nat :=
  if included n hr x then (markersOf hr).count x
  else if (markersOf hr).contains x && between n hr x then 1 else 0

/-- **Specification of exclusion hashing**: walk the positions 0,1,…; at `x` emit the 8-byte
big-endian offset `markerCopies` times, then the data byte if it is not excluded. -/
def exclSpec (data : List UInt8) (hr : List HashRange) : List UInt8 :=
  (List.range data.length).flatMap fun x =>
    (List.replicate (markerCopies data.length hr x) (be64 x)).flatten ++
      (if included data.length hr x then byteAt data x else [])

/-- what position `x` contributes according to the specification -/
def specAt (data : List UInt8) (hr : List HashRange) (x : Nat) : List UInt8 :=
  (List.replicate (markerCopies data.length hr x) (be64 x)).flatten ++
    (if included data.length hr x then byteAt data x else [])

/-- bytes one inclusion entry contributes: nothing when empty, else its BMFF offset (if it
carries one) followed by its bytes -/
def entryBytes (data : List UInt8) (x : HashRange) : List UInt8 :=
  if x.length = 0 then []
  else (match x.off with | some o => be64 o | none => []) ++ (data.drop x.start).take x.length

/-- **Specification of inclusion hashing**: the entries in start order (stable). -/
def inclSpec (data : List UInt8) (hr : List HashRange) : List UInt8 :=
  (stableSort HashRange.start hr).flatMap (entryBytes data)

/-- an upper bound on the number of progress callbacks, computed from the inputs -/
def callbackBound (n : Nat) (hr : Option (List HashRange)) (isExcl : Bool) (buf : Nat) : Nat :=
  match hr with
  | some (h :: t) =>
    if isExcl then n / buf + 2 * (h :: t).length + 1 else (h :: t).length * (n / buf + 2)
  | _ => n / buf + 1

theorem callbackBound_some {n : Nat} {hr : List HashRange} (hne : hr ≠ []) (isExcl : Bool) (buf : Nat) :
    callbackBound n (some hr) isExcl buf =
      if isExcl then n / buf + 2 * hr.length + 1 else hr.length * (n / buf + 2) := by
  cases hr with
  | nil => exact absurd rfl hne
  | cons a t => rfl

/-! ### `between` against the code's `before_any_range` / `after_any_range` -/

theorem includedBelow_iff (n : Nat) (hr : List HashRange) (x : Nat) :
    includedBelow n hr x = true ↔ ∃ q, q < x ∧ included n hr q = true :=
  List.any_eq_true.trans (by simp only [List.mem_range])

theorem included_lt {n : Nat} {hr : List HashRange} {q : Nat} (h : included n hr q = true) : q < n :=
  of_decide_eq_true (Bool.and_eq_true .. ▸ h).1

theorem includedAbove_iff (n : Nat) (hr : List HashRange) (x : Nat) :
    includedAbove n hr x = true ↔ ∃ q, x < q ∧ included n hr q = true := by
  rw [includedAbove, List.any_eq_true]
  constructor
  · rintro ⟨q, h1, h3⟩; exact ⟨q, (List.mem_range'_1.1 h1).1, h3⟩
  · rintro ⟨q, h1, h3⟩
    have hq : q < n := included_lt h3
    exact ⟨q, List.mem_range'_1.2 ⟨h1, by omega⟩, h3⟩

theorem between_iff_of_hashed {n : Nat} {hr : List HashRange} {y : Nat}
    (hy : included n hr y = true) (x : Nat) :
    between n hr x = true ↔
      (∃ q, q < x ∧ included n hr q = true) ∧ ∃ q, x < q ∧ included n hr q = true := by
  have hsome : (List.range n).any (included n hr) = true :=
    List.any_eq_true.2 ⟨y, List.mem_range.2 (included_lt hy), hy⟩
  rw [between, if_pos hsome, Bool.and_eq_true, includedBelow_iff, includedAbove_iff]

/-- `before_any_range` and `after_any_range` of the code: start of the first piece, end of the last -/
def headLo (L : List Piece) : Nat := match L.head? with | some p => p.lo | none => 0

def lastHi (L : List Piece) (d : Nat) : Nat := match L.getLast? with | some p => p.hi | none => d

theorem WF_headLo {N k : Nat} {p : Piece} {ps : List Piece} (h : WF N k (p :: ps)) :
    anyContains (p :: ps) p.lo = true ∧ ∀ q, anyContains (p :: ps) q = true → p.lo ≤ q :=
  ⟨by rw [anyContains_cons, (p.contains_iff _).2 ⟨Nat.le_refl _, h.2.1⟩]; rfl,
    fun q hq => (WF_contains (p :: ps) p.lo q ⟨Nat.le_refl _, h.2⟩ hq).1⟩

theorem WF_lastHi {N : Nat} (d : Nat) : ∀ (ps : List Piece) (p : Piece) (k : Nat), WF N k (p :: ps) →
    anyContains (p :: ps) (lastHi (p :: ps) d) = true ∧
      ∀ q, anyContains (p :: ps) q = true → q ≤ lastHi (p :: ps) d
  | [], p, k, h => by
    refine ⟨by rw [anyContains_cons, show lastHi [p] d = p.hi from rfl,
      (p.contains_iff _).2 ⟨h.2.1, Nat.le_refl _⟩]; rfl, fun q hq => ?_⟩
    rw [anyContains_cons, Bool.or_eq_true, Piece.contains_iff] at hq
    rcases hq with hq | hq
    · exact hq.2
    · cases hq
  | p2 :: ps, p, k, h => by
    -- the last end is contained in the tail, which begins at or behind `p.hi`
    have ht : WF N p.hi (p2 :: ps) := by
      have h4 := h.2.2.2
      split at h4
      · exact h4.1 ▸ h4.2
      · exact WF_mono _ _ _ h4 (Nat.le_succ _)
    obtain ⟨a, b⟩ := WF_lastHi d ps p2 _ ht
    have hbehind := (WF_contains _ _ _ ht a).1
    refine ⟨by rw [anyContains_cons]; exact Bool.or_eq_true_iff.2 (Or.inr a), fun q hq => ?_⟩
    rw [anyContains_cons, Bool.or_eq_true, Piece.contains_iff] at hq
    rcases hq with hq | hq
    · exact Nat.le_trans hq.2 hbehind
    · exact b q hq

/-- the code's `before_any_range` / `after_any_range` test on an ordered list that contains
exactly the hashed bytes -/
theorem between_eq {N : Nat} (hr : List HashRange) (vec : List Piece)
    (hw : WF N 0 vec) (hc : ∀ x, anyContains vec x = included N hr x) (x : Nat) :
    between N hr x = (decide (headLo vec < x) && decide (x < lastHi vec (N - 1))) := by
  cases vec with
  | nil =>
    have hnone : ¬ (List.range N).any (included N hr) = true := fun h => by
      obtain ⟨q, _, hq⟩ := List.any_eq_true.1 h
      rw [← hc q] at hq
      cases hq
    rw [between, if_neg hnone]
    show _ = (decide (0 < x) && decide (x < N - 1))
    rw [decide_eq_decide.2 (Nat.lt_sub_iff_add_lt (a := x) (b := 1) (c := N))]
  | cons p ps =>
    -- the first and the last hashed byte are the first start and the last end
    obtain ⟨f1, f2⟩ := WF_headLo hw
    obtain ⟨l1, l2⟩ := WF_lastHi (N - 1) ps p 0 hw
    rw [hc] at f1 l1
    rw [Bool.eq_iff_iff, between_iff_of_hashed f1]
    show _ ↔ (decide (p.lo < x) && decide (x < lastHi (p :: ps) (N - 1))) = true
    rw [Bool.and_eq_true, decide_eq_true_eq, decide_eq_true_eq]
    constructor
    · rintro ⟨⟨q, hq1, hq2⟩, ⟨q', hq3, hq5⟩⟩
      rw [← hc] at hq2 hq5
      exact ⟨Nat.lt_of_le_of_lt (f2 q hq2) hq1, Nat.lt_of_lt_of_le hq3 (l2 q' hq5)⟩
    · rintro ⟨h1, h2⟩
      exact ⟨⟨p.lo, h1, f1⟩, ⟨_, h2, l1⟩⟩

/-! ### the order of the entries, and of the pieces, does not matter -/

theorem excluded_perm {a b : List HashRange} (h : a.Perm b) (x : Nat) : excluded a x = excluded b x :=
  h.any_eq

theorem dataCover_perm {a b : List Piece} (h : a.Perm b) (x : Nat) : dataCover a x = dataCover b x :=
  h.any_eq

theorem markerCount_perm {a b : List Piece} (h : a.Perm b) (x : Nat) :
    markerCount a x = markerCount b x := h.countP_eq _

theorem atPos_perm (data : List UInt8) {a b : List Piece} (h : a.Perm b) (x : Nat) :
    atPos data a x = atPos data b x := by
  unfold atPos
  rw [markerCount_perm h, dataCover_perm h]

theorem included_perm (n : Nat) {a b : List HashRange} (h : a.Perm b) :
    included n a = included n b := by
  funext x; unfold included; rw [excluded_perm h]

theorem exclSpec_perm (data : List UInt8) {a b : List HashRange} (h : a.Perm b) :
    exclSpec data a = exclSpec data b := by
  have hi := included_perm data.length h
  have hm : (markersOf a).Perm (markersOf b) := h.filterMap _
  unfold exclSpec
  apply Data.flatMap_congr_mem
  intro x _
  have hc : markerCopies data.length a x = markerCopies data.length b x := by
    unfold markerCopies between includedBelow includedAbove
    rw [hi, hm.count_eq, hm.contains_eq]
  rw [hc, hi]

/-! ### the exclusion pieces: the remaining ranges cut at the offsets, then `addGaps`, then the sort -/

theorem splitAll_nil (rs : List (Nat × Nat)) :
    splitAll [] rs = rs.map fun r => (⟨r.1, r.2, false⟩ : Piece) := by
  induction rs with
  | nil => rfl
  | cons r rs ih => rw [splitAll_cons, ih]; rfl

/-- the second half of `exclPieces`, for any vector: the "remaining offsets" loop with the code's
`before_any_range` / `after_any_range` -/
def addGaps (dataEnd : Nat) (starts : List Nat) (vec : List Piece) : List Piece :=
  remaining (headLo vec) (lastHi vec dataEnd) starts vec

/-- the exclusion pieces in one form: the remaining ranges cut at the sorted offsets, then the gap
markers, sorted into place. Without offsets nothing is cut and nothing added, and the code does not
sort: that the ranges are in order (`hw`) is needed for this case only. -/
theorem exclPieces_eq {N : Nat} (dataEnd : Nat) (rs : List (Nat × Nat)) (ms : List Nat)
    (hw : WFR N 0 rs) :
    exclPieces dataEnd rs ms =
      stableSort Piece.lo (addGaps dataEnd (stableSort id ms) (splitAll (stableSort id ms) rs)) := by
  unfold exclPieces
  split
  · next hme =>
    rw [List.isEmpty_iff.1 hme, ← splitAll_nil]
    exact (stableSort_of_sorted _ _ (WF_sorted _ 0 (splitAll_WF [] rs 0 hw))).symm
  · rfl

theorem addGaps_spec (d : Nat) (starts : List Nat) (vec : List Piece) :
    ∃ D : List Nat, addGaps d starts vec = vec ++ D.map markerAt ∧ D.Nodup ∧
      ∀ o, o ∈ D ↔ o ∈ starts ∧ anyContains vec o = false ∧ headLo vec < o ∧ o < lastHi vec d :=
  remaining_spec ..

theorem addGaps_WF {N d : Nat} (starts : List Nat) {vec : List Piece} (hv : WF N 0 vec) (hd : d < N) :
    WF N 0 (stableSort Piece.lo (addGaps d starts vec)) := by
  have hlast : lastHi vec d < N := by
    cases vec with
    | nil => exact hd
    | cons p ps => exact (WF_contains _ 0 _ hv (WF_lastHi d ps p 0 hv).1).2
  obtain ⟨D, hD, _, hm⟩ := addGaps_spec d starts vec
  rw [hD]
  refine stableSort_append_WF vec _ hv fun o ho => ?_
  obtain ⟨_, b, _, c⟩ := (hm o).1 ho
  rw [anyContains_eq vec 0 o hv, Bool.or_eq_false_iff] at b
  exact ⟨Nat.lt_trans c hlast, b.1⟩

theorem dataCover_addGaps (d : Nat) (starts : List Nat) (vec : List Piece) (x : Nat) :
    dataCover (addGaps d starts vec) x = dataCover vec x := by
  obtain ⟨D, hD, _⟩ := addGaps_spec d starts vec
  rw [hD, dataCover_append, dataCover_map_markerAt, Bool.or_false]

theorem markerCount_addGaps (d : Nat) (starts : List Nat) (vec : List Piece) (x : Nat) :
    markerCount (addGaps d starts vec) x = markerCount vec x +
      if x ∈ starts ∧ anyContains vec x = false ∧ headLo vec < x ∧ x < lastHi vec d then 1 else 0 := by
  obtain ⟨D, hD, hnd, hm⟩ := addGaps_spec d starts vec
  rw [hD, markerCount_append, markerCount_map_markerAt, hnd.count]
  simp only [hm]

theorem length_addGaps (d : Nat) (starts : List Nat) (vec : List Piece) :
    (addGaps d starts vec).length ≤ vec.length + starts.countP (fun os => ¬ anyContains vec os) := by
  obtain ⟨D, hD, hnd, hm⟩ := addGaps_spec d starts vec
  rw [hD, List.length_append, List.length_map, List.countP_eq_length_filter]
  exact Nat.add_le_add_left (hnd.length_le_of_subset fun o ho =>
    List.mem_filter.2 ⟨((hm o).1 ho).1, by simp [((hm o).1 ho).2.1]⟩) _

/-! ### the exclusion pieces read as `exclSpec` -/

theorem flatMap_pieceBytes_eq_exclSpec (data : List UInt8) (hr : List HashRange) (L : List Piece)
    (hwf : WF data.length 0 L) (hd : ∀ x, dataCover L x = included data.length hr x)
    (hm : ∀ x, markerCount L x = markerCopies data.length hr x) :
    L.flatMap (pieceBytes data) = exclSpec data hr := by
  rw [flatMap_pieceBytes_eq data L 0 hwf, Nat.sub_zero, ← List.range_eq_range']
  exact Data.flatMap_congr_mem fun x _ => by simp only [atPos, hd x, hm x]

theorem exclPieces_WF {N : Nat} (hN : 1 ≤ N) (rs : List (Nat × Nat)) (ms : List Nat)
    (hw : WFR N 0 rs) : WF N 0 (exclPieces (N - 1) rs ms) := by
  rw [exclPieces_eq _ rs ms hw]
  exact addGaps_WF _ (splitAll_WF _ rs 0 hw) (Nat.sub_lt hN Nat.one_pos)

/-- `hr'` is the sorted entry list the builder runs the loop on; only `hr'.Perm hr` is used -/
theorem exclPieces_spec (data : List UInt8) (hr hr' : List HashRange) (hp : hr'.Perm hr)
    (hN : 1 ≤ data.length) (rs : List (Nat × Nat)) (ms : List Nat)
    (h : exclLoop hr' [(0, data.length - 1)] [] = .ok (rs, ms)) :
    (exclPieces (data.length - 1) rs ms).flatMap (pieceBytes data) = exclSpec data hr ∧
      WF data.length 0 (exclPieces (data.length - 1) rs ms) := by
  obtain ⟨hw, hms, hcov, _⟩ := exclLoop_spec hr' _ _ _ _ h (WFR_whole hN)
  rw [List.nil_append] at hms
  have hsorted : (stableSort id ms).Pairwise (· ≤ ·) := stableSort_sorted id ms
  have hc : ∀ x, anyContains (splitAll (stableSort id ms) rs) x = included data.length hr x :=
    fun x => by
      rw [splitAll_anyContains hsorted hw, hcov x, excluded_perm hp x, included, runCover_whole hN]
  have hsperm : (stableSort id ms).Perm (markersOf hr) :=
    (stableSort_perm id ms).trans (hms ▸ hp.filterMap _)
  have hwf := exclPieces_WF hN rs ms hw
  rw [exclPieces_eq _ rs ms hw] at hwf ⊢
  have hperm := stableSort_perm Piece.lo
    (addGaps (data.length - 1) (stableSort id ms) (splitAll (stableSort id ms) rs))
  refine ⟨flatMap_pieceBytes_eq_exclSpec data hr _ hwf (fun x => ?_) (fun x => ?_), hwf⟩
  · rw [dataCover_perm hperm, dataCover_addGaps, splitAll_dataCover, ← splitAll_anyContains hsorted hw,
      hc]
  · rw [markerCount_perm hperm, markerCount_addGaps, splitAll_markerCount _ hsorted x rs 0 hw,
      ← splitAll_anyContains hsorted hw, hc x, markerCopies,
      between_eq hr _ (splitAll_WF _ rs 0 hw) hc x, hsperm.count_eq x]
    -- a hashed `x` gets all its copies from `splitAll` and none from the gaps; an excluded `x` gets
    -- none from `splitAll` and one gap marker exactly if it is a marker offset between the first and
    -- the last hashed byte
    cases included data.length hr x <;> simp [hsperm.mem_iff]

/-- The digest input depends only on the length and on the bytes that are hashed. -/
theorem exclSpec_congr (d d' : List UInt8) (hr : List HashRange) (hl : d'.length = d.length)
    (h : ∀ x, included d.length hr x = true → d'[x]? = d[x]?) :
    exclSpec d' hr = exclSpec d hr := by
  unfold exclSpec
  rw [hl]
  apply Data.flatMap_congr_mem
  intro x _
  by_cases hi : included d.length hr x = true
  · simp [hi, byteAt, h x hi]
  · simp [hi]

end C2pa.C13
