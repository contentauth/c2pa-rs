import C2paModel.Model.C16
/-
C16 — helper lemmas: `rowAt` (the stored row of a proof of depth `d`), structure of
`nextLayer`/`genTree`/`layout`, and the two playback invariants: completeness (`play_complete`) and
soundness (`play_sound_inj_if_consumed`).
-/
namespace C2pa.C16

variable {α : Type}

/-- The row reached after at most `d` steps up from `cur` (stops at the root row): the stored row
of a proof of depth `d`, `genTree_row`. -/
def rowAt (comb : α → α → α) : List α → Nat → List α
  | cur, 0 => cur
  | cur, d + 1 => if 1 < cur.length then rowAt comb (nextLayer comb cur) d else cur

theorem nextLayer_getElem? (comb : α → α → α) (l : List α) (j : Nat) :
    (nextLayer comb l)[j]? =
      match l[2 * j]?, l[2 * j + 1]? with
      | some a, some b => some (comb a b)
      | some a, none => some a
      | none, _ => none := by
  fun_induction nextLayer comb l generalizing j with
  | case1 x y rest ih =>
    cases j with
    | zero => rfl
    | succ j =>
      rw [show 2 * (j + 1) = 2 * j + 1 + 1 by omega]
      simp only [List.getElem?_cons_succ]
      exact ih j
  | case2 x =>
    cases j with
    | zero => rfl
    | succ j => rw [show 2 * (j + 1) = 2 * j + 1 + 1 by omega]; rfl
  | case3 => rfl

theorem genTree_big (comb : α → α → α) (cur : List α) (h : 1 < cur.length) :
    genTree comb cur = cur :: genTree comb (nextLayer comb cur) := by
  rw [genTree]; simp [h]

theorem genTree_small (comb : α → α → α) (cur : List α) (h : ¬ 1 < cur.length) :
    genTree comb cur = [cur] := by
  rw [genTree]; simp [h]

theorem layout_big (n : Nat) (h : 1 < n) : layout n = n :: layout (parentCnt n) := by
  rw [layout]; simp [h]

theorem layout_small (n : Nat) (h : ¬ 1 < n) : layout n = [n] := by
  rw [layout]; simp [h]

theorem rowAt_length_le (comb : α → α → α) (cur : List α) (d : Nat) :
    (rowAt comb cur d).length ≤ cur.length := by
  fun_induction rowAt comb cur d with
  | case1 => exact Nat.le_refl _
  | case2 cur d h ih => rw [nextLayer_length, parentCnt_eq] at ih; omega
  | case3 => exact Nat.le_refl _

theorem genTree_length_pos (comb : α → α → α) (cur : List α) :
    0 < (genTree comb cur).length := by
  by_cases h : 1 < cur.length
  · rw [genTree_big comb cur h]; simp
  · rw [genTree_small comb cur h]; simp

theorem genTree_row (comb : α → α → α) (cur : List α) (d : Nat) :
    (genTree comb cur)[min d ((genTree comb cur).length - 1)]? = some (rowAt comb cur d) := by
  fun_induction rowAt comb cur d with
  | case1 cur =>
    by_cases h : 1 < cur.length
    · rw [genTree_big comb cur h]; simp
    · rw [genTree_small comb cur h]; simp
  | case2 cur d h ih =>
    have hp := genTree_length_pos comb (nextLayer comb cur)
    rw [genTree_big comb cur h, List.length_cons, Nat.add_sub_cancel,
      show min (d + 1) (genTree comb (nextLayer comb cur)).length
        = min d ((genTree comb (nextLayer comb cur)).length - 1) + 1 by omega,
      List.getElem?_cons_succ]
    exact ih
  | case3 cur d h => rw [genTree_small comb cur h]; simp

theorem genTree_getElem? (comb : α → α → α) (cur : List α) (r : Nat)
    (hr : r < (genTree comb cur).length) :
    (genTree comb cur)[r]? = some (rowAt comb cur r) := by
  have := genTree_row comb cur r
  have e : min r ((genTree comb cur).length - 1) = r := by omega
  rwa [e] at this

/-! ### one level up

`get_proof_by_index` and both loops of `check_merkle_tree` go up one layer in the same way: the
node at an odd position is joined with its left neighbour, the node at an even position with its
right neighbour if the row has one, and is carried up unchanged otherwise. -/

def sib (cur : List α) (idx : Nat) : Option α :=
  if idx % 2 = 1 then cur[idx - 1]? else cur[idx + 1]?

def join (comb : α → α → α) (idx : Nat) (s v : α) : α :=
  if idx % 2 = 1 then comb s v else comb v s

theorem sib_mem {cur : List α} {idx : Nat} {s : α} (h : sib cur idx = some s) : s ∈ cur := by
  unfold sib at h
  split at h <;> exact List.mem_of_getElem? h

theorem sib_eq_none_of_small {cur : List α} {idx : Nat} (hb : ¬ 1 < cur.length)
    (hlt : idx < cur.length) : sib cur idx = none := by
  have h0 : idx = 0 := by omega
  subst h0
  exact List.getElem?_eq_none (by simp only [Nat.zero_add]; omega)

theorem proofGo_succ (cur : List α) (rest : List (List α)) (idx d : Nat) :
    proofGo (cur :: rest) idx (d + 1) = (sib cur idx).toList ++ proofGo rest (idx / 2) d := by
  simp only [proofGo, sib, Nat.succ_ne_zero, if_false, Nat.add_sub_cancel]
  split <;> split <;> simp [*]

theorem proofGo_zero (layers : List (List α)) (idx : Nat) : proofGo layers idx 0 = [] := by
  cases layers <;> simp [proofGo]

theorem playProof_cons (comb : α → α → α) (cur : List α) (rest : List Nat) (rowLen idx : Nat)
    (v : α) (p : List α) (hne : cur.length ≠ rowLen) :
    playProof comb (cur.length :: rest) rowLen idx v p =
      match sib cur idx, p with
      | none, p => playProof comb rest rowLen (idx / 2) v p
      | some _, x :: ps => playProof comb rest rowLen (idx / 2) (join comb idx x v) ps
      | some _, [] => none := by
  simp only [playProof, sib, join, if_neg hne]
  by_cases hodd : idx % 2 = 1
  · simp only [hodd, if_true]
    by_cases hl : idx - 1 < cur.length
    · simp only [hl, if_true, List.getElem?_eq_getElem hl]; cases p <;> rfl
    · simp only [hl, if_false, List.getElem?_eq_none (Nat.le_of_not_lt hl)]
  · simp only [hodd, if_false]
    by_cases hs : idx + 1 < cur.length
    · simp only [hs, if_true, List.getElem?_eq_getElem hs]; cases p <;> rfl
    · simp only [hs, if_false, List.getElem?_eq_none (Nat.le_of_not_lt hs)]

theorem playProof_stops (comb : α → α → α) (n idx : Nat) (v : α) (p : List α) :
    playProof comb (layout n) n idx v p = some (idx, v) := by
  by_cases h : 1 < n
  · rw [layout_big _ h]; simp [playProof]
  · rw [layout_small _ h]; simp [playProof]

theorem nextLayer_parent (comb : α → α → α) (cur : List α) (idx : Nat) (v : α)
    (hv : cur[idx]? = some v) :
    (nextLayer comb cur)[idx / 2]? =
      some (match sib cur idx with | some s => join comb idx s v | none => v) := by
  rw [nextLayer_getElem?]
  unfold sib join
  by_cases hodd : idx % 2 = 1
  · have hl : idx - 1 < cur.length := by have := (List.getElem?_eq_some_iff.mp hv).1; omega
    rw [show 2 * (idx / 2) + 1 = idx by omega, show 2 * (idx / 2) = idx - 1 by omega, hv,
      List.getElem?_eq_getElem hl]
    simp only [hodd, if_true]
  · rw [show 2 * (idx / 2) = idx by omega, hv]
    simp only [hodd, if_false]
    cases cur[idx + 1]? <;> rfl

/-- What a step from a row of more than one node needs, for the target row `d` steps above the next
one: the verifier's layer list starts with this row's length; that length is not the target's
(the target is not longer than the next row, which is shorter), so the playback does not stop
here; and the halved index is in the next row. -/
theorem one_level_up (comb : α → α → α) (cur : List α) (d idx : Nat) (hb : 1 < cur.length)
    (hlt : idx < cur.length) :
    layout cur.length = cur.length :: layout (nextLayer comb cur).length
      ∧ cur.length ≠ (rowAt comb (nextLayer comb cur) d).length
      ∧ idx / 2 < (nextLayer comb cur).length := by
  have hle := rowAt_length_le comb (nextLayer comb cur) d
  rw [nextLayer_length, parentCnt_eq] at hle ⊢
  refine ⟨?_, by omega, by omega⟩
  rw [layout_big _ hb, parentCnt_eq]

/-- Completeness: from a node `v = cur[idx]` the honest proof (followed by anything) plays
back to a node of the target row. Holds for every combining function. -/
theorem play_complete (comb : α → α → α) (d : Nat) (cur : List α) (idx : Nat) (v : α)
    (extra : List α) (hv : cur[idx]? = some v) :
    ∃ j h, playProof comb (layout cur.length) (rowAt comb cur d).length idx v
        (proofGo (genTree comb cur) idx d ++ extra) = some (j, h)
      ∧ (rowAt comb cur d)[j]? = some h := by
  fun_induction rowAt comb cur d generalizing idx v with
  | case1 cur => exact ⟨idx, v, playProof_stops .., hv⟩
  | case2 cur d hb ih =>
    have hlt := (List.getElem?_eq_some_iff.mp hv).1
    obtain ⟨hlay, hne, _⟩ := one_level_up comb cur d idx hb hlt
    have hnext := nextLayer_parent comb cur idx v hv
    rw [hlay, genTree_big comb cur hb, proofGo_succ, playProof_cons _ _ _ _ _ _ _ hne]
    -- with or without a sibling the generated proof supplies what the playback consumes
    cases hs : sib cur idx <;> (rw [hs] at hnext; exact ih _ _ hnext)
  | case3 cur d hb => exact ⟨idx, v, playProof_stops .., hv⟩

/-- `comb` never identifies two different pairs (collision freeness). -/
def Injective2 (comb : α → α → α) : Prop :=
  ∀ a b c d, comb a b = comb c d → a = c ∧ b = d

/-- Collision freeness relative to a class `D` of "well-formed digests": a pair of which at
least one component is well formed is never identified with a different pair of well-formed
digests.  This is what a collision-free hash of the *unframed* concatenation `a ‖ b`
(`concat_and_hash`) gives when `D` = "has the digest length": the split point of `a ‖ b` is
determined as soon as one side has the digest length.  (`Injective2` on all byte strings is
false for such a `comb`: `(a ‖ x) ‖ b = a ‖ (x ‖ b)`.) -/
def InjectiveOn2 (D : α → Prop) (comb : α → α → α) : Prop :=
  ∀ a b c d, D c → D d → (D a ∨ D b) → comb a b = comb c d → a = c ∧ b = d

theorem nextLayer_forall (comb : α → α → α) (D : α → Prop) (hD : ∀ a b, D (comb a b))
    (l : List α) (hl : ∀ x ∈ l, D x) : ∀ x ∈ nextLayer comb l, D x := by
  fun_induction nextLayer comb l with
  | case1 a b rest ih =>
    exact List.forall_mem_cons.mpr ⟨hD a b, ih fun y hy => hl y (by simp [hy])⟩
  | case2 a => exact hl
  | case3 => exact hl

theorem join_wf {comb : α → α → α} {D : α → Prop} (hD : ∀ a b, D (comb a b)) (idx : Nat)
    (x v : α) : D (join comb idx x v) := by
  unfold join; split <;> exact hD _ _

theorem join_inj {comb : α → α → α} {D : α → Prop} (hinj : InjectiveOn2 D comb) {idx : Nat}
    {x v s c : α} (hs : D s) (hc : D c) (hv : D v) (h : join comb idx x v = join comb idx s c) :
    x = s ∧ v = c := by
  unfold join at h
  split at h
  · exact hinj _ _ _ _ hs hc (Or.inr hv) h
  · exact (hinj _ _ _ _ hc hs (Or.inl hv) h).symm

/-- Soundness: if playback of a well-formed value with *any* proof (elements of any shape)
ends in a node of the target row, the value is the committed node and the proof starts with
the honest proof.  Collision freeness is used only where a proof element is consumed, so the
empty proof needs none. -/
theorem play_sound_inj_if_consumed (comb : α → α → α) (D : α → Prop) (hD : ∀ a b, D (comb a b))
    (d : Nat) (cur : List α) (idx : Nat) (v : α) (p : List α) (hinj : p ≠ [] → InjectiveOn2 D comb)
    (j : Nat) (h : α) (hlt : idx < cur.length) (hcur : ∀ x ∈ cur, D x) (hv : D v)
    (hplay : playProof comb (layout cur.length) (rowAt comb cur d).length idx v p = some (j, h))
    (hrow : (rowAt comb cur d)[j]? = some h) :
    cur[idx]? = some v ∧ proofGo (genTree comb cur) idx d <+: p := by
  fun_induction rowAt comb cur d generalizing idx v p with
  | case1 cur =>
    rw [playProof_stops] at hplay
    cases hplay
    exact ⟨hrow, by rw [proofGo_zero]; exact List.nil_prefix⟩
  | case2 cur d hb ih =>
    obtain ⟨hlay, hne, hlt2⟩ := one_level_up comb cur d idx hb hlt
    have hv0 : cur[idx]? = some cur[idx] := List.getElem?_eq_getElem hlt
    have hnext := nextLayer_parent comb cur idx _ hv0
    have hnl := nextLayer_forall comb D hD cur hcur
    rw [hlay, playProof_cons _ _ _ _ _ _ _ hne] at hplay
    rw [genTree_big comb cur hb, proofGo_succ]
    cases hs : sib cur idx with
    | none =>
      rw [hs] at hplay hnext
      obtain ⟨h1, h2⟩ := ih _ v p hinj hlt2 hnl hv hplay hrow
      cases hnext.symm.trans h1
      exact ⟨hv0, h2⟩
    | some s =>
      rw [hs] at hplay hnext
      cases p with
      | nil => cases hplay
      | cons x ps =>
        obtain ⟨h1, h2⟩ :=
          ih _ _ ps (fun _ => hinj (by simp)) hlt2 hnl (join_wf hD idx x v) hplay hrow
        obtain ⟨rfl, rfl⟩ := join_inj (hinj (by simp)) (hcur s (sib_mem hs))
          (hcur _ (List.getElem_mem hlt)) hv (Option.some.inj (h1.symm.trans hnext))
        exact ⟨hv0, List.cons_prefix_cons.mpr ⟨rfl, h2⟩⟩
  | case3 cur d hb =>
    rw [playProof_stops] at hplay
    cases hplay
    rw [genTree_small comb cur hb, proofGo_succ, sib_eq_none_of_small hb hlt]
    exact ⟨hrow, List.nil_prefix⟩

theorem play_sound_on (comb : α → α → α) (D : α → Prop) (hD : ∀ a b, D (comb a b))
    (hinj : InjectiveOn2 D comb) (d : Nat) (cur : List α)
    (idx : Nat) (v : α) (p : List α) (j : Nat) (h : α) (hlt : idx < cur.length)
    (hcur : ∀ x ∈ cur, D x) (hv : D v)
    (hplay : playProof comb (layout cur.length) (rowAt comb cur d).length idx v p = some (j, h))
    (hrow : (rowAt comb cur d)[j]? = some h) :
    cur[idx]? = some v ∧ proofGo (genTree comb cur) idx d <+: p :=
  play_sound_inj_if_consumed comb D hD d cur idx v p (fun _ => hinj) j h hlt hcur hv hplay hrow

theorem play_sound (comb : α → α → α) (hinj : Injective2 comb) (d : Nat) (cur : List α)
    (idx : Nat) (v : α) (p : List α) (j : Nat) (h : α) (hlt : idx < cur.length)
    (hplay : playProof comb (layout cur.length) (rowAt comb cur d).length idx v p = some (j, h))
    (hrow : (rowAt comb cur d)[j]? = some h) :
    cur[idx]? = some v ∧ proofGo (genTree comb cur) idx d <+: p :=
  play_sound_on comb (fun _ => True) (fun _ _ => trivial)
    (fun a b c d _ _ _ h => hinj a b c d h) d cur idx v p j h hlt (fun _ _ => trivial) trivial
    hplay hrow

/-- Soundness of the *empty* proof, for every `comb`: no sibling was needed on the way (the generated
proof is empty), the node was carried up unchanged. -/
theorem play_sound_nil (comb : α → α → α) (d : Nat) (cur : List α)
    (idx : Nat) (v : α) (j : Nat) (h : α) (hlt : idx < cur.length)
    (hplay : playProof comb (layout cur.length) (rowAt comb cur d).length idx v [] = some (j, h))
    (hrow : (rowAt comb cur d)[j]? = some h) :
    cur[idx]? = some v ∧ proofGo (genTree comb cur) idx d = [] := by
  obtain ⟨h1, h2⟩ := play_sound_inj_if_consumed comb (fun _ => True) (fun _ _ => trivial) d cur
    idx v [] (fun h => absurd rfl h) j h hlt (fun _ _ => trivial) trivial hplay hrow
  exact ⟨h1, List.prefix_nil.mp h2⟩

/-- Refinement of the two loops of `check_merkle_tree`: the `None` loop is the
`Some` loop run on the empty proof; the running hash is never changed. -/
theorem playProof_nil (comb : α → α → α) (layers : List Nat) (rowLen idx : Nat) (v : α) :
    playProof comb layers rowLen idx v [] = (playEmpty layers rowLen idx).map fun j => (j, v) := by
  fun_induction playEmpty layers rowLen idx <;> simp [playProof, *]

end C2pa.C16
