import C2paModel.Model.C33
import C2paModel.Lemmas.DecideRun
/-
C33 — the "absolute URL" workaround of `SignerPayload::check_against_partial_claim`
(`ABSOLUTE_URL_PREFIX = /c2pa/[^/]+/`, leftmost match removed): what `stripAbs` does to a URL of
the shape `<pre>/c2pa/<label>/<rest>`, and that the manifest label plays no role in the match.
-/
namespace C2pa.C33

theorem c2paSeg_eq : c2paSeg = ['/', 'c', '2', 'p', 'a', '/'] := String.toList_ofList

/-- `[^/]+/` consumes a non-empty label without `/` and the `/` after it. -/
theorem afterLabel_label (lbl rest : List Char) (hs : '/' ∉ lbl) :
    ∀ seen : Bool, (lbl ≠ [] ∨ seen = true) → afterLabel (lbl ++ '/' :: rest) seen = some rest := by
  induction lbl with
  | nil =>
    intro seen h
    rcases h with h | h
    · exact absurd rfl h
    · simp [afterLabel, h]
  | cons c cs ih =>
    intro seen _
    have hc : (c == '/') = false := by
      have : c ≠ '/' := fun e => hs (e ▸ List.mem_cons_self ..)
      simpa using this
    have hcs : '/' ∉ cs := fun m => hs (List.mem_cons_of_mem _ m)
    simp only [List.cons_append, afterLabel, hc, Bool.false_eq_true, if_false]
    exact ih hcs true (Or.inr rfl)

/-- An empty label does not match (`+`). -/
theorem afterLabel_empty_label (rest : List Char) : afterLabel ('/' :: rest) false = none := by
  simp [afterLabel]

theorem matchAt_label (lbl rest : List Char) (hne : lbl ≠ []) (hs : '/' ∉ lbl) :
    matchAt (c2paSeg ++ lbl ++ '/' :: rest) = some rest := by
  unfold matchAt
  rw [List.append_assoc, if_pos (List.isPrefixOf_iff_prefix.2 (List.prefix_append ..)), List.drop_left]
  exact afterLabel_label lbl rest hs false (Or.inl hne)

theorem matchAt_not_slash (x : Char) (t : List Char) (hx : x ≠ '/') : matchAt (x :: t) = none := by
  unfold matchAt
  have hb : ('/' == x) = false := by simpa using Ne.symm hx
  rw [c2paSeg_eq, if_neg (by simp [List.isPrefixOf, hb])]

/-- In `<pre>/c2pa/<label>/<rest>` — `pre` without `/` (as in
`self#jumbf=`), `label` non-empty and without `/` — exactly `/c2pa/<label>/` is removed, whatever
the label is. -/
theorem stripAbs_prefix (pre lbl rest : List Char) (hpre : '/' ∉ pre) (hne : lbl ≠ [])
    (hs : '/' ∉ lbl) : stripAbs (pre ++ c2paSeg ++ lbl ++ '/' :: rest) = pre ++ rest := by
  induction pre with
  | nil =>
    have hm := matchAt_label lbl rest hne hs
    rw [c2paSeg_eq] at hm ⊢
    simp only [List.nil_append, List.cons_append] at hm ⊢
    rw [stripAbs, hm]
  | cons x xs ih =>
    have hx : x ≠ '/' := fun e => hpre (e ▸ List.mem_cons_self ..)
    simp only [List.cons_append]
    rw [stripAbs, matchAt_not_slash x _ hx]
    exact congrArg (x :: ·) (ih fun m => hpre (List.mem_cons_of_mem _ m))

/-- **The manifest label is discarded when matching**: a reference written relative
(`<pre><rest>`) matches the claim's assertion URL in absolute form for *any* manifest label. -/
theorem urlMatches_ignores_manifest_label (pre lbl rest : List Char) (hpre : '/' ∉ pre)
    (hne : lbl ≠ []) (hs : '/' ∉ lbl) :
    urlMatches (pre ++ c2paSeg ++ lbl ++ '/' :: rest) (pre ++ rest) = true := by
  unfold urlMatches
  rw [stripAbs_prefix pre lbl rest hpre hne hs]
  simp

/-- Two absolute URLs that differ only in the manifest label are matched by the same relative
reference. -/
theorem urlMatches_any_two_labels (pre l1 l2 rest : List Char) (hpre : '/' ∉ pre)
    (h1 : l1 ≠ [] ∧ '/' ∉ l1) (h2 : l2 ≠ [] ∧ '/' ∉ l2) :
    urlMatches (pre ++ c2paSeg ++ l1 ++ '/' :: rest) (pre ++ rest) = true ∧
    urlMatches (pre ++ c2paSeg ++ l2 ++ '/' :: rest) (pre ++ rest) = true :=
  ⟨urlMatches_ignores_manifest_label pre l1 rest hpre h1.1 h1.2,
   urlMatches_ignores_manifest_label pre l2 rest hpre h2.1 h2.2⟩

/-- The workaround is one-directional: only the *claim's* URL is stripped. An absolute reference
does not match a relative claim URL. -/
example : urlMatches "self#jumbf=c2pa.assertions/c2pa.hash.data".toList
    "self#jumbf=/c2pa/urn:c2pa:1/c2pa.assertions/c2pa.hash.data".toList = false := by
  decide_run

example : stripAbs "self#jumbf=/c2pa/urn:c2pa:1/c2pa.assertions/c2pa.hash.data".toList
    = "self#jumbf=c2pa.assertions/c2pa.hash.data".toList := by
  decide_run

/-- only the leftmost match is removed; an empty label is no match -/
example : stripAbs "a/c2pa//c2pa/x/y/c2pa/z/w".toList = "a/c2pa/y/c2pa/z/w".toList := by
  decide_run

end C2pa.C33
