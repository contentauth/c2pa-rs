import C2paModel.Lemmas.C07PngParse
import C2paModel.Lemmas.List
/-
PNG, layer B: the handler functions (`Png.write`, `Png.remove`, `Png.read`,
`Png.locations`) expressed on the parsed form of the file (a list of raw chunk records),
and the lexer `Png.segs` expressed on the same form. The commuting squares with layer A
(`Lemmas/C07PngRefine.lean`) are assembled from these.
-/
namespace C2pa.C07.Png

open C2pa.C07

theorem place_append : ∀ (xs ys : List RC) (pos : Nat), (∀ r ∈ xs, r.ok) →
    place pos (xs ++ ys) = place pos xs ++ place (pos + (encAll xs).length) ys
  | [], ys, pos, _ => by simp [place, encAll]
  | r :: xs, ys, pos, h => by
    have hr := enc_length r (h r List.mem_cons_self)
    have ih := place_append xs ys (pos + (r.data.length + 12))
      (fun x hx => h x (List.mem_cons_of_mem _ hx))
    have e : pos + (r.data.length + 12) + (encAll xs).length = pos + (encAll (r :: xs)).length := by
      simp [encAll_cons, hr]; omega
    simp only [List.cons_append, place, ih, e]

/-- `Data.split_first` at "the chunk name is `n`": how `write` / `remove` / `read` find the first IHDR and
the first caBX record -/
theorem split_first (n : Bytes) : ∀ (rs : List RC),
    (∀ r ∈ rs, r.name ≠ n) ∨ ∃ X r Y, rs = X ++ r :: Y ∧ (∀ x ∈ X, x.name ≠ n) ∧ r.name = n :=
  Data.split_first fun r : RC => r.name = n

theorem find_place_none (n : Bytes) : ∀ (rs : List RC) (pos : Nat), (∀ r ∈ rs, r.name ≠ n) →
    (place pos rs).find? (·.name == n) = none
  | [], _, _ => rfl
  | r :: rest, pos, h => by
    have h1 : (r.name == n) = false := by simpa using h r List.mem_cons_self
    simp only [place, List.find?_cons, h1]
    exact find_place_none n rest _ (fun x hx => h x (List.mem_cons_of_mem _ hx))

theorem find_place_at (n : Bytes) (r : RC) (Y : List RC) (hr : r.name = n) :
    ∀ (X : List RC) (pos : Nat), (∀ x ∈ X, x.ok) → (∀ x ∈ X, x.name ≠ n) →
    (place pos (X ++ r :: Y)).find? (·.name == n)
      = some ⟨pos + (encAll X).length, r.data.length, r.name⟩ := by
  intro X pos hok hne
  have hb : (r.name == n) = true := beq_iff_eq.2 hr
  rw [place_append X _ pos hok, List.find?_append, find_place_none n X pos hne, place]
  simp only [List.find?_cons, hb, Option.none_or]

theorem filter_place_length (n : Bytes) : ∀ (rs : List RC) (pos : Nat),
    ((place pos rs).filter (·.name == n)).length = (rs.filter (·.name == n)).length
  | [], _ => rfl
  | r :: rest, pos => by
    simp only [place, List.filter_cons]
    cases h : (r.name == n) <;> simp [filter_place_length n rest]

theorem fin_mk (a l : Nat) (n : Bytes) : (⟨a, l, n⟩ : Chunk).fin = a + l + 12 := rfl

theorem finOf_place : ∀ (rs : List RC) (pos : Nat), rs ≠ [] → (∀ r ∈ rs, r.ok) →
    finOf (place pos rs) = pos + (encAll rs).length := by
  intro rs pos hne hok
  obtain ⟨init, last, rfl⟩ : ∃ i l, rs = i ++ [l] := ⟨_, _, (List.dropLast_concat_getLast hne).symm⟩
  rw [place_append init _ pos fun x hx => hok x (List.mem_append_left _ hx), place, place, finOf,
    List.getLast?_concat, encAll_append, encAll_cons, encAll_nil, List.append_nil, List.length_append,
    enc_length last (hok last (by simp))]
  show pos + (encAll init).length + last.data.length + 12 = _
  omega

theorem Parsed.finOf_eq {b : Bytes} {rs : List RC} {tail : Bytes} (hp : Parsed b rs tail) :
    finOf (place 8 rs) = 8 + (encAll rs).length :=
  finOf_place rs 8 hp.stream.ne_nil hp.stream.all_ok

theorem Parsed.drop_tail {b : Bytes} {rs : List RC} {tail : Bytes} (hp : Parsed b rs tail) :
    b.drop (8 + (encAll rs).length) = tail :=
  drop_of_eq (hp.eq.trans (List.append_assoc _ _ _).symm) (by simp [sig_length])

/-- A parsed file cut at record boundaries: `k1 ≤ k2 ≤ k3` are the ends of `U`, of `V` and of `W`;
`write` and `remove` put their outputs together from these four pieces. -/
theorem Parsed.cut {b : Bytes} {U V W Z : List RC} {tail : Bytes}
    (hp : Parsed b (U ++ V ++ W ++ Z) tail) {k1 k2 k3 : Nat} (h1 : k1 = 8 + (encAll U).length)
    (h2 : k2 = 8 + (encAll (U ++ V)).length) (h3 : k3 = 8 + (encAll (U ++ V ++ W)).length) :
    b.take k1 = sig ++ encAll U ∧ slice b k1 (k2 - k1) = encAll V ∧
    slice b k2 (k3 - k2) = encAll W ∧ b.drop k3 = encAll Z ++ tail ∧
    k1 + (encAll V).length = k2 ∧ k2 + (encAll W).length = k3 := by
  have hb : b = (sig ++ encAll U) ++ (encAll V ++ (encAll W ++ (encAll Z ++ tail))) := by
    rw [hp.eq]; simp only [encAll_append, List.append_assoc]
  have l1 : k1 = (sig ++ encAll U).length := by rw [h1, List.length_append, sig_length]
  have e2 : k1 + (encAll V).length = k2 := by
    rw [h2, h1, encAll_append, List.length_append, Nat.add_assoc]
  have l2 : k2 = ((sig ++ encAll U) ++ encAll V).length := by rw [List.length_append, ← l1, e2]
  have e3 : k2 + (encAll W).length = k3 := by
    rw [h3, h2, encAll_append _ W, List.length_append, Nat.add_assoc]
  refine ⟨take_of_eq hb l1, ?_, ?_, ?_, e2, e3⟩
  · rw [hb]; exact slice_app _ _ _ _ _ l1 (by rw [← e2, Nat.add_sub_cancel_left])
  · rw [hb, ← List.append_assoc]
    exact slice_app _ _ _ _ _ l2 (by rw [← e3, Nat.add_sub_cancel_left])
  · rw [hb, ← List.append_assoc, ← List.append_assoc]
    exact List.drop_left' (by rw [List.length_append, ← l2, e3])

theorem stream_cons_iff {x : RC} (B : List RC) (hx : x.ok) (hn : x.name ≠ IEND) :
    ∀ (A : List RC), Stream (A ++ x :: B) ↔ Stream (A ++ B) ∧ B ≠ []
  | [] => ⟨fun h => (h.2.resolve_left fun e => hn e.1).elim fun _ hs => ⟨hs, hs.ne_nil⟩,
      fun h => ⟨hx, Or.inr ⟨hn, h.1⟩⟩⟩
  | a :: A => by
    have ih := stream_cons_iff B hx hn A
    simp only [List.cons_append, Stream, ih, List.append_eq_nil_iff, reduceCtorEq, and_false, false_or]
    constructor
    · rintro ⟨ha, hne, hs, hB⟩; exact ⟨⟨ha, Or.inr ⟨hne, hs⟩⟩, hB⟩
    · rintro ⟨⟨ha, ⟨_, _, rfl⟩ | ⟨hne, hs⟩⟩, hB⟩
      · exact absurd rfl hB
      · exact ⟨ha, hne, hs, hB⟩

def newRC (s : Bytes) : RC := ⟨caBX, s, be32 (crc32 (caBX ++ s))⟩

theorem newRC_enc (s : Bytes) : (newRC s).enc = wrap s := by
  simp [newRC, RC.enc, wrap, mkChunk, List.append_assoc]

theorem newRC_ok (s : Bytes) (h : s.length < 4294967296) : (newRC s).ok :=
  ⟨caBX_length, rfl, h, (by decide +kernel : nameOk caBX = true)⟩

theorem unwrap_enc (r : RC) (h : r.ok) : unwrap r.enc = some r.data :=
  unwrap_frame (be32 r.data.length ++ r.name) r.data r.crc (by simp [be32_length, h.name4]) h.crc4

theorem caBX_ne_IEND : caBX ≠ IEND := by decide +kernel
theorem caBX_ne_IHDR : caBX ≠ IHDR := by decide +kernel
theorem IHDR_ne_IEND : IHDR ≠ IEND := by decide +kernel

theorem write_eq_fresh {b s : Bytes} {ps : List Chunk} {ih : Chunk} (h : chunks b = some ps)
    (h1 : firstIhdr ps = some ih) (h2 : firstCai ps = none) :
    write b s = some (b.take ih.fin ++ wrap s ++ b.drop ih.fin) := by
  simp [write, h, h1, h2]

theorem write_eq_before {b s : Bytes} {ps : List Chunk} {ih c : Chunk} (h : chunks b = some ps)
    (h1 : firstIhdr ps = some ih) (h2 : firstCai ps = some c) (h3 : c.fin ≤ ih.fin) :
    write b s = some (b.take c.start ++ slice b c.fin (ih.fin - c.fin) ++ wrap s ++ b.drop ih.fin) := by
  simp [write, h, h1, h2, h3]

theorem write_eq_after {b s : Bytes} {ps : List Chunk} {ih c : Chunk} (h : chunks b = some ps)
    (h1 : firstIhdr ps = some ih) (h2 : firstCai ps = some c) (h3 : ¬ c.fin ≤ ih.fin) :
    write b s = some (b.take ih.fin ++ wrap s ++ slice b ih.fin (c.start - ih.fin) ++ b.drop c.fin) := by
  simp [write, h, h1, h2, h3]

theorem write_eq_none {b s : Bytes} {ps : List Chunk} (h : chunks b = some ps)
    (h1 : firstIhdr ps = none) : write b s = none := by
  simp [write, h, h1]

theorem write_isSome {b : Bytes} {ps : List Chunk} (s : Bytes) (h : chunks b = some ps)
    (hi : (firstIhdr ps).isSome) : ∃ o, write b s = some o := by
  cases h1 : firstIhdr ps with
  | none => rw [h1] at hi; cases hi
  | some ih =>
    cases h2 : firstCai ps with
    | none => exact ⟨_, write_eq_fresh h h1 h2⟩
    | some c =>
      by_cases h3 : c.fin ≤ ih.fin
      · exact ⟨_, write_eq_before h h1 h2 h3⟩
      · exact ⟨_, write_eq_after h h1 h2 h3⟩

theorem remove_eq_some {b : Bytes} {ps : List Chunk} {c : Chunk} (h : chunks b = some ps)
    (h2 : firstCai ps = some c) : remove b = some (b.take c.start ++ b.drop c.fin) := by
  simp [remove, h, h2]

theorem remove_eq_self {b : Bytes} {ps : List Chunk} (h : chunks b = some ps)
    (h2 : firstCai ps = none) : remove b = some b := by
  simp [remove, h, h2]

theorem read_eq_ok {b : Bytes} {ps : List Chunk} {c : Chunk} (h : chunks b = some ps)
    (h1 : (ps.filter (·.name == caBX)).length ≤ 1) (h2 : firstCai ps = some c) :
    read b = some (.ok (slice b (c.start + 8) c.length)) := by
  have : ¬ (ps.filter (·.name == caBX)).length > 1 := by omega
  simp only [read, h, this, h2, if_false]

/-- `rs'` is `rs` without its first caBX record (unchanged when there is none). -/
def EraseFirst (rs rs' : List RC) : Prop :=
  ((∀ r ∈ rs, r.name ≠ caBX) ∧ rs' = rs) ∨
  ∃ X c Y, rs = X ++ c :: Y ∧ (∀ x ∈ X, x.name ≠ caBX) ∧ c.name = caBX ∧ rs' = X ++ Y

/-- `L` ends with the first IHDR record. -/
def AfterIhdr (L : List RC) : Prop :=
  ∃ A ihr, L = A ++ [ihr] ∧ ihr.name = IHDR ∧ ∀ x ∈ A, x.name ≠ IHDR

theorem first_chunk (n : Bytes) {X Y : List RC} {r : RC} (hok : ∀ x ∈ X ++ r :: Y, x.ok)
    (hX : ∀ x ∈ X, x.name ≠ n) (hr : r.name = n) :
    ∃ ch : Chunk, (place 8 (X ++ r :: Y)).find? (·.name == n) = some ch ∧
      ch.start = 8 + (encAll X).length ∧ ch.fin = 8 + (encAll (X ++ [r])).length :=
  ⟨_, find_place_at n r Y hr X 8 (fun x hx => hok x (List.mem_append_left _ hx)) hX, rfl, by
    rw [encAll_append, encAll_cons, encAll_nil, List.append_nil, List.length_append,
      enc_length r (hok r (by simp)), fin_mk]
    omega⟩

theorem stream_eraseFirst {rs rs' : List RC} (he : EraseFirst rs rs') (h : Stream rs) : Stream rs' := by
  rcases he with ⟨_, rfl⟩ | ⟨X, c, Y, rfl, _, hc, rfl⟩
  · exact h
  · exact ((stream_cons_iff Y (h.all_ok c (by simp)) (hc ▸ caBX_ne_IEND) X).1 h).1

/-- IHDR is not IEND, so a stream goes on after `L` and a record may be inserted there. -/
theorem stream_afterIhdr {L R : List RC} {x : RC} (hL : AfterIhdr L) (hx : x.ok) (hn : x.name ≠ IEND)
    (h : Stream (L ++ R)) : Stream (L ++ x :: R) := by
  obtain ⟨A, ihr, rfl, hi, _⟩ := hL
  have h' : Stream (A ++ ihr :: R) := by simpa using h
  exact (stream_cons_iff R hx hn _).2 ⟨h, ((stream_cons_iff R (h'.all_ok ihr (by simp)) (hi ▸ IHDR_ne_IEND) A).1 h').2⟩

theorem write_none {b : Bytes} {rs : List RC} {tail : Bytes} (hp : Parsed b rs tail) (s : Bytes)
    (hno : ∀ r ∈ rs, r.name ≠ IHDR) : write b s = none :=
  write_eq_none (chunks_of_parsed hp) (find_place_none IHDR rs 8 hno)

/-- `Png.write` on records, for a file with an IHDR record: the output is the input stream with
its first caBX record removed and the wrapped store inserted right after the first IHDR record; the
signature and the bytes after IEND are kept. `L` and `R` do not depend on the store, and there is
no bound on it. Holds for any number of caBX records in the input. -/
theorem write_records {b : Bytes} {rs : List RC} {tail : Bytes} (hp : Parsed b rs tail)
    (hi : ∃ r ∈ rs, r.name = IHDR) :
    ∃ L R, EraseFirst rs (L ++ R) ∧ AfterIhdr L ∧
      ∀ s, write b s = some (sig ++ (encAll L ++ (wrap s ++ (encAll R ++ tail)))) := by
  have hch := chunks_of_parsed hp
  have hok := hp.stream.all_ok
  rcases split_first IHDR rs with hno | ⟨A, ihr, B, rfl, hA, hihr⟩
  · obtain ⟨r, hr, hn⟩ := hi; exact absurd hn (hno r hr)
  obtain ⟨ih, hih, _, ihf⟩ := first_chunk IHDR hok hA hihr
  have hihrc : ihr.name ≠ caBX := hihr ▸ Ne.symm caBX_ne_IHDR
  rcases split_first caBX A with hnoA | ⟨X, c, A2, rfl, hX, hc⟩
  · rcases split_first caBX B with hnoB | ⟨B1, c, B2, rfl, hB1, hc⟩
    · -- no existing container
      have hall : ∀ x ∈ A ++ ihr :: B, x.name ≠ caBX :=
        List.forall_mem_append.2 ⟨hnoA, List.forall_mem_cons.2 ⟨hihrc, hnoB⟩⟩
      obtain ⟨t, _, _, d, _, _⟩ := Parsed.cut (U := A ++ [ihr]) (V := []) (W := []) (Z := B)
        (by simpa using hp) ihf (by simpa using ihf) (by simpa using ihf)
      refine ⟨A ++ [ihr], B, Or.inl ⟨by simpa using hall, by simp⟩, ⟨A, ihr, rfl, hihr, hA⟩, fun s => ?_⟩
      rw [write_eq_fresh hch hih (find_place_none caBX _ 8 hall), t, d]
      simp only [List.append_assoc]
    · -- existing container after IHDR
      have e : A ++ ihr :: (B1 ++ c :: B2) = (A ++ ihr :: B1) ++ c :: B2 := by simp
      have hneX : ∀ x ∈ A ++ ihr :: B1, x.name ≠ caBX :=
        List.forall_mem_append.2 ⟨hnoA, List.forall_mem_cons.2 ⟨hihrc, hB1⟩⟩
      obtain ⟨cc, hcai, ccs, ccf⟩ := first_chunk caBX (e ▸ hok) hneX hc
      rw [← e] at hcai
      obtain ⟨t, m, _, d, dV, dW⟩ := Parsed.cut (U := A ++ [ihr]) (V := B1) (W := [c]) (Z := B2)
        (by simpa using hp) ihf (by simpa using ccs) (by simpa using ccf)
      refine ⟨A ++ [ihr], B1 ++ B2, Or.inr ⟨A ++ ihr :: B1, c, B2, e, hneX, hc, by simp⟩,
        ⟨A, ihr, rfl, hihr, hA⟩, fun s => ?_⟩
      rw [write_eq_after hch hih hcai (by
        have := enc_length c (hok c (by simp))
        rw [encAll_cons, encAll_nil, List.append_nil] at dW; omega), t, m, d]
      simp only [encAll_append, List.append_assoc]
  · -- existing container before IHDR
    have e : (X ++ c :: A2) ++ ihr :: B = X ++ c :: (A2 ++ ihr :: B) := by simp
    obtain ⟨cc, hcai, ccs, ccf⟩ := first_chunk caBX (e ▸ hok) hX hc
    rw [← e] at hcai
    obtain ⟨t, _, m, d, _, dW⟩ := Parsed.cut (U := X) (V := [c]) (W := A2 ++ [ihr]) (Z := B)
      (by simpa using hp) ccs ccf (by simpa using ihf)
    refine ⟨X ++ A2 ++ [ihr], B, Or.inr ⟨X, c, A2 ++ ihr :: B, e, hX, hc, by simp⟩,
      ⟨X ++ A2, ihr, rfl, hihr, fun x hx => hA x (by
        rcases List.mem_append.1 hx with h | h <;> simp [h])⟩, fun s => ?_⟩
    rw [write_eq_before hch hih hcai (by omega), t, m, d]
    simp only [encAll_append, List.append_assoc]

theorem write_isSome_iff {b : Bytes} {rs : List RC} {tail : Bytes} (hp : Parsed b rs tail) (s : Bytes) :
    (write b s).isSome ↔ ∃ r ∈ rs, r.name = IHDR := by
  rcases split_first IHDR rs with hno | ⟨A, ihr, B, rfl, _, hihr⟩
  · rw [write_none hp s hno]
    exact ⟨nofun, fun ⟨r, hr, hn⟩ => absurd hn (hno r hr)⟩
  · have hi : ∃ r ∈ A ++ ihr :: B, r.name = IHDR := ⟨ihr, by simp, hihr⟩
    obtain ⟨_, _, _, _, hw⟩ := write_records hp hi
    rw [hw s]
    exact ⟨fun _ => hi, fun _ => rfl⟩

/-- The form the commuting squares use: the output is `Parsed` again (this needs the store to fit the
chunk length field). -/
theorem write_parsed {b s o : Bytes} {rs : List RC} {tail : Bytes} (hp : Parsed b rs tail)
    (hs : s.length < 4294967296) (hw : write b s = some o) :
    ∃ L R, Parsed o (L ++ newRC s :: R) tail ∧ EraseFirst rs (L ++ R) ∧ AfterIhdr L := by
  obtain ⟨L, R, he, hL, hwr⟩ := write_records hp ((write_isSome_iff hp s).1 (by rw [hw]; rfl))
  cases (hwr s).symm.trans hw
  refine ⟨L, R, ⟨?_, stream_afterIhdr hL (newRC_ok s hs) caBX_ne_IEND (stream_eraseFirst he hp.stream)⟩,
    he, hL⟩
  rw [encAll_append, encAll_cons, newRC_enc, List.append_assoc, List.append_assoc]

theorem remove_parsed {b : Bytes} {rs : List RC} {tail : Bytes} (hp : Parsed b rs tail) :
    ∃ o rs', remove b = some o ∧ Parsed o rs' tail ∧ EraseFirst rs rs' := by
  have hch := chunks_of_parsed hp
  rcases split_first caBX rs with hno | ⟨X, c, Y, rfl, hX, hc⟩
  · exact ⟨b, rs, remove_eq_self hch (find_place_none caBX rs 8 hno), hp, Or.inl ⟨hno, rfl⟩⟩
  · obtain ⟨cc, hcai, ccs, ccf⟩ := first_chunk caBX hp.stream.all_ok hX hc
    have he : EraseFirst (X ++ c :: Y) (X ++ Y) := Or.inr ⟨X, c, Y, rfl, hX, hc, rfl⟩
    obtain ⟨t, _, _, d, _, _⟩ := Parsed.cut (U := X) (V := [c]) (W := []) (Z := Y) (by simpa using hp)
      ccs ccf (by simpa using ccf)
    refine ⟨_, X ++ Y, remove_eq_some hch hcai, ⟨?_, stream_eraseFirst he hp.stream⟩, he⟩
    rw [t, d, encAll_append, List.append_assoc, List.append_assoc]

theorem filter_none {rs : List RC} (h : ∀ r ∈ rs, r.name ≠ caBX) :
    rs.filter (·.name == caBX) = [] ∧ rs.filter (fun r => !(r.name == caBX)) = rs := by
  constructor
  · apply List.filter_eq_nil_iff.2; intro x hx; simpa using h x hx
  · apply List.filter_eq_self.2; intro x hx; simpa using h x hx

theorem filter_first {X Y : List RC} {c : RC} (hX : ∀ x ∈ X, x.name ≠ caBX) (hc : c.name = caBX) :
    (X ++ c :: Y).filter (·.name == caBX) = c :: Y.filter (·.name == caBX) := by
  rw [List.filter_append, (filter_none hX).1, List.nil_append, List.filter_cons,
    if_pos (beq_iff_eq.2 hc)]

theorem eraseFirst_filter {rs rs' : List RC} (h : EraseFirst rs rs')
    (h1 : (rs.filter (·.name == caBX)).length ≤ 1) :
    rs.filter (fun r => !(r.name == caBX)) = rs' ∧ ∀ r ∈ rs', r.name ≠ caBX := by
  rcases h with ⟨hno, rfl⟩ | ⟨X, c, Y, rfl, hX, hc, rfl⟩
  · exact ⟨(filter_none hno).2, hno⟩
  · rw [filter_first hX hc, List.length_cons] at h1
    have hnil : Y.filter (·.name == caBX) = [] := List.length_eq_zero_iff.1 (by omega)
    have hY : ∀ y ∈ Y, y.name ≠ caBX := fun y hy => by simpa using List.filter_eq_nil_iff.1 hnil y hy
    refine ⟨?_, List.forall_mem_append.2 ⟨hX, hY⟩⟩
    rw [List.filter_append, List.filter_cons, (filter_none hX).2, (filter_none hY).2,
      if_neg (by simp [hc])]

theorem read_parsed_none {b : Bytes} {rs : List RC} {tail : Bytes} (hp : Parsed b rs tail)
    (h : ∀ r ∈ rs, r.name ≠ caBX) : read b = some .none := by
  have hnone : firstCai (place 8 rs) = none := find_place_none caBX rs 8 h
  simp [read, chunks_of_parsed hp, filter_place_length, (filter_none h).1, hnone]

theorem read_parsed_one {b : Bytes} {X Y : List RC} {c : RC} {tail : Bytes}
    (hp : Parsed b (X ++ c :: Y) tail) (hX : ∀ x ∈ X, x.name ≠ caBX) (hc : c.name = caBX)
    (hY : ∀ x ∈ Y, x.name ≠ caBX) : read b = some (.ok c.data) := by
  have hok := hp.stream.all_ok
  have hcai := find_place_at caBX c Y hc X 8 (fun x hx => hok x (List.mem_append_left _ hx)) hX
  have hcount : ((place 8 (X ++ c :: Y)).filter (·.name == caBX)).length ≤ 1 := by
    rw [filter_place_length, filter_first hX hc, (filter_none hY).1]; exact Nat.le_refl 1
  have hb : b = (sig ++ (encAll X ++ (be32 c.data.length ++ c.name))) ++ (c.data ++ (c.crc ++ (encAll Y ++ tail))) := by
    rw [hp.eq]; simp only [encAll_append, encAll_cons, RC.enc, List.append_assoc]
  rw [read_eq_ok (chunks_of_parsed hp) hcount hcai, hb]
  exact congrArg (fun x => some (ReadR.ok x)) (slice_app _ _ _ _ _
    (by simp only [List.length_append, sig_length, be32_length, (hok c (by simp)).name4]; omega) rfl)

theorem read_parsed_many {b : Bytes} {rs : List RC} {tail : Bytes} (hp : Parsed b rs tail)
    (h : 1 < (rs.filter (·.name == caBX)).length) : read b = some .many := by
  have hch := chunks_of_parsed hp
  simp [read, hch, filter_place_length, h]

theorem locations_parsed_at {b : Bytes} {X Y : List RC} {c : RC} {tail : Bytes}
    (hp : Parsed b (X ++ c :: Y) tail) (hX : ∀ x ∈ X, x.name ≠ caBX) (hc : c.name = caBX) :
    locations b = some (locA (8 + (encAll X).length) (c.data.length + 12) b.length) := by
  have hcai := find_place_at caBX c Y hc X 8
    (fun x hx => hp.stream.all_ok x (List.mem_append_left _ hx)) hX
  simp [locations, chunks_of_parsed hp, firstCai, hcai]

/-- For a file without a caBX chunk `locations` reports a 12-byte container right after IHDR in a file
12 bytes longer (what this means is said at `locations_fresh`, Lemmas/C07PngRefine). -/
theorem locations_parsed_fresh {b : Bytes} {L R : List RC} {tail : Bytes}
    (hp : Parsed b (L ++ R) tail) (hL : AfterIhdr L) (hno : ∀ x ∈ L ++ R, x.name ≠ caBX) :
    locations b = some (locA (8 + (encAll L).length) 12 (b.length + 12)) := by
  obtain ⟨A, ihr, rfl, hi, hA⟩ := hL
  rw [List.append_assoc, List.singleton_append] at hp hno
  have hok := hp.stream.all_ok
  have hnone : firstCai (place 8 (A ++ ihr :: R)) = none := find_place_none caBX _ 8 hno
  have hih := find_place_at IHDR ihr R hi A 8 (fun x hx => hok x (List.mem_append_left _ hx)) hA
  simp only [locations, chunks_of_parsed hp, hnone, firstIhdr, hih, fin_mk, encAll_append, encAll_cons,
    encAll_nil, List.append_nil, List.length_append, enc_length ihr (hok ihr (by simp)), Nat.add_assoc]

def rcSeg (r : RC) : Seg := ⟨kindOf r.name, tagOf r.name, r.enc⟩

def hdrSeg : Seg := ⟨.header, "PNGh", sig⟩

def trailSegs (tail : Bytes) : List Seg := if tail.isEmpty then [] else [⟨.media, "trailing", tail⟩]

/-- The layer-A container of a parsed file: what `Png.segs` yields on it (`segs_parsed`). -/
def segsOf (rs : List RC) (tail : Bytes) : List Seg := hdrSeg :: (rs.map rcSeg ++ trailSegs tail)

theorem map_chunkSeg_place : ∀ (rs : List RC) (pre rest : Bytes), (∀ r ∈ rs, r.ok) →
    (place pre.length rs).map (chunkSeg (pre ++ (encAll rs ++ rest))) = rs.map rcSeg
  | [], _, _, _ => rfl
  | r :: rs, pre, rest, hok => by
    have hr := enc_length r (hok r List.mem_cons_self)
    rw [encAll_cons, List.append_assoc, place, List.map_cons, chunkSeg,
      slice_app pre r.enc _ _ _ rfl hr.symm, ← List.append_assoc,
      show pre.length + (r.data.length + 12) = (pre ++ r.enc).length by rw [List.length_append, hr],
      map_chunkSeg_place rs (pre ++ r.enc) rest fun x hx => hok x (List.mem_cons_of_mem _ hx)]
    rfl

theorem segs_parsed {b : Bytes} {rs : List RC} {tail : Bytes} (hp : Parsed b rs tail) :
    segs b = some (segsOf rs tail) := by
  have hch := chunks_of_parsed hp
  have hok := hp.stream.all_ok
  have ht : b.take 8 = sig := take_of_eq hp.eq rfl
  have hm : (place 8 rs).map (chunkSeg b) = rs.map rcSeg := by
    have := map_chunkSeg_place rs sig tail hok
    rw [← hp.eq, sig_length] at this; exact this
  simp only [segs, hch, hp.finOf_eq, hp.drop_tail, ht, hm, segsOf, hdrSeg, trailSegs, List.cons_append]

theorem ser_map_rcSeg (rs : List RC) : ser (rs.map rcSeg) = encAll rs := by
  induction rs with
  | nil => rfl
  | cons r rs ih => rw [List.map_cons, ser_cons, ih, encAll_cons]; rfl

theorem ser_segsOf (rs : List RC) (tail : Bytes) : ser (segsOf rs tail) = sig ++ (encAll rs ++ tail) := by
  have h2 : ser (trailSegs tail) = tail := by
    unfold trailSegs
    cases tail with
    | nil => rfl
    | cons x xs => simp [ser]
  rw [segsOf, ser_cons, ser_append, ser_map_rcSeg, h2]; rfl

theorem parsed_of_segs {b : Bytes} {c : List Seg} (h : segs b = some c) :
    ∃ rs tail, Parsed b rs tail ∧ c = segsOf rs tail := by
  cases hch : chunks b with
  | none => simp [segs, hch] at h
  | some ps =>
    obtain ⟨rs, tail, hp, _⟩ := parsed_of_chunks hch
    rw [segs_parsed hp] at h
    exact ⟨rs, tail, hp, (Option.some.inj h).symm⟩

theorem ser_segs {b : Bytes} {c : List Seg} (h : segs b = some c) : ser c = b := by
  obtain ⟨rs, tail, hp, rfl⟩ := parsed_of_segs h
  rw [ser_segsOf, ← hp.eq]

theorem isM_rcSeg (r : RC) : isM (rcSeg r) = (r.name == caBX) := kindOf_manifest r.name

theorem isM_hdrSeg : isM hdrSeg = false := rfl

theorem isM_trailSegs (tail : Bytes) : ∀ x ∈ trailSegs tail, isM x = false := by
  intro x hx
  unfold trailSegs at hx
  by_cases h : tail.isEmpty = true
  · simp [h] at hx
  · simp [h] at hx; subst hx; rfl

theorem strip_map_rcSeg (rs : List RC) :
    strip (rs.map rcSeg) = (rs.filter (fun r => !(r.name == caBX))).map rcSeg := by
  rw [strip, List.filter_map]
  congr 2
  exact funext fun r => congrArg (!·) (isM_rcSeg r)

theorem manifests_map_rcSeg (rs : List RC) :
    manifests (rs.map rcSeg) = (rs.filter (·.name == caBX)).map rcSeg := by
  rw [manifests, List.filter_map]
  congr 2
  exact funext isM_rcSeg

theorem strip_segsOf (rs : List RC) (tail : Bytes) :
    strip (segsOf rs tail) = segsOf (rs.filter (fun r => !(r.name == caBX))) tail := by
  have e : segsOf rs tail = [hdrSeg] ++ (rs.map rcSeg ++ trailSegs tail) := rfl
  rw [e, strip_append, strip_append, strip_map_rcSeg, strip_eq_self (isM_trailSegs tail)]
  rfl

theorem manifests_segsOf (rs : List RC) (tail : Bytes) :
    manifests (segsOf rs tail) = (rs.filter (·.name == caBX)).map rcSeg := by
  have e : segsOf rs tail = [hdrSeg] ++ (rs.map rcSeg ++ trailSegs tail) := rfl
  rw [e, manifests_append, manifests_append, manifests_map_rcSeg,
    manifests_eq_nil (isM_trailSegs tail)]
  simp [manifests, isM_hdrSeg]

theorem isIhdrSeg_rcSeg (r : RC) (h : r.ok) : isIhdrSeg (rcSeg r) = (r.name == IHDR) := by
  have hs : slice r.enc 4 4 = r.name := by
    rw [RC.enc, List.append_assoc, List.append_assoc]
    exact slice_app _ _ _ _ _ rfl h.name4.symm
  rw [isIhdrSeg, rcSeg, kindOf_ne_header, Bool.true_and, hs]

theorem rcSeg_newRC (s : Bytes) : rcSeg (newRC s) = mseg fmt s := by
  show (⟨kindOf caBX, tagOf caBX, (newRC s).enc⟩ : Seg) = ⟨.manifest, "C2PA", wrap s⟩
  rw [newRC_enc]
  have h1 : kindOf caBX = .manifest := by decide
  have h2 : tagOf caBX = "C2PA" := by decide
  rw [h1, h2]

/-- Layer A's insertion position in a parsed file: the stripped segment list splits right
after the first IHDR record. -/
theorem split_segsOf {rs L R : List RC} (tail : Bytes) (hok : ∀ r ∈ L, r.ok) (hL : AfterIhdr L)
    (hf : rs.filter (fun r => !(r.name == caBX)) = L ++ R) :
    strip (segsOf rs tail) = (hdrSeg :: L.map rcSeg) ++ (R.map rcSeg ++ trailSegs tail) ∧
    fmt.pos (segsOf rs tail) = (hdrSeg :: L.map rcSeg).length := by
  have hstrip : strip (segsOf rs tail) = (hdrSeg :: L.map rcSeg) ++ (R.map rcSeg ++ trailSegs tail) := by
    rw [strip_segsOf, hf, segsOf, List.map_append, List.append_assoc]; rfl
  refine ⟨hstrip, ?_⟩
  obtain ⟨A, ihr, rfl, hi, hA⟩ := hL
  -- the first IHDR segment of the stripped list is `rcSeg ihr`, at index `1 + |A|`
  have hfi := Data.findIdx_first isIhdrSeg (rcSeg ihr) (R.map rcSeg ++ trailSegs tail)
    (by rw [isIhdrSeg_rcSeg ihr (hok ihr (by simp))]; exact beq_iff_eq.2 hi)
    (hdrSeg :: A.map rcSeg) (List.forall_mem_cons.2 ⟨rfl, List.forall_mem_map.2 fun a ha => by
      rw [isIhdrSeg_rcSeg a (hok a (by simp [ha]))]; exact beq_eq_false_iff_ne.2 (hA a ha)⟩)
  rw [fmt_pos, Png.pos, hstrip, List.map_append, List.map_singleton, ← List.cons_append,
    List.append_assoc, List.singleton_append, hfi]
  simp

theorem writeA_segsOf {rs L R : List RC} (tail s : Bytes) (hok : ∀ r ∈ L, r.ok) (hL : AfterIhdr L)
    (hf : rs.filter (fun r => !(r.name == caBX)) = L ++ R) :
    writeA fmt (segsOf rs tail) s = segsOf (L ++ newRC s :: R) tail := by
  obtain ⟨hstrip, hpos⟩ := split_segsOf tail hok hL hf
  rw [writeA_of_split s hstrip hpos, ← rcSeg_newRC]
  simp [segsOf, List.append_assoc]

theorem caiOff_segsOf {rs L R : List RC} (tail : Bytes) (hok : ∀ r ∈ L, r.ok) (hL : AfterIhdr L)
    (hf : rs.filter (fun r => !(r.name == caBX)) = L ++ R) :
    caiOff fmt (segsOf rs tail) = 8 + (encAll L).length := by
  obtain ⟨hstrip, hpos⟩ := split_segsOf tail hok hL hf
  rw [caiOff_of_split hstrip hpos, ser_cons, ser_map_rcSeg, List.length_append]
  rfl

end C2pa.C07.Png
