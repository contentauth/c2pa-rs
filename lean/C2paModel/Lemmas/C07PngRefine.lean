import C2paModel.Lemmas.C07PngOps
/-
PNG: the commuting squares between the byte-exact handler model (`Png.write`, `Png.remove`,
`Png.read`, `Png.locations` — the functions that are compared with `png_io.rs` on every run)
and layer A (`writeA`, `removeA`, `readA`, `caiOff`/`locA`) through the lexer `Png.segs`:

      bytes  b ───── Png.write · s ─────▶  bytes o            bytes b ── Png.read ──▶ result
        │ Png.segs                           │ Png.segs          │ Png.segs              ║
        ▼                                    ▼                   ▼                       ║
   container c ── writeA Png.fmt · s ──▶ container           container c ── readA ──▶ result

Preconditions, all on the input: the file parses, it holds at most one caBX chunk (the
handler replaces / removes only the *first* one — with two the squares do not commute, see
`Props/C07.lean` `png_two_manifests_diverge`), and the store is shorter than 2³² bytes (the chunk
length field; layer A's `unwrap` never looks at it).
-/
namespace C2pa.C07.Png

open C2pa.C07

theorem manifests_length_segsOf (rs : List RC) (tail : Bytes) :
    (manifests (segsOf rs tail)).length = (rs.filter (·.name == caBX)).length := by
  rw [manifests_segsOf, List.length_map]

theorem segs_isSome_iff (b : Bytes) : (segs b).isSome ↔ (chunks b).isSome := by
  cases hch : chunks b with
  | none => simp [segs, hch]
  | some ps => simp [segs, hch]

theorem manifests_length_segs {b : Bytes} {c : List Seg} {ps : List Chunk} (h : segs b = some c)
    (hch : chunks b = some ps) : (manifests c).length = (ps.filter (·.name == caBX)).length := by
  obtain ⟨rs, tail, hp, rfl⟩ := parsed_of_segs h
  have := chunks_of_parsed hp
  rw [hch] at this; injection this with this
  rw [manifests_length_segsOf, this, filter_place_length]

theorem segs_write {b s o : Bytes} {c : List Seg} (h : segs b = some c)
    (h1 : (manifests c).length ≤ 1) (hs : s.length < 4294967296) (hw : write b s = some o) :
    segs o = some (writeA fmt c s) := by
  obtain ⟨rs, tail, hp, rfl⟩ := parsed_of_segs h
  obtain ⟨L, R, hpo, he, hL⟩ := write_parsed hp hs hw
  rw [manifests_length_segsOf] at h1
  have hf := (eraseFirst_filter he h1).1
  have hokL : ∀ r ∈ L, r.ok := fun r hr => hpo.stream.all_ok r (by simp [hr])
  rw [segs_parsed hpo, writeA_segsOf tail s hokL hL hf]

theorem write_refines {b s o : Bytes} {c : List Seg} (h : segs b = some c)
    (h1 : (manifests c).length ≤ 1) (hs : s.length < 4294967296) (hw : write b s = some o) :
    o = ser (writeA fmt c s) :=
  (ser_segs (segs_write h h1 hs hw)).symm

theorem segs_remove {b : Bytes} {c : List Seg} (h : segs b = some c) (h1 : (manifests c).length ≤ 1) :
    ∃ o, remove b = some o ∧ segs o = some (removeA c) := by
  obtain ⟨rs, tail, hp, rfl⟩ := parsed_of_segs h
  obtain ⟨o, rs', hr, hpo, he⟩ := remove_parsed hp
  rw [manifests_length_segsOf] at h1
  have hf := (eraseFirst_filter he h1).1
  refine ⟨o, hr, ?_⟩
  rw [segs_parsed hpo]
  show _ = some (strip _)
  rw [strip_segsOf, hf]

theorem remove_refines {b : Bytes} {c : List Seg} (h : segs b = some c) (h1 : (manifests c).length ≤ 1) :
    remove b = some (ser (removeA c)) := by
  obtain ⟨o, hr, hs⟩ := segs_remove h h1
  rw [hr, ser_segs hs]

/-- No precondition: none / one / many agree. -/
theorem read_segs {b : Bytes} {c : List Seg} (h : segs b = some c) :
    read b = some (readA fmt c) := by
  obtain ⟨rs, tail, hp, rfl⟩ := parsed_of_segs h
  rcases split_first caBX rs with hno | ⟨X, c, Y, rfl, hX, hc⟩
  · rw [read_parsed_none hp hno, readA_none (by rw [manifests_segsOf, (filter_none hno).1]; rfl)]
  · have hf := filter_first (Y := Y) hX hc
    rcases split_first caBX Y with hnoY | ⟨Y1, c2, Y2, rfl, hY1, hc2⟩
    · rw [(filter_none hnoY).1] at hf
      rw [read_parsed_one hp hX hc hnoY,
        readA_one (m := rcSeg c) (by rw [manifests_segsOf, hf]; rfl)
          (by rw [fmt_unwrap]; exact unwrap_enc c (hp.stream.all_ok c (by simp)))]
    · rw [filter_first hY1 hc2] at hf
      rw [read_parsed_many hp (by rw [hf]; simp),
        readA_many (by rw [manifests_segsOf, hf]; simp)]

theorem locations_write {b s o : Bytes} {c : List Seg} (h : segs b = some c)
    (h1 : (manifests c).length ≤ 1) (hs : s.length < 4294967296) (hw : write b s = some o) :
    locations o = some (locA (caiOff fmt c) (s.length + 12) o.length) := by
  obtain ⟨rs, tail, hp, rfl⟩ := parsed_of_segs h
  obtain ⟨L, R, hpo, he, hL⟩ := write_parsed hp hs hw
  rw [manifests_length_segsOf] at h1
  obtain ⟨hf, hno⟩ := eraseFirst_filter he h1
  have hokL : ∀ r ∈ L, r.ok := fun r hr => hpo.stream.all_ok r (by simp [hr])
  rw [caiOff_segsOf tail hokL hL hf]
  exact locations_parsed_at hpo (fun x hx => hno x (by simp [hx])) rfl

/-- Without a caBX chunk the handler reports the regions of the asset that embedding an
empty store would produce (the "12-byte pseudo chunk in a file 12 bytes longer"). -/
theorem locations_fresh {b o : Bytes} {c : List Seg} (h : segs b = some c)
    (h0 : manifests c = []) (hw : write b [] = some o) : locations b = locations o := by
  obtain ⟨rs, tail, hp, rfl⟩ := parsed_of_segs h
  obtain ⟨L, R, hpo, he, hL⟩ := write_parsed hp (by decide) hw
  rw [manifests_segsOf, List.map_eq_nil_iff, List.filter_eq_nil_iff] at h0
  have hno : ∀ r ∈ rs, r.name ≠ caBX := fun r hr hrc => h0 r hr (beq_iff_eq.2 hrc)
  -- nothing was erased: `rs = L ++ R`, and `L` ends with the first IHDR record
  have hrs : L ++ R = rs := by
    rcases he with ⟨_, e⟩ | ⟨X, c, Y, rfl, _, hc, _⟩
    · exact e
    · exact absurd hc (hno c (by simp))
  subst hrs
  have hlen : o.length = b.length + 12 := by
    rw [hpo.eq, hp.eq]
    simp only [encAll_append, encAll_cons, newRC_enc, wrap_length, List.length_append,
      List.length_nil]
    omega
  rw [locations_parsed_fresh hp hL hno,
    locations_parsed_at hpo (fun x hx => hno x (List.mem_append_left _ hx)) rfl, hlen]
  rfl

end C2pa.C07.Png
