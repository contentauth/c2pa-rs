import C2paModel.Lemmas.C19Graph
/-
C19 — the positive direction: on a well-formed reachable graph (no dangling reference, every
path from the root shorter than the limit, signatures parse, hashed URIs carry the right hash)
`ingredient_checks` returns `Ok` and logs no failure.
-/
namespace C2pa.C19

/-- The part of the store reachable from `root` is well formed. `depth` — every path from the
root has fewer than `lim` edges — also excludes reachable cycles (a cycle yields arbitrarily
long paths). -/
structure WF (s : Store) (root lim : Nat) : Prop where
  root_lt : root < s.length
  nd : ∀ u v, Reach s root u → ¬ Dangling s u v
  sig : ∀ u c, Reach s root u → s[u]? = some c → c.sigOk = true
  hash : ∀ u c, Reach s root u → s[u]? = some c → ∀ i ∈ c.ings, ∀ v, i.target = some v →
    i.hashOk = true
  depth : ∀ v k, ReachIn s root k v → k < lim

def LogClean (l : List Ev) : Prop := ∀ e ∈ l, e.isFailure = false

/-- outcome `Ok`, or the model artefact `outOfFuel` (excluded separately by `ic_fuel_suffices`) -/
def OkOrFuel (o : Out) : Prop := o = .ok ∨ o = .outOfFuel

theorem WF.acyclic {s : Store} {root lim : Nat} (hwf : WF s root lim) :
    ∀ v, Reach s root v → ¬ OnCycle s v := by
  rintro v hv ⟨w, he, hw⟩
  obtain ⟨k, hk⟩ := hv.reachIn
  obtain ⟨m, hm⟩ := hw.reachIn
  have hcyc : ReachIn s v (m + 1) v :=
    Nat.add_comm 1 m ▸ (.step .refl he : ReachIn s v 1 w).trans hm
  obtain ⟨k', hk', hr⟩ := cycle_long hk hcyc lim
  exact Nat.not_lt.2 hk' (hwf.depth v k' hr)

/-- the events of a matching ingredient; `iVer st i v` has the same log -/
theorem LogClean.ins {st : ISt} {i : Ing} (h : LogClean st.log) (hho : i.hashOk = true) (v : Nat) :
    LogClean (iIns st i v).log :=
  List.forall_mem_cons.2 ⟨rfl, List.forall_mem_cons.2 ⟨by rw [hho]; rfl, h⟩⟩

theorem iLoop_clean (s : Store) (root d : Nat) (hr : root < s.length)
    (rec : Nat → ISt → Out × ISt)
    (hrec : ∀ v st, ReachIn s root (d + 1) v → LogClean st.log →
      OkOrFuel (rec v st).1 ∧ LogClean (rec v st).2.log) :
    ∀ (ings : List Ing) (st : ISt), LogClean st.log →
      (∀ i ∈ ings, ∀ v, i.target = some v →
        i.hashOk = true ∧ ReachIn s root (d + 1) v ∧ ∀ c, s[v]? = some c → c.sigOk = true) →
      OkOrFuel (iLoop rec s ings st).1 ∧ LogClean (iLoop rec s ings st).2.log := by
  intro ings st h hings
  fun_induction iLoop rec s ings st with
  | case1 => exact ⟨.inl rfl, h⟩
  | case2 _ _ _ _ ih => exact ih h (List.forall_mem_cons.1 hings).2
  | case3 _ _ _ _ ht c' hs hsig =>
    rw [(hings _ (List.mem_cons_self ..) _ ht).2.2 c' hs] at hsig
    cases hsig
  | case4 _ _ _ v ht _ _ _ _ ih =>
    obtain ⟨hi, hings'⟩ := List.forall_mem_cons.1 hings
    exact ih (h.ins (hi v ht).1 v) hings'
  | case5 _ _ _ v ht _ _ _ _ r _ ih =>
    obtain ⟨hi, hings'⟩ := List.forall_mem_cons.1 hings
    obtain ⟨hho, hin, _⟩ := hi v ht
    exact ih (hrec v _ hin (h.ins hho v)).2 hings'
  | case6 _ _ _ v ht =>
    obtain ⟨hho, hin, _⟩ := hings _ (List.mem_cons_self ..) v ht
    exact hrec v _ hin (h.ins hho v)
  | case7 _ _ _ v ht hs =>
    have hin := (hings _ (List.mem_cons_self ..) v ht).2.1
    rw [List.getElem?_eq_getElem (reach_lt hr hin.reach)] at hs
    cases hs

theorem ic_clean (s : Store) (root lim : Nat) (hwf : WF s root lim) :
    ∀ (n d u : Nat) (st : ISt), ReachIn s root d u → LogClean st.log →
      OkOrFuel (ic lim s n d u st).1 ∧ LogClean (ic lim s n d u st).2.log := by
  intro n
  induction n with
  | zero => intro d u st _ h; exact ⟨.inr rfl, h⟩
  | succ n ih =>
    intro d u st hu h
    have hlt := reach_lt hwf.root_lt hu.reach
    have hsome : s[u]? = some s[u] := List.getElem?_eq_getElem hlt
    rw [ic, if_neg (Nat.not_le.2 (hwf.depth u d hu)), hsome]
    refine iLoop_clean s root d hwf.root_lt _ (ih (d + 1)) s[u].ings st h fun i hi v ht => ?_
    -- no reference of a reachable claim dangles, so `v` is a claim one edge further
    have hv : v < s.length :=
      Nat.lt_of_not_le fun hge => hwf.nd u v hu.reach ⟨_, hsome, i, hi, ht, hge⟩
    have hin : ReachIn s root (d + 1) v := .step hu ⟨_, hsome, i, hi, ht, hv⟩
    exact ⟨hwf.hash u _ hu.reach hsome i hi v ht, hin, fun c => hwf.sig v c hin.reach⟩

end C2pa.C19
