import C2paModel.Model.C29
import C2paModel.Lemmas.Split
/-! C29 — `splitSlash` and `joinSlash` are `Data.splitSep` and `Data.joinSep` at the byte `/`: they are
mutually inverse; what the segments of a path hold. -/
namespace C2pa.C29

theorem splitSlash_eq : ∀ p : Str, splitSlash p = Data.splitSep 47 p
  | [] => rfl
  | c :: cs => by
    rw [splitSlash, Data.splitSep, splitSlash_eq cs]
    split
    · rfl
    · cases Data.splitSep 47 cs <;> rfl

theorem joinSlash_eq : ∀ l : Segs, joinSlash l = Data.joinSep 47 l
  | [] => rfl
  | [_] => rfl
  | a :: b :: rest => by
    show a ++ 47 :: joinSlash (b :: rest) = _
    rw [Data.joinSep, joinSlash_eq (b :: rest)]

theorem joinSlash_cons_cons (a b : Str) (l : Segs) :
    joinSlash (a :: b :: l) = a ++ 47 :: joinSlash (b :: l) := rfl

theorem joinSlash_glue (a b : Str) (l : Segs) :
    joinSlash ((a ++ 47 :: b) :: l) = joinSlash (a :: b :: l) := by
  cases l with
  | nil => rfl
  | cons c l => rw [joinSlash_cons_cons, joinSlash_cons_cons, joinSlash_cons_cons, List.append_assoc]; rfl

theorem joinSlash_ne_nil (names : Segs) (hne : names ≠ []) (h : ∀ n ∈ names, n ≠ []) :
    joinSlash names ≠ [] := by
  match names, hne with
  | [n], _ => exact h n (by simp)
  | n :: m :: ms, _ => simp [joinSlash, h n]

theorem splitSlash_cons_slash (cs : Str) : splitSlash (47 :: cs) = [] :: splitSlash cs := by
  rw [splitSlash_eq, splitSlash_eq, Data.splitSep_cons_sep]

theorem splitSlash_ne_nil (p : Str) : splitSlash p ≠ [] :=
  splitSlash_eq p ▸ Data.splitSep_ne_nil 47 p

theorem splitSlash_noslash (p : Str) : ∀ s ∈ splitSlash p, 47 ∉ s :=
  fun s hs => (Data.mem_splitSep s (splitSlash_eq p ▸ hs)).1

theorem splitSlash_sub (p : Str) : ∀ s ∈ splitSlash p, ∀ c ∈ s, c ∈ p :=
  fun s hs => (Data.mem_splitSep s (splitSlash_eq p ▸ hs)).2

theorem splitSlash_of_noslash (n : Str) (h : 47 ∉ n) : splitSlash n = [n] :=
  splitSlash_eq n ▸ Data.splitSep_of_not_mem h

theorem splitSlash_joinSlash (names : Segs) (hne : names ≠ []) (h : ∀ n ∈ names, 47 ∉ n) :
    splitSlash (joinSlash names) = names := by
  rw [joinSlash_eq, splitSlash_eq, Data.split_join 47 names hne h]

theorem joinSlash_splitSlash (p : Str) : joinSlash (splitSlash p) = p := by
  rw [splitSlash_eq, joinSlash_eq, Data.join_split]

theorem mem_joinSlash {c : Nat} {l : Segs} (h : c ∈ joinSlash l) : c = 47 ∨ ∃ n ∈ l, c ∈ n :=
  Data.mem_joinSep (joinSlash_eq l ▸ h)

theorem rooted_splitSlash : ∀ p : Str, rooted (splitSlash p) = isRooted p
  | [] => rfl
  | c :: cs => by
    obtain ⟨s, ss, h⟩ := Data.splitSep_eq_cons 47 cs
    rw [splitSlash_eq]
    by_cases hc : c = 47
    · rw [hc, Data.splitSep_cons_sep, h]; rfl
    · rw [Data.splitSep_cons_ne hc h]
      cases ss <;> simp [rooted, isRooted, hc]

end C2pa.C29
