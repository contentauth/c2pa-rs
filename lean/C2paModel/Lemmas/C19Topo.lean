import C2paModel.Lemmas.C19Graph
/-
C19 — the DFS invariant of `gcrm`, `DfsInv` (the finish order is a topological order, the dangling
references of every finished claim are in the log), and its preservation by each state update,
`DfsKept` between the states before and after; the induction that threads it through a run is
`Call.dfs` in `C19Depth`.
-/
namespace C2pa.C19

/-- The DFS invariant (grey = `path`, black = `fin`, `map` = grey ∪ black). -/
structure DfsInv (s : Store) (st : GSt) : Prop where
  mem_map : ∀ x, x ∈ st.map ↔ x ∈ st.path ∨ x ∈ st.fin
  disj : ∀ x ∈ st.path, x ∉ st.fin
  fnd : st.fin.Nodup
  topo : Topo s st.fin
  dlog : ∀ x ∈ st.fin, ∀ v, Dangling s x v → Ev.missing v ∈ st.log

/-- From `st` to `st'` the invariant was kept and nothing left the finish order or the log. -/
structure DfsKept (s : Store) (st st' : GSt) : Prop where
  inv : DfsInv s st'
  fing : ∀ x ∈ st.fin, x ∈ st'.fin
  logg : ∀ e ∈ st.log, e ∈ st'.log

theorem DfsKept.refl {s : Store} {st : GSt} (h : DfsInv s st) : DfsKept s st st :=
  ⟨h, fun _ h => h, fun _ h => h⟩

theorem DfsKept.trans {s : Store} {a b c : GSt} (h₁ : DfsKept s a b) (h₂ : DfsKept s b c) :
    DfsKept s a c :=
  ⟨h₂.inv, fun x hx => h₂.fing x (h₁.fing x hx),
    fun e he => h₂.logg e (h₁.logg e he)⟩

theorem DfsInv.step1 {s : Store} {st st' : GSt} (h : DfsInv s st) (hp : st'.path = st.path)
    (hm : st'.map = st.map) (hf : st'.fin = st.fin) (hl : ∀ e ∈ st.log, e ∈ st'.log) :
    DfsKept s st st' :=
  ⟨⟨hp ▸ hf ▸ hm ▸ h.mem_map, hp ▸ hf ▸ h.disj, hf ▸ h.fnd,
      hf ▸ h.topo, fun x hx w hw => hl _ (h.dlog x (hf ▸ hx) w hw)⟩,
    fun _ hx => hf ▸ hx, hl⟩

theorem DfsInv.pre {s : Store} {st : GSt} (h : DfsInv s st) (u v : Nat) :
    DfsKept s st (gPre st u v) :=
  h.step1 rfl rfl rfl fun _ h => h

theorem DfsInv.skip {s : Store} {st : GSt} (h : DfsInv s st) : DfsKept s st (gSkip st) :=
  h.step1 rfl rfl rfl fun _ h => h

theorem DfsInv.miss {s : Store} {st : GSt} (h : DfsInv s st) (v : Nat) :
    DfsKept s st (gMiss st v) :=
  h.step1 rfl rfl rfl fun _ h => List.mem_cons_of_mem _ h

theorem DfsInv.push {s : Store} {st : GSt} (h : DfsInv s st) (u : Nat) (hm : u ∉ st.map) :
    DfsInv s (gPush st u) := by
  refine ⟨fun x => ?_, ?_, h.fnd, h.topo, h.dlog⟩
  · show x ∈ u :: st.map ↔ x ∈ u :: st.path ∨ x ∈ st.fin
    rw [List.mem_cons, List.mem_cons, h.mem_map, or_assoc]
  · exact List.forall_mem_cons.2 ⟨fun hf => hm ((h.mem_map u).2 (.inr hf)), h.disj⟩

/-- Popping the finished claim `u`: it turns from grey to black; its successors were finished
inside its loop and its dangling references were logged there. -/
theorem DfsKept.pop {s : Store} {st r : GSt} {u : Nat} (l : DfsKept s (gPush st u) r)
    (hp : u ∉ st.path) (hpath : r.path = u :: st.path) (hsucc : ∀ v, Edge s u v → v ∈ r.fin)
    (hdang : ∀ v, Dangling s u v → Ev.missing v ∈ r.log) : DfsKept s st (gPop r u) := by
  have hi := l.inv
  have hup : u ∈ r.path := by rw [hpath]; exact List.mem_cons_self ..
  have htail : (gPop r u).path = st.path := by show r.path.tail = _; rw [hpath]; rfl
  refine ⟨⟨fun x => ?_, ?_, ?_, ⟨hsucc, hi.topo⟩, ?_⟩, ?_, l.logg⟩
  · show x ∈ r.map ↔ x ∈ r.path.tail ∨ x ∈ u :: r.fin
    rw [hi.mem_map, hpath, List.tail_cons, List.mem_cons, List.mem_cons, or_assoc, or_left_comm]
  · intro x hx hf
    rw [htail] at hx
    rcases List.mem_cons.1 hf with rfl | hf
    · exact hp hx
    · exact hi.disj x (hpath ▸ List.mem_cons_of_mem _ hx) hf
  · exact List.nodup_cons.2 ⟨hi.disj u hup, hi.fnd⟩
  · exact List.forall_mem_cons.2 ⟨hdang, hi.dlog⟩
  · exact fun x hx => List.mem_cons_of_mem _ (l.fing x hx)

theorem DfsInv.init (s : Store) : DfsInv s {} :=
  ⟨fun _ => by simp, nofun, List.nodup_nil, trivial, nofun⟩

end C2pa.C19
