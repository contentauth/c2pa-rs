import C2paModel.Lemmas.C34
/-
C34 — instance suffixes: `split("__")`, plain labels, ingredient-thumbnail labels with a format suffix
of any case (`label_with_instance` keeps the label as it is at instance 0 and lower-cases the suffix
otherwise, `assertion_label_from_link` always lower-cases it, so the exact round trip of `instance_core`
needs the lower-case suffix `fmtOk`). All of it is stated on the helpers without their panic layer
(`lwiS`, `laiS`, `imgS` of Lemmas/C34).
-/
namespace C2pa.C34

/-! ### the `__` split -/

/-- no two adjacent underscores -/
def noDU : Str → Bool
  | a :: b :: rest => !(a == '_' && b == '_') && noDU (b :: rest)
  | _ => true

theorem noDU_cons_cons {a b : Char} {rest : Str} (h : noDU (a :: b :: rest) = true) :
    ¬(a = '_' ∧ b = '_') ∧ noDU (b :: rest) = true := by
  simp only [noDU, Bool.and_eq_true, Bool.not_eq_true', Bool.and_eq_false_iff, beq_eq_false_iff_ne] at h
  exact ⟨fun e => h.1.elim (· e.1) (· e.2), h.2⟩

theorem splitDU_noDU : ∀ (l : Str), noDU l = true → splitDU l = [l]
  | [], _ => rfl
  | [a], _ => rfl
  | a :: b :: rest, h => by
    obtain ⟨hc, hr⟩ := noDU_cons_cons h
    simp [splitDU, hc, splitDU_noDU (b :: rest) hr, headCons]

theorem noDU_of_not_mem : ∀ (l : Str), '_' ∉ l → noDU l = true
  | [], _ => rfl
  | [a], _ => rfl
  | a :: b :: rest, h => by
    have ha : a ≠ '_' := fun e => h (by simp [e])
    have ih := noDU_of_not_mem (b :: rest) (fun e => h (List.mem_cons_of_mem _ e))
    simp [noDU, ha, ih]

theorem splitDU_of_not_mem {l : Str} (h : '_' ∉ l) : splitDU l = [l] :=
  splitDU_noDU l (noDU_of_not_mem l h)

theorem splitDU_append_du : ∀ (l r : Str), noDU l = true → l.getLast? ≠ some '_' →
    splitDU (l ++ '_' :: '_' :: r) = l :: splitDU r
  | [], r, _, _ => by simp [splitDU]
  | [a], r, _, hl => by
    have ha : a ≠ '_' := by simpa using hl
    simp [splitDU, ha, headCons]
  | a :: b :: rest, r, h, hl => by
    obtain ⟨hc, hr⟩ := noDU_cons_cons h
    have ih := splitDU_append_du (b :: rest) r hr (by simpa [List.getLast?_cons_cons] using hl)
    simp only [List.cons_append] at ih ⊢
    simp [splitDU, hc, ih, headCons]

theorem isPrefixOf_of_append_us : ∀ (p l r : Str), '_' ∉ p → p.isPrefixOf (l ++ '_' :: r) = true →
    p.isPrefixOf l = true
  | [], _, _, _, _ => by simp
  | x :: xs, [], r, hp, h => by
    simp at h; exact absurd (List.mem_cons.mpr (Or.inl h.1.symm)) hp
  | x :: xs, y :: ys, r, hp, h => by
    simp at h ⊢
    exact ⟨h.1, by simpa using isPrefixOf_of_append_us xs ys r (fun e => hp (List.mem_cons_of_mem _ e)) (by simpa using h.2)⟩

theorem containsSub_append_right (pat a b : Str) (h : containsSub pat a = true) : containsSub pat (a ++ b) = true :=
  (containsSub_iff _ _).2 (((containsSub_iff _ _).1 h).trans (List.prefix_append a b).isInfix)

/-! ### thumbnail types -/

theorem claimThumb_ne_ing : cClaimThumb ≠ cIngThumb := by
  unfold cClaimThumb cIngThumb; decide_run

/-- `"none"` is what `get_thumbnail_type` answers for a label that is no thumbnail label -/
theorem none_ne_ing : "none".toList ≠ cIngThumb := by unfold cIngThumb; decide_run

theorem us_not_mem_ingThumb : '_' ∉ cIngThumb := by unfold cIngThumb; decide_run
theorem contains_thumb : containsSub "thumbnail".toList cIngThumb = true := by
  unfold cIngThumb; decide_run
theorem noDU_ingThumb : noDU cIngThumb = true := by unfold cIngThumb; decide_run
theorem last_ingThumb : cIngThumb.getLast? ≠ some '_' := by unfold cIngThumb; decide_run
theorem okSeg_ingThumb : okSeg cIngThumb := by unfold cIngThumb; decide_run

theorem thumbnailType_ne_ing {l : Str} (h : cIngThumb.isPrefixOf l = false) : thumbnailType l ≠ cIngThumb := by
  unfold thumbnailType
  split
  · exact claimThumb_ne_ing
  · simpa [h] using none_ne_ing

/-- the two thumbnail prefixes part at their sixteenth character -/
theorem claimThumb_not_prefix (x : Str) : cClaimThumb.isPrefixOf (cIngThumb ++ x) = false := by
  unfold cClaimThumb cIngThumb
  repeat rw [String.toList_ofList]
  rfl

/-! ### plain labels -/

/-- a plain (non ingredient-thumbnail) assertion label as the SDK writes them -/
def plainLabel (l : Str) : Bool :=
  !l.contains '/' && !l.contains '=' && noDU l && l.getLast? != some '_' && !cIngThumb.isPrefixOf l

theorem plainLabel_iff {l : Str} : plainLabel l = true ↔
    okSeg l ∧ noDU l = true ∧ l.getLast? ≠ some '_' ∧ cIngThumb.isPrefixOf l = false := by
  simp [plainLabel, okSeg, and_assoc]

theorem laiS_plain_inst {l : Str} {n : Nat} (h : plainLabel l = true) (hn : n < usizeLimit) :
    laiS (l ++ instSuffix (some n)) = (l, n) := by
  obtain ⟨_, hdu, hlast, hp⟩ := plainLabel_iff.mp h
  have hp' : cIngThumb.isPrefixOf (l ++ '_' :: '_' :: showNat n) = false := by
    cases hh : cIngThumb.isPrefixOf (l ++ '_' :: '_' :: showNat n) with
    | false => rfl
    | true => rw [isPrefixOf_of_append_us _ _ _ us_not_mem_ingThumb hh] at hp; exact absurd hp (by simp)
  have hs : splitDU (l ++ '_' :: '_' :: showNat n) = [l, showNat n] := by
    rw [splitDU_append_du l _ hdu hlast, splitDU_of_not_mem (us_not_mem_showNat n)]
  simp [laiS, instSuffix, thumbnailType_ne_ing hp', hs, usize_roundtrip n hn]

/-! ### format suffixes -/

/-- format suffix of any case -/
def fmtAny (f : Str) : Bool :=
  !f.contains '_' && !f.contains '.' && !f.contains '/' && !f.contains '='

/-- lower-case image-format suffix of an ingredient thumbnail label (`jpeg`, `png`, …) -/
def fmtOk (f : Str) : Bool :=
  !f.contains '_' && !f.contains '.' && !f.contains '/' && !f.contains '=' && f.map toAsciiLower == f

theorem fmtAny_iff {f : Str} : fmtAny f = true ↔ '_' ∉ f ∧ '.' ∉ f ∧ '/' ∉ f ∧ '=' ∉ f := by
  simp [fmtAny, and_assoc]

theorem fmtOk_iff {f : Str} : fmtOk f = true ↔ fmtAny f = true ∧ lowerAscii f = f := by
  simp [fmtOk, fmtAny, lowerAscii]

theorem fmtAny_lower {f : Str} (h : fmtAny f = true) : fmtAny (lowerAscii f) = true := by
  obtain ⟨h1, h2, h3, h4⟩ := fmtAny_iff.mp h
  exact fmtAny_iff.mpr ⟨not_mem_lower (by decide) h1, not_mem_lower (by decide) h2,
    not_mem_lower (by decide) h3, not_mem_lower (by decide) h4⟩

/-! ### the ingredient-thumbnail labels `c2pa.thumbnail.ingredient[__<n>][.<fmt>]`

One family `ing n f` (Lemmas/C34); what `split('.')` and `split("__")` make of it is proved once, and
every helper on it is then a function evaluated on an explicit list. -/

def cThumb : Str := "thumbnail".toList
def cIngredient : Str := "ingredient".toList

theorem cIngThumb_eq : cIngThumb = cC2pa ++ '.' :: (cThumb ++ '.' :: cIngredient) := by
  unfold cIngThumb cC2pa cThumb cIngredient; decide_run
theorem dot_not_mem_c2pa : '.' ∉ cC2pa := by unfold cC2pa; decide_run
theorem dot_not_mem_thumb : '.' ∉ cThumb := by unfold cThumb; decide_run
theorem dot_not_mem_ingredient : '.' ∉ cIngredient := by unfold cIngredient; decide_run

/-! A missing suffix counts as the empty one, a missing instance as instance 0: the hypotheses below
are `fmtAny (f.getD []) = true` and `n.getD 0 < usizeLimit`. -/

theorem not_mem_instSuffix {c : Char} (hd : c.isDigit = false) (hu : c ≠ '_') :
    ∀ n : Option Nat, c ∉ instSuffix n
  | none => List.not_mem_nil
  | some n => by
    simp only [instSuffix, List.mem_cons, not_or]
    exact ⟨hu, hu, not_mem_showNat hd n⟩

theorem not_mem_fmtSuffix {c : Char} (hc : c ≠ '.') : ∀ {f : Option Str}, c ∉ f.getD [] → c ∉ fmtSuffix f
  | none, _ => List.not_mem_nil
  | some _, hf => fun hm => (List.mem_cons.1 hm).elim hc hf

theorem not_mem_ing {c : Char} {n : Option Nat} {f : Option Str} (hi : c ∉ cIngThumb)
    (hd : c.isDigit = false) (hu : c ≠ '_') (hc : c ≠ '.') (hf : c ∉ f.getD []) : c ∉ ing n f := by
  simp only [ing, List.mem_append, not_or]
  exact ⟨hi, not_mem_instSuffix hd hu n, not_mem_fmtSuffix hc hf⟩

theorem thumbnailType_ing (n : Option Nat) (f : Option Str) : thumbnailType (ing n f) = cIngThumb := by
  simp [thumbnailType, claimThumb_not_prefix, ing]

theorem split_dot_ing {n : Option Nat} {f : Option Str} (hf : fmtAny (f.getD []) = true) :
    splitOnC '.' (ing n f) = [cC2pa, cThumb, cIngredient ++ instSuffix n] ++ f.toList := by
  have h3 : '.' ∉ cIngredient ++ instSuffix n := by
    simp [List.mem_append, dot_not_mem_ingredient, not_mem_instSuffix (c := '.') rfl (by decide)]
  rw [ing, cIngThumb_eq]
  simp only [List.append_assoc, List.cons_append]
  rw [splitOnC_append_sep _ dot_not_mem_c2pa, splitOnC_append_sep _ dot_not_mem_thumb, ← List.append_assoc]
  cases f with
  | none => rw [fmtSuffix, List.append_nil, splitOnC_of_not_mem h3]; rfl
  | some f =>
    replace hf : fmtAny f = true := hf
    rw [fmtSuffix, splitOnC_append_sep _ h3, splitOnC_of_not_mem (fmtAny_iff.mp hf).2.1]
    rfl

theorem split_du_ing {n : Option Nat} {f : Option Str} (hf : fmtAny (f.getD []) = true) :
    splitDU (ing n f) = match n with
      | none => [ing none f]
      | some k => [cIngThumb, showNat k ++ fmtSuffix f] := by
  have hu : '_' ∉ fmtSuffix f := not_mem_fmtSuffix (by decide) (fmtAny_iff.mp hf).1
  cases n with
  | none =>
    exact splitDU_of_not_mem (by simp [ing, instSuffix, List.mem_append, us_not_mem_ingThumb, hu])
  | some k =>
    have h2 : '_' ∉ showNat k ++ fmtSuffix f := by simp [List.mem_append, us_not_mem_showNat, hu]
    simp only [ing, instSuffix, List.cons_append]
    rw [splitDU_append_du _ _ noDU_ingThumb last_ingThumb, splitDU_of_not_mem h2]

theorem imgS_ing {n : Option Nat} {f : Option Str} (hf : fmtAny (f.getD []) = true) :
    imgS (ing n f) = f.map lowerAscii := by
  have hc : containsSub "thumbnail".toList (ing n f) = true := containsSub_append_right _ _ _ contains_thumb
  cases f with
  | none => simp [-String.reduceToList, imgS, split_dot_ing hf, hc]
  | some f =>
    have hf' : fmtAny f = true := hf
    simp [-String.reduceToList, imgS, split_dot_ing hf, hc, firstOf, splitOnC_of_not_mem (fmtAny_iff.mp hf').1]

theorem laiS_ing {n : Option Nat} {f : Option Str} (hf : fmtAny (f.getD []) = true)
    (hn : n.getD 0 < usizeLimit) : laiS (ing n f) = (ing none (f.map lowerAscii), n.getD 0) := by
  cases n with
  | none => simp [laiS, instS, thumbnailType_ing, imgS_ing hf, split_du_ing hf]
  | some k =>
    have hd : firstOf '.' (showNat k ++ fmtSuffix f) = showNat k := by
      cases f with
      | none => rw [fmtSuffix, List.append_nil, firstOf, splitOnC_of_not_mem (dot_not_mem_showNat k)]; rfl
      | some f => rw [fmtSuffix, firstOf, splitOnC_append_sep _ (dot_not_mem_showNat k)]; rfl
    simp [laiS, instS, thumbnailType_ing, imgS_ing hf, split_du_ing hf, hd, usize_roundtrip k hn]

theorem lwiS_ing {f : Option Str} {n : Nat} (hf : fmtAny (f.getD []) = true) (hn : n ≠ 0) :
    lwiS (ing none f) n = ing (some n) (f.map lowerAscii) := by
  simp [lwiS, hn, thumbnailType_ing, imgS_ing hf]

theorem okSeg_inst {l : Str} (h : okSeg l) (n : Option Nat) : okSeg (l ++ instSuffix n) :=
  ⟨fun hm => (List.mem_append.1 hm).elim h.1 (not_mem_instSuffix rfl (by decide) n),
    fun hm => (List.mem_append.1 hm).elim h.2 (not_mem_instSuffix rfl (by decide) n)⟩

theorem okSeg_ing {n : Option Nat} {f : Option Str} (hf : fmtAny (f.getD []) = true) : okSeg (ing n f) :=
  ⟨not_mem_ing okSeg_ingThumb.1 rfl (by decide) (by decide) (fmtAny_iff.mp hf).2.2.1,
    not_mem_ing okSeg_ingThumb.2 rfl (by decide) (by decide) (fmtAny_iff.mp hf).2.2.2⟩

/-! ### well-formed labels; the core of the instance round trip -/

/-- ingredient thumbnail label: `c2pa.thumbnail.ingredient` or `c2pa.thumbnail.ingredient.<fmt>` -/
def ingLabel (l : Str) : Bool :=
  l == cIngThumb || ((cIngThumb ++ ['.']).isPrefixOf l && fmtOk (l.drop (cIngThumb.length + 1)))

/-- assertion labels whose instance suffix round-trips -/
def wfLabel (l : Str) : Bool := plainLabel l || ingLabel l

theorem ingLabel_cases {l : Str} (h : ingLabel l = true) :
    ∃ f, fmtAny (f.getD []) = true ∧ f.map lowerAscii = f ∧ l = ing none f := by
  unfold ingLabel at h
  rcases Bool.or_eq_true_iff.mp h with h | h
  · exact ⟨none, rfl, rfl, (beq_iff_eq.mp h).trans (List.append_nil _).symm⟩
  · obtain ⟨hp, hf⟩ := Bool.and_eq_true_iff.mp h
    obtain ⟨t, rfl⟩ := List.isPrefixOf_iff_prefix.mp hp
    rw [← List.length_singleton (a := '.'), ← List.length_append, List.drop_left] at hf
    obtain ⟨ha, hl⟩ := fmtOk_iff.mp hf
    exact ⟨some t, ha, congrArg some hl, List.append_assoc ..⟩

theorem instance_core {l : Str} {n : Nat} (h : wfLabel l = true) (hn : n < usizeLimit) :
    okSeg (lwiS l n) ∧ laiS (lwiS l n) = (l, n) := by
  simp only [wfLabel, Bool.or_eq_true] at h
  rcases h with h | h
  · obtain ⟨hok, hdu, -, hp⟩ := plainLabel_iff.mp h
    have ht := thumbnailType_ne_ing hp
    by_cases h0 : n = 0
    · rw [h0, lwiS, if_pos rfl]; exact ⟨hok, by simp [laiS, ht, splitDU_noDU l hdu]⟩
    · rw [lwiS, if_neg h0, if_neg ht]; exact ⟨okSeg_inst hok _, laiS_plain_inst h hn⟩
  · -- the suffix is lower case already (`hl`), so lower-casing it changes nothing
    obtain ⟨f, hf, hl, rfl⟩ := ingLabel_cases h
    by_cases h0 : n = 0
    · rw [h0, lwiS, if_pos rfl, laiS_ing (n := none) hf (by decide), hl]; exact ⟨okSeg_ing hf, rfl⟩
    · rw [lwiS_ing hf h0, hl, laiS_ing (n := some n) hf hn, hl]; exact ⟨okSeg_ing hf, rfl⟩

end C2pa.C34
