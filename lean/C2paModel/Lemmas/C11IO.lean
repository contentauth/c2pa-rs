import C2paModel.Model.C11
/-
C11 — the fill loop of `container_from_stream` (`fill`) under well-behaved and failing streams.
Model/C35 models the same loop once more, on a stream state with position and seek schedule;
`fill_benign` and `fill_hits_error` are here what `fill_chunk_independent` and `fill_fault_reached`
are there (Props/C35).
-/
namespace C2pa.C11

/-- a script without hard errors and without a premature `Ok(0)` (which `Read` reserves for
end of stream) -/
def Benign (script : List Ev) : Prop := ∀ ev ∈ script, ev ≠ Ev.fail ∧ ev ≠ Ev.chunk 0

theorem take_split {α} (l : List α) (m w : Nat) (h : m ≤ w) :
    l.take w = l.take m ++ (l.drop (l.take m).length).take (w - (l.take m).length) := by
  have hl : (l.take m).length ≤ m := by rw [List.length_take]; omega
  conv => lhs; rw [show w = (l.take m).length + (w - (l.take m).length) by omega, List.take_add]
  congr 1
  rw [List.length_take, ← List.take_eq_take_min]

theorem fill_full {want : Nat} {ev : Ev} {rest : List Ev} {avail got : List UInt8}
    (h : got.length ≥ want) : fill want (ev :: rest) avail got = (some got, ev :: rest) := by
  conv => lhs; unfold fill
  rw [if_pos h]

theorem fill_fail {want : Nat} {rest : List Ev} {avail got : List UInt8}
    (h : ¬ got.length ≥ want) : fill want (Ev.fail :: rest) avail got = (none, rest) := by
  conv => lhs; unfold fill
  rw [if_neg h]

theorem fill_intr {want : Nat} {rest : List Ev} {avail got : List UInt8}
    (h : ¬ got.length ≥ want) :
    fill want (Ev.intr :: rest) avail got = fill want rest avail got := by
  conv => lhs; unfold fill
  rw [if_neg h]

theorem fill_chunk {want k : Nat} {rest : List Ev} {avail got : List UInt8}
    (h : ¬ got.length ≥ want) :
    fill want (Ev.chunk k :: rest) avail got =
      if (avail.take (min k (want - got.length))).isEmpty then (some got, rest)
      else fill want rest (avail.drop (avail.take (min k (want - got.length))).length)
        (got ++ avail.take (min k (want - got.length))) := by
  conv => lhs; unfold fill
  rw [if_neg h]

theorem fill_benign (want : Nat) (script : List Ev) (hb : Benign script) :
    ∀ (avail got : List UInt8),
      (fill want script avail got).1 = some (got ++ avail.take (want - got.length))
        ∧ Benign (fill want script avail got).2 := by
  intro avail got
  have tl {ev : Ev} {rest : List Ev} (h : Benign (ev :: rest)) : Benign rest :=
    fun e he => h e (List.mem_cons_of_mem _ he)
  fun_induction fill want script avail got with
  | case1 avail got => exact ⟨rfl, hb⟩
  | case2 ev rest avail got hfull =>
    exact ⟨by rw [Nat.sub_eq_zero_of_le hfull, List.take_zero, List.append_nil], hb⟩
  | case3 rest avail got hfull => exact absurd rfl (hb Ev.fail List.mem_cons_self).1
  | case4 rest avail got hfull ih => exact ih (tl hb)
  | case5 rest avail got hfull k piece hemp =>
    -- a non-empty request that delivers nothing: the stream is at its end
    have hk : k ≠ 0 := fun h0 => (hb (Ev.chunk 0) (h0 ▸ List.mem_cons_self)).2 rfl
    have hnil : avail = [] := by
      cases avail with
      | nil => rfl
      | cons x xs =>
        obtain ⟨m', hm⟩ : ∃ m', min k (want - got.length) = m' + 1 :=
          Nat.exists_eq_succ_of_ne_zero (by omega)
        simp only [piece, hm] at hemp; cases hemp
    subst hnil
    exact ⟨by rw [List.take_nil, List.append_nil], tl hb⟩
  | case6 rest avail got hfull k piece hemp ih =>
    obtain ⟨h1, h2⟩ := ih (tl hb)
    refine ⟨?_, h2⟩
    have hlen : piece.length ≤ min k (want - got.length) := by
      simp only [piece, List.length_take]; omega
    rw [h1, List.append_assoc, List.length_append,
      show want - (got.length + piece.length) = want - got.length - piece.length by omega,
      ← take_split avail _ (want - got.length) (Nat.min_le_right _ _)]

theorem fill_benign_fst (want : Nat) (script : List Ev) (avail : List UInt8) (hb : Benign script) :
    (fill want script avail []).1 = some (avail.take want) := by
  have := (fill_benign want script hb avail []).1
  simpa using this

/-- bytes the events of a script prefix can deliver at most (`C35.budget` is the same count on
C35's events) -/
def budget : List Ev → Nat
  | [] => 0
  | Ev.chunk k :: r => k + budget r
  | _ :: r => budget r

theorem fill_hits_error (want : Nat) (pre post : List Ev) (hb : Benign pre) :
    ∀ (avail got : List UInt8), got.length + budget pre < want → budget pre < avail.length →
      (fill want (pre ++ Ev.fail :: post) avail got).1 = none := by
  induction pre with
  | nil =>
    intro avail got h1 _
    have h1 : got.length + 0 < want := h1
    rw [List.nil_append, fill_fail (by omega)]
  | cons ev rest ih =>
    intro avail got h1 h2
    have hrest : Benign rest := fun e he => hb e (List.mem_cons_of_mem _ he)
    rw [List.cons_append]
    cases ev with
    | fail => exact absurd rfl (hb Ev.fail (List.mem_cons_self)).1
    | intr =>
      have h1 : got.length + budget rest < want := h1
      rw [fill_intr (by omega)]
      exact ih hrest avail got h1 h2
    | chunk k =>
      have hk : k ≠ 0 := fun h0 => (hb (Ev.chunk 0) (h0 ▸ List.mem_cons_self)).2 rfl
      have h1 : got.length + (k + budget rest) < want := h1
      have h2 : k + budget rest < avail.length := h2
      have hlen : (avail.take k).length = k := by rw [List.length_take]; omega
      rw [fill_chunk (by omega), show min k (want - got.length) = k by omega, hlen,
        if_neg (by rw [List.isEmpty_iff]; exact List.ne_nil_of_length_pos (by omega))]
      exact ih hrest _ _ (by rw [List.length_append, hlen]; omega)
        (by rw [List.length_drop]; omega)

/-- `detectIO` compares the four bytes it read with `mFLaC` by `==`, `detect` by `sliceEq`: one test -/
theorem sliceEq_mFLaC (s : List UInt8) (off : Nat) :
    sliceEq s off mFLaC = ((s.drop off).take 4 == mFLaC) := rfl

theorem detectIO_eq_detectB (pdf : Bool) (script : List Ev) (s buf m : List UInt8)
    (h1 : (fill 16 script s []).1 = some buf)
    (p1 : (fill 4 (fill 16 script s []).2 (s.drop (10 + id3Size buf)) []).1 = some m) :
    detectIO pdf script none s = detectB pdf buf (m == mFLaC) := by
  unfold detectIO
  rw [Option.none_beq_some, h1]
  simp only [Bool.false_eq_true, ↓reduceIte, Option.none_beq_some]
  rw [p1]

theorem detectIO_none_of_fill_none (pdf : Bool) (script : List Ev) (sf : Option Nat) (s : List UInt8)
    (h : (fill 16 script s []).1 = none) : detectIO pdf script sf s = none := by
  unfold detectIO
  rw [h]
  split <;> rfl

end C2pa.C11
