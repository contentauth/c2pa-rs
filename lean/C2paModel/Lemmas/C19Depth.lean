import C2paModel.Lemmas.C19Topo
import C2paModel.Lemmas.C19Run
/-
C19 — the *depth* invariant of `gcrm`, `DepthInv`: `claim_label_path` is a real edge path from the
root, every finished claim was entered on a path so short that its references could be followed
below the limit, every log entry of a successful walk is a missing-manifest event of a reachable
dangling reference. `Call.dfs` threads it and the DFS invariant of `C19Topo` through a run in one
induction; `gcrm_ok_spec` is what an `Ok` walk from the root has established.
-/
namespace C2pa.C19

/-- how claim `u` may be entered when the label path is `p` (innermost first): as the root, or
through an ingredient reference of the innermost claim -/
def Entry (s : Store) (root : Nat) (p : List Nat) (u : Nat) : Prop :=
  match p with
  | [] => u = root
  | y :: _ => Edge s y u

/-- the label path is an edge path starting at the root -/
def PathOK (s : Store) (root : Nat) : List Nat → Prop
  | [] => True
  | y :: r => Entry s root r y ∧ PathOK s root r

theorem reachIn_of_path {s : Store} {root : Nat} :
    ∀ (p : List Nat) (u : Nat), PathOK s root p → Entry s root p u → ReachIn s root p.length u
  | [], u, _, he => by
    have : u = root := he
    subst this
    exact .refl
  | y :: r, u, hp, he => by
    have he' : Edge s y u := he
    exact .step (reachIn_of_path r y hp.2 hp.1) he'

theorem path_reach_head {s : Store} {root : Nat} :
    ∀ (p : List Nat) (y : Nat), PathOK s root (y :: p) → ∀ x ∈ y :: p, Reach s x y
  | [], y, _, x, hx => by
    rcases List.mem_cons.1 hx with rfl | hx
    · exact .refl
    · cases hx
  | y' :: r, y, hp, x, hx => by
    rcases List.mem_cons.1 hx with rfl | hx
    · exact .refl
    · have he : Edge s y' y := hp.1
      exact .step (path_reach_head r y' hp.2 x hx) he

structure DepthInv (s : Store) (root lim : Nat) (st : GSt) : Prop where
  pok : PathOK s root st.path
  linv : ∀ e ∈ st.log, ∃ u v, e = Ev.missing v ∧ Reach s root u ∧ Dangling s u v
  /-- every finished claim was entered on a path so short that each of its references could be
  followed below the limit (the depth test precedes the memo test: it also applies to a
  reference to a claim that was walked before) -/
  einv : ∀ x ∈ st.fin, ∃ k, ReachIn s root k x ∧ ∀ v, Edge s x v → k + 1 < lim

theorem DepthInv.pre {s : Store} {root lim : Nat} {st : GSt} (h : DepthInv s root lim st)
    (u v : Nat) : DepthInv s root lim (gPre st u v) := ⟨h.pok, h.linv, h.einv⟩

theorem DepthInv.skip {s : Store} {root lim : Nat} {st : GSt} (h : DepthInv s root lim st) :
    DepthInv s root lim (gSkip st) := ⟨h.pok, h.linv, h.einv⟩

theorem DepthInv.reach_inner {s : Store} {root lim u : Nat} {p0 : List Nat} {st : GSt}
    (h : DepthInv s root lim st) (hp : st.path = u :: p0) : Reach s root u := by
  have hpok := h.pok
  rw [hp] at hpok
  exact (reachIn_of_path p0 u hpok.2 hpok.1).reach

variable {lim : Nat} {s : Store} {stop : Bool}

theorem DepthInv.push {root u : Nat} {st : GSt} (h : DepthInv s root lim st)
    (hent : Entry s root st.path u) : DepthInv s root lim (gPush st u) :=
  ⟨⟨hent, h.pok⟩, h.linv, h.einv⟩

theorem DepthInv.init (s : Store) (root lim : Nat) : DepthInv s root lim {} :=
  ⟨trivial, nofun, nofun⟩

theorem edge_or_dangling {u v : Nat} {c : Claim} {i : Ing} (hs : s[u]? = some c) (hi : i ∈ c.ings)
    (ht : i.target = some v) : (v < s.length → Edge s u v) ∧ (s.length ≤ v → Dangling s u v) :=
  ⟨fun hv => ⟨c, hs, i, hi, ht, hv⟩, fun hv => ⟨c, hs, i, hi, ht, hv⟩⟩

/-- What a call on `u` (or, with `Q`, the loop of `u`) establishes: after `Ok` the DFS invariant,
the depth invariant and `Q`; each failing outcome has a graph witness. -/
structure CallPost (s : Store) (root lim : Nat) (st : GSt) (Q : GSt → Prop) (r : Out × GSt) :
    Prop where
  ok : r.1 = .ok → DfsKept s st r.2 ∧ DepthInv s root lim r.2 ∧ Q r.2
  deep : r.1 = .tooDeep → ∃ v k, ReachIn s root k v ∧ lim ≤ k
  cyc : r.1 = .cyclic → ∃ v, Reach s root v ∧ OnCycle s v

/-- The witnesses of a failing inner run are those of the run around it. -/
theorem CallPost.err {s : Store} {root lim : Nat} {st a : GSt} {Q R : GSt → Prop} {r : Out × GSt}
    (h : CallPost s root lim a R r) (hne : r.1 ≠ .ok) : CallPost s root lim st Q r :=
  ⟨fun h => absurd h hne, h.deep, h.cyc⟩

/-- what the loop of `u` has done with the references in `ings` when it completes in `st'`
(entered with `d` claims on the path) -/
def Followed (s : Store) (lim d : Nat) (ings : List Ing) (st' : GSt) : Prop :=
  ∀ i ∈ ings, ∀ v, i.target = some v →
    (v < s.length → v ∈ st'.fin ∧ d < lim) ∧ (s.length ≤ v → Ev.missing v ∈ st'.log)

theorem Call.dfs {root n u st o st'} (h : Call lim s stop n u st o st') (hi : DfsInv s st)
    (hd : DepthInv s root lim st) (hent : Entry s root st.path u) (hp : u ∉ st.path) :
    CallPost s root lim st (u ∈ ·.fin) (o, st') := by
  induction h using Call.rec (motive_2 := fun _ u ings st o st' _ =>
    (∀ i ∈ ings, ∀ v, i.target = some v →
      (v < s.length → Edge s u v) ∧ (s.length ≤ v → Dangling s u v)) →
    DfsInv s st → DepthInv s root lim st → ∀ p0, st.path = u :: p0 →
      CallPost s root lim st (Followed s lim st.path.length ings) (o, st')) with
  | dry | noClaim | missStop => exact ⟨nofun, nofun, nofun⟩
  | @deep _ u st hl =>
    exact ⟨nofun, fun _ => ⟨u, _, reachIn_of_path st.path u hd.pok hent, hl⟩, nofun⟩
  | @memo _ u _ _ hm => exact ⟨fun _ => ⟨.refl hi, hd, ((hi.mem_map u).1 hm).resolve_left hp⟩, nofun, nofun⟩
  | nil _ hi hd => exact ⟨fun _ => ⟨.refl hi, hd, nofun⟩, nofun, nofun⟩
  | @done _ u st c _ hl hm hs hloop ih =>
    have hin := reachIn_of_path st.path u hd.pok hent
    obtain ⟨l1, l2, l3⟩ := (ih (fun i hi v ht => edge_or_dangling hs hi ht) (hi.push u hm)
      (hd.push hent) st.path rfl).ok rfl
    have hpath := hloop.path_eq rfl
    refine ⟨fun _ => ⟨l1.pop hp hpath ?_ ?_, ⟨?_, l2.linv,
      List.forall_mem_cons.2 ⟨⟨_, hin, ?_⟩, l2.einv⟩⟩, List.mem_cons_self ..⟩, nofun, nofun⟩
    · rintro v ⟨c', hc', i, hi', ht, hv⟩; cases hs.symm.trans hc'; exact ((l3 i hi' v ht).1 hv).1
    · rintro v ⟨c', hc', i, hi', ht, hv⟩; cases hs.symm.trans hc'; exact (l3 i hi' v ht).2 hv
    · show PathOK s root (List.tail _)
      rw [hpath]; exact hd.pok
    -- every reference of `u` to an existing claim was followed with `u` on the path
    · rintro v ⟨c', hc', i, hi', ht, hv⟩; cases hs.symm.trans hc'
      exact ((l3 i hi' v ht).1 hv).2
  | @fail _ u st c _ _ hl hm hs _ hne ih =>
    exact (ih (fun i hi v ht => edge_or_dangling hs hi ht) (hi.push u hm) (hd.push hent)
      st.path rfl).err hne
  | skip ht _ ih href hi hd p0 hp =>
    have l := ih (List.forall_mem_cons.1 href).2 hi.skip.inv hd.skip p0 hp
    exact ⟨fun ho => let ⟨l1, l2, l3⟩ := l.ok ho
      ⟨hi.skip.trans l1, l2, List.forall_mem_cons.2 ⟨fun v hv => (nomatch ht.symm.trans hv), l3⟩⟩,
      l.deep, l.cyc⟩
  | @cyc _ u _ _ _ v ht hv hcy href _ hd p0 hp =>
    -- `v` is on the path, so it reaches the innermost claim `u`, and `u → v` closes the cycle
    refine ⟨nofun, nofun, fun _ => ?_⟩
    have hpok := hd.pok
    rw [hp] at hpok hcy
    exact ⟨u, hd.reach_inner hp, v, ((List.forall_mem_cons.1 href).1 v ht).1 hv,
      path_reach_head p0 u hpok v hcy⟩
  | @next _ u _ _ st v _ _ _ ht hv hc hcall _ ihc ihl href hi hd p0 hp =>
    -- the call on `v` has finished `v` and restored the path; the rest of the loop starts from its
    -- invariants and keeps `v` finished; that the call was entered at all bounds the depth of `u`
    have hent : Entry s root (gPre st u v).path v := by
      rw [show (gPre st u v).path = u :: p0 from hp]
      exact ((List.forall_mem_cons.1 href).1 v ht).1 hv
    obtain ⟨r1, r2, r3⟩ := (ihc (hi.pre u v).inv (hd.pre u v) hent hc).ok rfl
    have hpath := hcall.path_eq
    have l := ihl (List.forall_mem_cons.1 href).2 r1.inv r2 p0 (hpath.trans hp)
    refine ⟨fun ho => ?_, l.deep, l.cyc⟩
    obtain ⟨l1, l2, l3⟩ := l.ok ho
    refine ⟨((hi.pre u v).trans r1).trans l1, l2, List.forall_mem_cons.2 ⟨fun v' hv' => ?_,
      hpath ▸ l3⟩⟩
    cases ht.symm.trans hv'
    exact ⟨fun _ => ⟨l1.fing _ r3, hcall.entry_depth⟩, fun hge => absurd hv (Nat.not_lt.2 hge)⟩
  | @abort _ u _ _ st v _ _ ht hv hc _ hne ihc href hi hd p0 hp =>
    have hent : Entry s root (gPre st u v).path v := by
      rw [show (gPre st u v).path = u :: p0 from hp]
      exact ((List.forall_mem_cons.1 href).1 v ht).1 hv
    exact (ihc (hi.pre u v).inv (hd.pre u v) hent hc).err hne
  | @miss _ u _ _ _ v _ _ ht hv _ _ ih href hi hd p0 hp =>
    have l := ih (List.forall_mem_cons.1 href).2 (hi.miss v).inv ⟨hd.pok,
      List.forall_mem_cons.2 ⟨⟨u, v, rfl, hd.reach_inner hp,
        ((List.forall_mem_cons.1 href).1 v ht).2 (Nat.le_of_not_lt hv)⟩, hd.linv⟩, hd.einv⟩ p0 hp
    refine ⟨fun ho => ?_, l.deep, l.cyc⟩
    obtain ⟨l1, l2, l3⟩ := l.ok ho
    refine ⟨(hi.miss v).trans l1, l2, List.forall_mem_cons.2 ⟨fun v' hv' => ?_, l3⟩⟩
    cases ht.symm.trans hv'
    exact ⟨fun hlt => absurd hlt hv, fun _ => l1.logg _ (List.mem_cons_self ..)⟩

theorem gcrm_dfs_root (lim : Nat) (s : Store) (stop : Bool) (fuel root : Nat) :
    CallPost s root lim {} (root ∈ ·.fin) (gcrm lim s stop fuel root {}) :=
  (gcrm_run lim s stop fuel root {}).dfs (DfsInv.init s) (DepthInv.init s root lim) rfl nofun

theorem gcrm_ok_spec (lim : Nat) (s : Store) (stop : Bool) (fuel root : Nat)
    (hok : (gcrm lim s stop fuel root {}).1 = .ok) :
    DfsInv s (gcrm lim s stop fuel root {}).2 ∧
      DepthInv s root lim (gcrm lim s stop fuel root {}).2 ∧
      ∀ v, Reach s root v → v ∈ (gcrm lim s stop fuel root {}).2.fin :=
  have ⟨h, hd, hroot⟩ := (gcrm_dfs_root lim s stop fuel root).ok hok
  ⟨h.inv, hd, fun _ hv => h.inv.topo.closed hroot hv⟩

end C2pa.C19
