import C2paModel.Lemmas.C19Basic
/-
C19 — `get_hash_binding_manifest_impl`: what `hbScan` returns, soundness of a found label, the fuel
bounds by claims not yet visited and by remaining depth, more fuel changes nothing.
-/
namespace C2pa.C19

theorem hb_zero (lim : Nat) (s : Store) (u : Nat) (vis : List Nat) :
    hb lim s 0 u vis = (.outOfFuel, vis) := rfl

theorem hbScan_recurse (s : Store) (ings : List Ing) (v : Nat) (h : hbScan s ings = .recurse v) :
    ∃ p, s[v]? = some p ∧ p.update = true ∧ ∃ i ∈ ings, i.parent = true ∧ i.target = some v := by
  fun_induction hbScan s ings with
  | case1 => cases h
  | case2 i _ hp w ht p hs hu =>
    cases h
    exact ⟨p, hs, hu, i, List.mem_cons_self .., hp, ht⟩
  | case3 => cases h
  | case4 _ _ _ _ _ _ _ _ _ ih | case5 _ _ _ _ _ _ ih | case6 _ _ _ _ ih | case7 _ _ _ ih =>
    obtain ⟨p, h1, h2, j, hj, h3⟩ := ih h
    exact ⟨p, h1, h2, j, List.mem_cons_of_mem _ hj, h3⟩

theorem hbScan_found (s : Store) (ings : List Ing) (v : Nat) (h : hbScan s ings = .found v) :
    ∃ p, s[v]? = some p ∧ p.update = false ∧ p.hasHash = true := by
  fun_induction hbScan s ings with
  | case1 | case2 => cases h
  | case3 _ _ _ w _ p hs hu hh =>
    cases h
    exact ⟨p, hs, by simpa using hu, hh⟩
  | case4 _ _ _ _ _ _ _ _ _ ih | case5 _ _ _ _ _ _ ih | case6 _ _ _ _ ih | case7 _ _ _ ih => exact ih h

theorem hb_found_sound (lim : Nat) (s : Store) :
    ∀ (n u : Nat) (vis : List Nat) (l : Nat), (hb lim s n u vis).1 = .found l →
      ∃ c, s[l]? = some c ∧ c.update = false ∧ c.hasHash = true := by
  intro n u vis l h
  fun_induction hb lim s n u vis with
  | case1 | case2 | case3 | case4 | case8 => cases h
  | case5 _ _ _ _ _ _ c hs hc =>
    cases h
    exact ⟨c, hs, by simpa using hc⟩
  | case6 _ _ _ _ _ _ _ _ _ _ _ ih => exact ih h
  | case7 _ _ _ _ _ _ c _ _ v hsc =>
    cases h
    exact hbScan_found s c.ings _ hsc

/-- Fuel `|V| - |visited| + 1` suffices; the visited list stays duplicate-free. -/
theorem hb_fuel (lim : Nat) (s : Store) :
    ∀ (n u : Nat) (vis : List Nat), vis.Nodup → (∀ x ∈ vis, x < s.length) → u < s.length →
      s.length + 1 ≤ vis.length + n →
      (hb lim s n u vis).1 ≠ .outOfFuel ∧ (hb lim s n u vis).2.Nodup ∧
        (∀ x ∈ (hb lim s n u vis).2, x < s.length) := by
  intro n u vis hnd hlt hu hn
  fun_induction hb lim s n u vis with
  | case1 =>
    have := nodup_length_le s.length _ hnd hlt
    omega
  | case2 | case3 => exact ⟨nofun, hnd, hlt⟩
  | case4 _ u vis _ hv | case5 _ u vis _ hv | case7 _ u vis _ hv | case8 _ u vis _ hv =>
    exact ⟨nofun, List.nodup_cons.2 ⟨mt List.contains_iff_mem.2 hv, hnd⟩,
      List.forall_mem_cons.2 ⟨hu, hlt⟩⟩
  | case6 _ u vis _ hv _ c _ _ v hsc ih =>
    obtain ⟨p, hp, _⟩ := hbScan_recurse s c.ings v hsc
    exact ih (List.nodup_cons.2 ⟨mt List.contains_iff_mem.2 hv, hnd⟩)
      (List.forall_mem_cons.2 ⟨hu, hlt⟩) (List.getElem?_eq_some_iff.1 hp).1
      (by rw [List.length_cons]; omega)

/-- Fuel `lim + 1 - |visited|` suffices: the recursion is never deeper than the limit. -/
theorem hb_fuel_depth (lim : Nat) (s : Store) :
    ∀ (n u : Nat) (vis : List Nat), vis.length ≤ lim → lim + 1 ≤ vis.length + n →
      (hb lim s n u vis).1 ≠ .outOfFuel := by
  intro n u vis h1 h2
  fun_induction hb lim s n u vis with
  | case1 => omega
  | case2 | case3 | case4 | case5 | case7 | case8 => exact nofun
  | case6 _ _ _ hd _ _ _ _ _ _ _ ih =>
    exact ih (by rw [List.length_cons]; omega) (by rw [List.length_cons]; omega)

theorem hb_fuel_succ (lim : Nat) (s : Store) :
    ∀ (n u : Nat) (vis : List Nat), (hb lim s n u vis).1 ≠ .outOfFuel →
      hb lim s (n + 1) u vis = hb lim s n u vis := by
  intro n u vis h
  fun_induction hb lim s n u vis with
  | case1 => exact absurd rfl h
  | case2 _ _ _ hd => rw [hb, if_pos hd]
  | case3 _ _ _ hd hv => rw [hb, if_neg hd, if_pos hv]
  | case4 _ _ _ hd hv _ hs => rw [hb, if_neg hd, if_neg hv]; simp only [hs]; rfl
  | case5 _ _ _ hd hv _ c hs hc => rw [hb, if_neg hd, if_neg hv]; simp only [hs, hc, if_true]; rfl
  | case6 _ _ _ hd hv _ c hs hc v hsc ih =>
    rw [hb, if_neg hd, if_neg hv]
    simp only [hs, hc, hsc]
    exact ih h
  | case7 _ _ _ hd hv _ c hs hc v hsc | case8 _ _ _ hd hv _ c hs hc hsc =>
    rw [hb, if_neg hd, if_neg hv]
    simp only [hs, hc, hsc, Bool.false_eq_true, if_false]
    rfl

theorem hb_fuel_le (lim : Nat) (s : Store) (n u : Nat) (vis : List Nat)
    (h : (hb lim s n u vis).1 ≠ .outOfFuel) :
    ∀ k, hb lim s (n + k) u vis = hb lim s n u vis :=
  stable_of_succ (hb lim s · u vis) (·.1 = .outOfFuel) (fun n => hb_fuel_succ lim s n u vis) n h

end C2pa.C19
