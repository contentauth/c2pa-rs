import C2paModel.Model.C40
/-
C40 — `evalF` on the two expansions of a body: `expand` (the macro's desugaring) is what `evalF`
runs, `erase` preserves the runs of site-free programs when callee pairs agree, and so two bodies
whose expansions differ in `_async` calls only run alike (`eq_of_erase_expand`).
-/
namespace C2pa.C40

/-- Primitive callee pairs (no modelled body) agree as functions of the state. -/
def LeafAgree {σ ε : Type} (env : Nat → Option Prog) (I : Interp σ ε) : Prop :=
  ∀ n, env n = none → I.sync n = I.async n

variable {σ ε : Type} {env : Nat → Option Prog} {I : Interp σ ε}

variable (env I) in
/-- `p` in flavour `fl` and `q` in flavour `fl'` give the same result with every fuel up to `F`. The
bound is there because a loop runs its body with every smaller fuel (`eq_loop`) and because modelled
callees are known to agree below the fuel at hand only (`CalleesAgree`). -/
def EqUpTo (F : Nat) (fl : Flavour) (p : Prog) (fl' : Flavour) (q : Prog) : Prop :=
  ∀ fuel, fuel ≤ F → ∀ s, evalF env I fuel fl p s = evalF env I fuel fl' q s

theorem EqUpTo.refl {F fl p} : EqUpTo env I F fl p fl p := fun _ _ _ => rfl
theorem EqUpTo.symm {F fl fl' p q} (h : EqUpTo env I F fl p fl' q) : EqUpTo env I F fl' q fl p :=
  fun fuel hf s => (h fuel hf s).symm
theorem EqUpTo.trans {F fl fl' fl'' p q r} (h1 : EqUpTo env I F fl p fl' q) (h2 : EqUpTo env I F fl' q fl'' r) :
    EqUpTo env I F fl p fl'' r := fun fuel hf s => (h1 fuel hf s).trans (h2 fuel hf s)

theorem eq_seq {F fl fl' p p' q q'} (hp : EqUpTo env I F fl p fl' p') (hq : EqUpTo env I F fl q fl' q') :
    EqUpTo env I F fl (.seq p q) fl' (.seq p' q') := by
  intro fuel hf s
  rw [evalF, evalF, hp fuel hf s]
  cases h : evalF env I fuel fl' p' s with
  | none => rfl
  | some o => cases o with
    | next s' => simp [hq fuel hf s']
    | ret s' => rfl
    | err e => rfl

theorem eq_ite {F fl fl' c p p' q q'} (hp : EqUpTo env I F fl p fl' p') (hq : EqUpTo env I F fl q fl' q') :
    EqUpTo env I F fl (.ite c p q) fl' (.ite c p' q') := by
  intro fuel hf s
  rw [evalF, evalF, hp fuel hf s, hq fuel hf s]

theorem eq_loop {F fl fl' c p p'} (hp : EqUpTo env I F fl p fl' p') :
    EqUpTo env I F fl (.loop c p) fl' (.loop c p') := by
  intro fuel
  induction fuel with
  | zero => intro _ s; rw [evalF, evalF]
  | succ n ih =>
    intro hf s
    rw [evalF, evalF]
    by_cases hc : I.cond c s = true
    · simp only [hc, if_true]
      rw [hp (n + 1) hf s]
      cases h : evalF env I (n + 1) fl' p' s with
      | none => rfl
      | some o => cases o with
        | next s' => simp [ih (by omega) s']
        | ret s' => rfl
        | err e => rfl
    · simp [hc]

theorem eq_site_sync {F a b} : EqUpTo env I F .sync (.site a b) .sync a := by
  intro fuel _ s; rw [evalF]
theorem eq_site_async {F a b} : EqUpTo env I F .async (.site a b) .async b := by
  intro fuel _ s; rw [evalF]

/-- The macro's desugaring is what `evalF` runs. -/
theorem eq_expand (F : Nat) (fl : Flavour) : ∀ p, EqUpTo env I F fl p fl (expand fl p) := by
  intro p
  induction p with
  | skip | prim | leaf | leafA | ret => exact .refl
  | seq p q ihp ihq => cases fl <;> exact eq_seq ihp ihq
  | ite c p q ihp ihq => cases fl <;> exact eq_ite ihp ihq
  | loop c p ih => cases fl <;> exact eq_loop ih
  | site a b iha ihb =>
    cases fl with
    | sync => exact eq_site_sync.trans iha
    | async => exact eq_site_async.trans ihb

theorem noSite_expand (fl : Flavour) : ∀ p, noSite (expand fl p) = true := by
  intro p
  induction p with
  | skip | prim | leaf | leafA | ret => cases fl <;> rfl
  | seq p q ihp ihq => cases fl <;> simp only [expand, noSite, ihp, ihq, Bool.and_self]
  | ite c p q ihp ihq => cases fl <;> simp only [expand, noSite, ihp, ihq, Bool.and_self]
  | loop c p ih => cases fl <;> simp only [expand, noSite, ih]
  | site a b iha ihb => cases fl <;> simp only [expand, iha, ihb]

variable (env I) in
/-- callee pairs agree below `F`: primitive pairs by hypothesis, modelled bodies by evaluation -/
def CalleesAgree (F : Nat) : Prop :=
  LeafAgree env I ∧
  (∀ f, f < F → ∀ n body, env n = some body → ∀ s,
      evalF env I f .sync body s = evalF env I f .async body s)

/-- Replacing `n_async(..).await` by `n(..)` does not change a run when callee pairs agree; on a
site-free program the flavours may differ as well, since the other steps do not look at the flavour. -/
theorem eq_erase (F : Nat) (fl fl' : Flavour) (hc : CalleesAgree env I F) :
    ∀ p, noSite p = true → EqUpTo env I F fl (erase p) fl' p := by
  intro p
  induction p with
  | skip | prim | leaf | ret => intro _ fuel _ s; simp only [erase]; rw [evalF, evalF]
  | leafA n =>
    intro _ fuel hf s
    simp only [erase]
    rw [evalF, evalF]
    cases hn : env n with
    | none => simp [hc.1 n hn]
    | some body =>
      cases fuel with
      | zero => rfl
      | succ f => simp only []; rw [hc.2 f (by omega) n body hn s]
  | seq p q ihp ihq =>
    intro h; simp only [noSite, Bool.and_eq_true] at h; exact eq_seq (ihp h.1) (ihq h.2)
  | ite c p q ihp ihq =>
    intro h; simp only [noSite, Bool.and_eq_true] at h; exact eq_ite (ihp h.1) (ihq h.2)
  | loop c p ih => intro h; simp only [noSite] at h; exact eq_loop (ih h)
  | site a b _ _ => intro h; simp [noSite] at h

theorem erase_erase : ∀ p, erase (erase p) = erase p := by
  intro p
  induction p <;> simp only [erase, *]

/-- What `twins` checks site by site holds of the whole body: its two expansions differ in `_async`
calls only. (`erase` on both sides: a body may call `n_async` outside every site.) -/
theorem twins_erase_expand : ∀ p, twins p = true → erase (expand .async p) = erase (expand .sync p) := by
  intro p
  induction p with
  | skip | prim | leaf | leafA | ret => intro _; rfl
  | seq p q ihp ihq | ite c p q ihp ihq =>
    intro h; simp only [twins, Bool.and_eq_true] at h; simp only [expand, erase, ihp h.1, ihq h.2]
  | loop c p ih => intro h; simp only [expand, erase, ih h]
  | site a b _ _ => intro h; simp only [twins, beq_iff_eq] at h; simp only [expand, ← h, erase_erase]

theorem eq_of_erase_expand {F fl fl' p q} (hc : CalleesAgree env I F)
    (h : erase (expand fl p) = erase (expand fl' q)) : EqUpTo env I F fl p fl' q :=
  have hp : EqUpTo env I F fl p fl (erase (expand fl p)) :=
    (eq_expand F fl p).trans (eq_erase F fl fl hc _ (noSite_expand fl p)).symm
  have hq : EqUpTo env I F fl (erase (expand fl' q)) fl' q :=
    (eq_erase F fl fl' hc _ (noSite_expand fl' q)).trans (eq_expand F fl' q).symm
  hp.trans (h ▸ hq)

end C2pa.C40
