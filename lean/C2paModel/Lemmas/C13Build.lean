import C2paModel.Lemmas.C13Spec
/-
C13 — the builder `buildPieces` (end check, inclusion loop, exclusion loop): when it accepts, what
its pieces are, and that `BadParam` is its only error; `front` is the part of `hashModel` up to
and including the builder (`front_cases`: it rejects, or hands the accepted pieces on).
-/
namespace C2pa.C13

theorem maxEnd_le_iff : ∀ (hr : List HashRange) (m n : Nat),
    (∃ e, maxEnd hr m = some e ∧ e ≤ n) ↔
      m ≤ n ∧ ∀ x ∈ hr, x.start + x.length ≤ n ∧ x.start + x.length ≤ u64Max
  | [], m, n => by simp [maxEnd]
  | r :: rs, m, n => by
    unfold maxEnd
    cases hc : checkedAdd r.start r.length with
    | none => have := checkedAdd_none hc; simp; omega
    | some e1 =>
      obtain ⟨rfl, hb⟩ := checkedAdd_some hc
      simp only [maxEnd_le_iff rs, List.forall_mem_cons, Nat.max_le]
      exact ⟨fun ⟨⟨a, b⟩, c⟩ => ⟨a, ⟨b, hb⟩, c⟩, fun ⟨a, ⟨b, _⟩, c⟩ => ⟨⟨a, b⟩, c⟩⟩

theorem maxEnd_none : ∀ (hr : List HashRange) (m : Nat), maxEnd hr m = none →
    ∃ x ∈ hr, x.start + x.length > u64Max := fun hr m h =>
  Classical.byContradiction fun hne => by
    have hall : ∀ x ∈ hr, x.start + x.length ≤ u64Max := fun x hx =>
      Nat.le_of_not_lt fun hlt => hne ⟨x, hx, hlt⟩
    obtain ⟨e, he, _⟩ := (maxEnd_le_iff hr m (max m u64Max)).2 ⟨Nat.le_max_left .., fun x hx =>
      ⟨Nat.le_trans (hall x hx) (Nat.le_max_right ..), hall x hx⟩⟩
    rw [h] at he
    cases he

/-- what one iteration of the inclusion loop pushes: `inclLoop` in closed form is
`flatMap entryPieces` (`inclLoop_ok_eq`) -/
def entryPieces (x : HashRange) : List Piece :=
  if x.length = 0 then []
  else (match x.off with | some o => [⟨o, o, true⟩] | none => []) ++
    [⟨x.start, x.start + x.length - 1, false⟩]

theorem inclLoop_ok_eq {l : List HashRange} : ∀ {ps : List Piece}, inclLoop l = .ok ps →
    ps = l.flatMap entryPieces := by
  fun_induction inclLoop l with
  | case1 => intro ps h; cases h; rfl
  | case2 x xs hl ih => intro ps h; rw [List.flatMap_cons, entryPieces, if_pos hl]; exact ih h
  | case3 => intro ps h; cases h
  | case4 => intro ps h; cases h
  | case5 => intro ps h; cases h
  | case6 x xs hl e1 hc hz qs hq ih =>
    intro ps h; cases h
    rw [List.flatMap_cons, entryPieces, if_neg hl, ← ih hq, ← (checkedAdd_some hc).1]
    exact (List.append_assoc _ [_] _).symm

theorem overflow_cons {P : Prop} {a : HashRange} {xs : List HashRange}
    (h : P ∧ ∃ x ∈ xs, u64Max < x.start + x.length) :
    P ∧ ∃ x ∈ a :: xs, u64Max < x.start + x.length :=
  h.imp_right (Exists.imp fun _ hy => ⟨List.mem_cons_of_mem _ hy.1, hy.2⟩)

/-- The only error of the inclusion loop is `BadParam`, and then some entry overflows `u64`. (The
unchecked `- 1` is a case that cannot occur: it is never reached with 0, the entry is not empty.) -/
theorem inclLoop_error_inv {l : List HashRange} : ∀ {o : Stop}, inclLoop l = .error o →
    o = .err .badparam [] ∧ ∃ x ∈ l, u64Max < x.start + x.length := by
  fun_induction inclLoop l with
  | case1 => intro o h; cases h
  | case2 x xs hl ih => exact fun h => overflow_cons (ih h)
  | case3 x xs hl hc =>
    intro o h; cases h
    exact ⟨rfl, x, List.mem_cons_self .., checkedAdd_none hc⟩
  | case4 x xs hl hc =>
    have := (checkedAdd_some hc).1
    omega
  | case5 x xs hl e1 hc hz o' ho ih => intro o h; cases h; exact overflow_cons (ih ho)
  | case6 => intro o h; cases h

theorem entryPieces_bytes (data : List UInt8) (x : HashRange) :
    (entryPieces x).flatMap (pieceBytes data) = entryBytes data x := by
  unfold entryPieces entryBytes
  split
  · rfl
  · have e : x.start + x.length - 1 + 1 - x.start = x.length := by omega
    cases x.off <;> simp [pieceBytes, e]

theorem entryPieces_ok (data : List UInt8) (x : HashRange) (hx : x.start + x.length ≤ data.length)
    (hn : data.length ≤ u64Max) : ∀ p ∈ entryPieces x, PieceOK data p := by
  intro p hp
  unfold entryPieces at hp
  split at hp
  · cases hp
  · rcases List.mem_append.1 hp with hp | hp
    · cases ho : x.off with
      | none => rw [ho] at hp; cases hp
      | some o =>
        rw [ho] at hp
        cases List.mem_singleton.1 hp
        exact PieceOK.marker data o
    · cases List.mem_singleton.1 hp
      exact PieceOK.data (by omega) (by omega) hn

theorem inclLoop_spec (data : List UInt8) {l : List HashRange} {ps : List Piece}
    (h : inclLoop l = .ok ps) : ps.flatMap (pieceBytes data) = l.flatMap (entryBytes data) := by
  rw [inclLoop_ok_eq h, List.flatMap_assoc]
  exact congrArg (List.flatMap · l) (funext (entryPieces_bytes data))

theorem inclLoop_pieces (data : List UInt8) {l : List HashRange} {ps : List Piece}
    (h : inclLoop l = .ok ps) (hall : ∀ x ∈ l, x.start + x.length ≤ data.length)
    (hn : data.length ≤ u64Max) : ∀ p ∈ ps, PieceOK data p := by
  rw [inclLoop_ok_eq h]
  intro p hp
  obtain ⟨x, hx, hpx⟩ := List.mem_flatMap.1 hp
  exact entryPieces_ok data x (hall x hx) hn p hpx

theorem inclLoop_ok {l : List HashRange} (hall : ∀ x ∈ l, x.start + x.length ≤ u64Max) :
    ∃ ps, inclLoop l = .ok ps := by
  cases h : inclLoop l with
  | ok ps => exact ⟨ps, rfl⟩
  | error o =>
    obtain ⟨_, x, hx, hlt⟩ := inclLoop_error_inv h
    have := hall x hx
    omega

/-- The only error of the exclusion loop is `BadParam`, and then some entry overflows `u64`. (Its
`checked_sub(1)` never meets 0: the entry is not empty.) -/
theorem exclLoop_error_inv {e : Err} : ∀ (l : List HashRange) (rs : List (Nat × Nat)) (ms : List Nat),
    exclLoop l rs ms = .error e → e = .badparam ∧ ∃ x ∈ l, u64Max < x.start + x.length := by
  intro l rs ms
  fun_induction exclLoop l rs ms with
  | case1 => intro h; cases h
  | case2 a hr rs ms o ho ih => exact fun h => overflow_cons (ih h)
  | case3 a hr rs ms ho hl ih => exact fun h => overflow_cons (ih h)
  | case4 a hr rs ms ho hl hc =>
    intro h; cases h
    exact ⟨rfl, a, List.mem_cons_self .., checkedAdd_none hc⟩
  | case5 a hr rs ms ho hl hc =>
    have := (checkedAdd_some hc).1
    omega
  | case6 a hr rs ms ho hl e1 hc hz ih => exact fun h => overflow_cons (ih h)

theorem exclLoop_ok (l : List HashRange) (rs : List (Nat × Nat)) (ms : List Nat)
    (hall : ∀ x ∈ l, x.start + x.length ≤ u64Max) : ∃ r, exclLoop l rs ms = .ok r := by
  cases h : exclLoop l rs ms with
  | ok r => exact ⟨r, rfl⟩
  | error e =>
    obtain ⟨_, x, hx, hlt⟩ := exclLoop_error_inv l rs ms h
    have := hall x hx
    omega

theorem buildPieces_whole {n : Nat} {hr : Option (List HashRange)} {isExcl : Bool}
    (hnone : hr = none ∨ hr = some []) : buildPieces n hr isExcl = .ok [⟨0, n - 1, false⟩] := by
  rcases hnone with rfl | rfl <;> rfl

theorem buildPieces_cons_ok {n : Nat} {a : HashRange} {t : List HashRange} {isExcl : Bool}
    {ps : List Piece} (h : buildPieces n (some (a :: t)) isExcl = .ok ps) :
    (∀ x ∈ a :: t, x.start + x.length ≤ n) ∧
    match isExcl with
    | true => ∃ rs ms, exclLoop (stableSort HashRange.start (a :: t)) [(0, n - 1)] [] = .ok (rs, ms) ∧
        ps = exclPieces (n - 1) rs ms
    | false => inclLoop (stableSort HashRange.start (a :: t)) = .ok ps := by
  unfold buildPieces at h
  dsimp only at h
  split at h
  · cases h
  · rename_i e hm
    split at h
    · cases h
    · refine ⟨fun x hx => ?_, ?_⟩
      · exact (((maxEnd_le_iff _ 0 n).1 ⟨e, hm, Nat.le_of_not_lt ‹_›⟩).2 x
          ((mem_stableSort _ _ _).2 hx)).1
      · cases isExcl with
        | false => exact h
        | true =>
          rw [if_pos rfl] at h
          split at h
          · cases h
          · cases h; exact ⟨_, _, ‹_›, rfl⟩

theorem buildPieces_error {n : Nat} {hr : Option (List HashRange)} {isExcl : Bool} {s : Stop}
    (h : buildPieces n hr isExcl = .error s) : s = .err .badparam [] := by
  unfold buildPieces at h
  split at h
  · dsimp only at h
    split at h
    · cases h; rfl
    · split at h
      · cases h; rfl
      · split at h
        · split at h
          · rename_i he
            cases h; rw [(exclLoop_error_inv _ _ _ he).1]
          · cases h
        · exact (inclLoop_error_inv h).1
  · cases h

theorem buildPieces_ok_within {n : Nat} {l : List HashRange} {isExcl : Bool} {ps : List Piece}
    (h : buildPieces n (some l) isExcl = .ok ps) : ∀ x ∈ l, x.start + x.length ≤ n := by
  cases l with
  | nil => intro x hx; cases hx
  | cons a t => exact (buildPieces_cons_ok h).1

theorem buildPieces_of_within {n : Nat} (l : List HashRange) (isExcl : Bool) (hn : n ≤ u64Max)
    (hall : ∀ x ∈ l, x.start + x.length ≤ n) : ∃ ps, buildPieces n (some l) isExcl = .ok ps := by
  unfold buildPieces
  cases l with
  | nil => exact ⟨_, rfl⟩
  | cons a t =>
    have hall' : ∀ x ∈ stableSort HashRange.start (a :: t), x.start + x.length ≤ u64Max :=
      fun x hx => Nat.le_trans (hall x ((mem_stableSort _ _ _).1 hx)) hn
    obtain ⟨e, he, hle⟩ := (maxEnd_le_iff (stableSort HashRange.start (a :: t)) 0 n).2
      ⟨Nat.zero_le _, fun x hx => ⟨hall x ((mem_stableSort _ _ _).1 hx), hall' x hx⟩⟩
    dsimp only
    rw [he]
    dsimp only
    rw [if_neg (by omega)]
    cases isExcl with
    | true =>
      obtain ⟨r, hr⟩ := exclLoop_ok (stableSort HashRange.start (a :: t)) [(0, n - 1)] [] hall'
      rw [if_pos rfl, hr]
      exact ⟨_, rfl⟩
    | false => exact inclLoop_ok hall'

theorem buildPieces_excl {data : List UInt8} {hr : List HashRange} {ps : List Piece} (hne : hr ≠ [])
    (h1 : 1 ≤ data.length) (h : buildPieces data.length (some hr) true = .ok ps) :
    ps.flatMap (pieceBytes data) = exclSpec data hr ∧ WF data.length 0 ps := by
  cases hr with
  | nil => exact absurd rfl hne
  | cons a t =>
    obtain ⟨rs, ms, he, rfl⟩ := (buildPieces_cons_ok h).2
    exact exclPieces_spec data (a :: t) _ (stableSort_perm _ _) h1 rs ms he

theorem buildPieces_pieceOK {data : List UInt8} {hr : Option (List HashRange)} {isExcl : Bool}
    {ps : List Piece} (h1 : 1 ≤ data.length) (hn : data.length ≤ u64Max)
    (h : buildPieces data.length hr isExcl = .ok ps) : ∀ p ∈ ps, PieceOK data p := by
  have hdefault : ∀ p ∈ [(⟨0, data.length - 1, false⟩ : Piece)], PieceOK data p := by
    intro p hp
    cases List.mem_singleton.1 hp
    exact PieceOK.data (Nat.zero_le _) (by omega) hn
  match hr, isExcl, h with
  | none, _, h => cases h; exact hdefault
  | some [], _, h => cases h; exact hdefault
  | some (a :: t), true, h =>
    exact WF_pieceOK data hn _ 0 (buildPieces_excl (List.cons_ne_nil _ _) h1 h).2
  | some (a :: t), false, h =>
    obtain ⟨hw, hi⟩ := buildPieces_cons_ok h
    exact inclLoop_pieces data hi (fun x hx => hw x ((mem_stableSort _ _ _).1 hx)) hn

/-- what `hashModel` and `hashModelE` share: the two guards and the builder; `k` is what is done
with the accepted pieces -/
def front (alg : String) (n : Nat) (hr : Option (List HashRange)) (isExcl : Bool)
    (k : List Piece → Outcome) : Outcome :=
  if !supported alg then .err .unsupported []
  else if n < 1 then .err .nodata []
  else
    match buildPieces n hr isExcl with
    | .error o => o.out
    | .ok ps => k ps

/-- rejected by one of the two guards or by the builder: no piece list is handed on -/
inductive Early : Outcome → Prop
  | unsupported : Early (.err .unsupported [])
  | nodata : Early (.err .nodata [])
  | badparam : Early (.err .badparam [])

theorem front_eq {alg : String} {n : Nat} (halg : supported alg = true) (h1 : 1 ≤ n)
    (hr : Option (List HashRange)) (isExcl : Bool) (k : List Piece → Outcome) :
    front alg n hr isExcl k =
      match buildPieces n hr isExcl with
      | .error o => o.out
      | .ok ps => k ps := by
  rw [front, halg, if_neg (by decide), if_neg (by omega)]

theorem front_cases (alg : String) (n : Nat) (hr : Option (List HashRange)) (isExcl : Bool) :
    (∃ o, Early o ∧ ∀ k, front alg n hr isExcl k = o) ∨
      supported alg = true ∧ 1 ≤ n ∧
        ∃ ps, buildPieces n hr isExcl = .ok ps ∧ ∀ k, front alg n hr isExcl k = k ps := by
  by_cases halg : supported alg = true
  · by_cases h1 : 1 ≤ n
    · cases hb : buildPieces n hr isExcl with
      | error s =>
        exact .inl ⟨_, .badparam, fun k => by rw [front_eq halg h1, hb, buildPieces_error hb]; rfl⟩
      | ok ps => exact .inr ⟨halg, h1, ps, rfl, fun k => by rw [front_eq halg h1, hb]⟩
    · exact .inl ⟨_, .nodata, fun k => by rw [front, halg, if_neg (by decide), if_pos (by omega)]⟩
  · exact .inl ⟨_, .unsupported, fun k => by rw [front, if_pos (by simpa using halg)]⟩

end C2pa.C13
