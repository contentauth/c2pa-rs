import C2paModel.Lemmas.C07Png
/-
PNG, layer B: the chunk walker characterised as a parser.

`Png.chunks b = some ps` holds exactly when the file is
`sig ++ enc r₁ ++ … ++ enc rₙ ++ tail` for a list of raw chunk records `r₁ … rₙ` that is a
well-formed stream (`Stream`: every record has a 4-byte valid name, a 4-byte CRC field and
fewer than 2³² data bytes; the last record — and only the last — is IEND), and then `ps` are
the positions of these records (`place 8 rs`). Both directions are proved for every byte
list (`chunks_of_parsed`, `parsed_of_chunks`), which turns every statement about the
byte-splicing handler functions into a statement about lists of records.
-/
namespace C2pa.C07.Png

open C2pa.C07

theorem split_at (b : Bytes) (pos : Nat) (h : pos ≤ b.length) :
    ∃ pre rest, b = pre ++ rest ∧ pre.length = pos :=
  ⟨b.take pos, b.drop pos, (List.take_append_drop pos b).symm, by simp; omega⟩

theorem split4 (b : Bytes) (pos : Nat) (h : pos + 4 ≤ b.length) :
    ∃ pre a0 a1 a2 a3 rest, b = pre ++ a0 :: a1 :: a2 :: a3 :: rest ∧ pre.length = pos := by
  obtain ⟨pre, rest, rfl, hl⟩ := split_at b pos (by omega)
  simp at h
  match rest, h with
  | a0 :: a1 :: a2 :: a3 :: rest, _ => exact ⟨pre, a0, a1, a2, a3, rest, rfl, hl⟩
  | [], h => simp at h; omega
  | [_], h => simp at h; omega
  | [_, _], h => simp at h; omega
  | [_, _, _], h => simp at h; omega

theorem slice_length (b : Bytes) (k n : Nat) (h : k + n ≤ b.length) : (slice b k n).length = n := by
  simp [slice]; omega

/-- `m` stands for `k + n` so that a chain of these rewrites needs no arithmetic under `rw`. -/
theorem drop_split (b : Bytes) {k n m : Nat} (h : k + n = m) : b.drop k = slice b k n ++ b.drop m := by
  rw [slice, ← h, ← List.drop_drop, List.take_append_drop]

theorem take_of_eq {b p q : Bytes} {k : Nat} (h : b = p ++ q) (hk : k = p.length) : b.take k = p :=
  h ▸ List.take_left' hk.symm

theorem drop_of_eq {b p q : Bytes} {k : Nat} (h : b = p ++ q) (hk : k = p.length) : b.drop k = q :=
  h ▸ List.drop_left' hk.symm

/-! `be32` / `rdBe32` are base-256 digits. `omega` is slow on `/ 16777216`; the proofs go through
nested `/ 256` and Horner form instead. -/

theorem be32_eq (n : Nat) : be32 n = [UInt8.ofNat (n / 256 / 256 / 256 % 256),
    UInt8.ofNat (n / 256 / 256 % 256), UInt8.ofNat (n / 256 % 256), UInt8.ofNat (n % 256)] := by
  simp only [be32, Nat.div_div_eq_div_mul, Nat.reduceMul]

theorem rdBe32_at (pre rest : Bytes) (a0 a1 a2 a3 : UInt8) :
    rdBe32 (pre ++ a0 :: a1 :: a2 :: a3 :: rest) pre.length
      = a0.toNat * 16777216 + a1.toNat * 65536 + a2.toNat * 256 + a3.toNat := by
  unfold rdBe32
  simp [List.getD_eq_getElem?_getD]

theorem be32_bytes (a0 a1 a2 a3 : UInt8) :
    be32 (a0.toNat * 16777216 + a1.toNat * 65536 + a2.toNat * 256 + a3.toNat) = [a0, a1, a2, a3] := by
  have h0 := a0.toNat_lt; have h1 := a1.toNat_lt; have h2 := a2.toNat_lt; have h3 := a3.toNat_lt
  have e : a0.toNat * 16777216 + a1.toNat * 65536 + a2.toNat * 256 + a3.toNat
      = ((a0.toNat * 256 + a1.toNat) * 256 + a2.toNat) * 256 + a3.toNat := by omega
  have d (q r : Nat) (h : r < 256) : (q * 256 + r) / 256 = q ∧ (q * 256 + r) % 256 = r := by omega
  rw [be32_eq, e, (d _ _ h3).1, (d _ _ h3).2, (d _ _ h2).1, (d _ _ h2).2, (d _ _ h1).1, (d _ _ h1).2,
    Nat.mod_eq_of_lt h0]
  simp only [UInt8.ofNat_toNat]

theorem rdBe32_be32 (pre rest : Bytes) (n : Nat) (h : n < 4294967296) :
    rdBe32 (pre ++ (be32 n ++ rest)) pre.length = n := by
  rw [be32_eq, List.cons_append, List.cons_append, List.cons_append, List.cons_append,
    List.nil_append, rdBe32_at]
  simp only [UInt8.toNat_ofNat', Nat.mod_mod]
  omega

theorem rdBe32_lt (b : Bytes) (pos : Nat) : rdBe32 b pos < 4294967296 := by
  unfold rdBe32
  have h0 := (b.getD pos 0).toNat_lt; have h1 := (b.getD (pos + 1) 0).toNat_lt
  have h2 := (b.getD (pos + 2) 0).toNat_lt; have h3 := (b.getD (pos + 3) 0).toNat_lt
  omega

theorem be32_rdBe32 (b : Bytes) (pos : Nat) (h : pos + 4 ≤ b.length) :
    be32 (rdBe32 b pos) = slice b pos 4 := by
  obtain ⟨pre, a0, a1, a2, a3, rest, rfl, rfl⟩ := split4 b pos h
  rw [rdBe32_at, be32_bytes]
  exact (slice_app pre [a0, a1, a2, a3] rest _ _ rfl rfl).symm

/-- One chunk as it lies in the file: name, data, the 4 bytes in the CRC position (the
walker does not check them). -/
structure RC where
  name : Bytes
  data : Bytes
  crc : Bytes

def RC.enc (r : RC) : Bytes := be32 r.data.length ++ r.name ++ r.data ++ r.crc

structure RC.ok (r : RC) : Prop where
  name4 : r.name.length = 4
  crc4 : r.crc.length = 4
  small : r.data.length < 4294967296
  utf8 : nameOk r.name = true

def encAll (rs : List RC) : Bytes := rs.flatMap RC.enc

/-- The chunk positions the walker reports for records lying from `pos` on. A record advances the
position by `|data| + 12`, which is its encoded length only when it is `ok`: hence the `ok`
hypotheses of the position lemmas. -/
def place : Nat → List RC → List Chunk
  | _, [] => []
  | pos, r :: rest => ⟨pos, r.data.length, r.name⟩ :: place (pos + (r.data.length + 12)) rest

/-- A well-formed chunk stream: records are `ok`, the stream ends with its first IEND. -/
def Stream : List RC → Prop
  | [] => False
  | r :: rest => r.ok ∧ ((r.name = IEND ∧ rest = []) ∨ (r.name ≠ IEND ∧ Stream rest))

theorem enc_length (r : RC) (h : r.ok) : r.enc.length = r.data.length + 12 := by
  simp [RC.enc, be32_length, h.name4, h.crc4]; omega

theorem encAll_nil : encAll [] = [] := rfl

theorem encAll_cons (r : RC) (rs : List RC) : encAll (r :: rs) = r.enc ++ encAll rs := by
  simp [encAll]

theorem encAll_append (xs ys : List RC) : encAll (xs ++ ys) = encAll xs ++ encAll ys := by
  simp [encAll]

theorem Stream.all_ok : ∀ {rs : List RC}, Stream rs → ∀ r ∈ rs, r.ok
  | [], h, _, _ => h.elim
  | r :: rest, h, x, hx => by
    rcases List.mem_cons.1 hx with rfl | hx
    · exact h.1
    · rcases h.2 with ⟨_, rfl⟩ | ⟨_, hs⟩
      · cases hx
      · exact Stream.all_ok hs x hx

theorem Stream.ne_nil : ∀ {rs : List RC}, Stream rs → rs ≠ []
  | [], h => h.elim
  | _ :: _, _ => by simp

/-- Each record takes at least 12 bytes, so fuel `|file| + 1` is always enough. -/
theorem length_le_encAll : ∀ (rs : List RC), (∀ r ∈ rs, r.ok) → rs.length ≤ (encAll rs).length
  | [], _ => by simp
  | r :: rest, h => by
    have := length_le_encAll rest (fun x hx => h x (List.mem_cons_of_mem _ hx))
    have := enc_length r (h r List.mem_cons_self)
    simp [encAll_cons]; omega

theorem walk_enc_step (pre rest : Bytes) (r : RC) (hr : r.ok) (fuel : Nat) :
    walk (pre ++ (r.enc ++ rest)) (fuel + 1) pre.length =
      if r.name == IEND then some [⟨pre.length, r.data.length, r.name⟩]
      else (walk (pre ++ (r.enc ++ rest)) fuel (pre.length + 12 + r.data.length)).map
        (⟨pre.length, r.data.length, r.name⟩ :: ·) := by
  have hlen : (pre ++ (r.enc ++ rest)).length = pre.length + (r.data.length + 12) + rest.length := by
    simp [enc_length r hr]; omega
  have e : pre ++ (r.enc ++ rest)
      = pre ++ (be32 r.data.length ++ (r.name ++ (r.data ++ (r.crc ++ rest)))) := by
    simp only [RC.enc, List.append_assoc]
  have hrd : rdBe32 (pre ++ (r.enc ++ rest)) pre.length = r.data.length :=
    e ▸ rdBe32_be32 _ _ _ hr.small
  have hname : slice (pre ++ (r.enc ++ rest)) (pre.length + 4) 4 = r.name := by
    rw [e, ← List.append_assoc]
    exact slice_app _ _ _ _ _ (by rw [List.length_append, be32_length]) hr.name4.symm
  rw [walk]
  have h1 : ¬ pre.length + 8 > (pre ++ (r.enc ++ rest)).length := by omega
  rw [if_neg h1]
  simp only [hrd, hname]
  have h2 : ¬ pre.length + 8 + r.data.length + 4 > (pre ++ (r.enc ++ rest)).length := by omega
  rw [if_neg h2]
  simp [hr.utf8]

theorem chunk_at (b : Bytes) (pos : Nat) (h2 : pos + 12 + rdBe32 b pos ≤ b.length)
    (h3 : nameOk (slice b (pos + 4) 4) = true) :
    ∃ r : RC, r.ok ∧ b = b.take pos ++ (r.enc ++ b.drop (pos + 12 + rdBe32 b pos)) := by
  have hd : (slice b (pos + 8) (rdBe32 b pos)).length = rdBe32 b pos := slice_length _ _ _ (by omega)
  refine ⟨⟨slice b (pos + 4) 4, slice b (pos + 8) (rdBe32 b pos), slice b (pos + 8 + rdBe32 b pos) 4⟩,
    ⟨slice_length _ _ _ (by omega), slice_length _ _ _ (by omega), hd.symm ▸ rdBe32_lt b pos, h3⟩, ?_⟩
  -- the file behind `pos`, cut into length field, name, data, CRC field and the rest
  rw [RC.enc, hd, be32_rdBe32 b pos (by omega)]
  calc b = b.take pos ++ b.drop pos := (List.take_append_drop pos b).symm
    _ = _ := by
      rw [drop_split b (n := 4) rfl, drop_split b (n := 4) (m := pos + 8) rfl,
        drop_split b (n := rdBe32 b pos) rfl,
        drop_split b (n := 4) (m := pos + 12 + rdBe32 b pos) (by omega)]
      simp only [List.append_assoc]

theorem walk_enc : ∀ (rs : List RC) (pre tail : Bytes) (fuel : Nat), Stream rs → rs.length ≤ fuel →
    walk (pre ++ (encAll rs ++ tail)) fuel pre.length = some (place pre.length rs)
  | [], _, _, _, h, _ => h.elim
  | r :: rest, pre, tail, fuel, h, hf => by
    obtain ⟨fuel, rfl⟩ : ∃ f, fuel = f + 1 := ⟨fuel - 1, by simp at hf; omega⟩
    have hl : (pre ++ r.enc).length = pre.length + (r.data.length + 12) := by
      rw [List.length_append, enc_length r h.1]
    rw [encAll_cons, List.append_assoc, walk_enc_step pre _ r h.1 fuel, place]
    rcases h.2 with ⟨hn, rfl⟩ | ⟨hn, hs⟩
    · rw [if_pos (beq_iff_eq.2 hn)]; rfl
    · rw [if_neg (mt beq_iff_eq.1 hn), ← List.append_assoc,
        show pre.length + 12 + r.data.length = (pre ++ r.enc).length by omega,
        walk_enc rest (pre ++ r.enc) tail fuel hs (by simp at hf; omega), hl]
      rfl

/-- The two checks a successful step has passed: the whole chunk lies in the file, its name is UTF-8. -/
theorem walk_bounds {b : Bytes} {fuel pos : Nat} {ps : List Chunk} (h : walk b (fuel + 1) pos = some ps) :
    pos + 12 + rdBe32 b pos ≤ b.length ∧ nameOk (slice b (pos + 4) 4) = true := by
  rw [walk] at h
  by_cases h1 : pos + 8 > b.length
  · rw [if_pos h1] at h; cases h
  rw [if_neg h1] at h
  by_cases h2 : pos + 8 + rdBe32 b pos + 4 > b.length
  · rw [if_pos h2] at h; cases h
  rw [if_neg h2] at h
  cases h3 : nameOk (slice b (pos + 4) 4)
  · rw [h3] at h; cases h
  exact ⟨by omega, rfl⟩

theorem walk_tiles : ∀ (fuel : Nat) (b : Bytes) (pos : Nat) (ps : List Chunk),
    walk b fuel pos = some ps →
    ∃ rs tail, b = b.take pos ++ (encAll rs ++ tail) ∧ Stream rs ∧ ps = place pos rs
  | 0, _, _, _, h => by cases h
  | fuel + 1, b, pos, ps, h => by
    obtain ⟨hin, h3⟩ := walk_bounds h
    obtain ⟨r, hok, hb⟩ := chunk_at b pos hin h3
    -- the file is cut at `pos` into a record and the rest, so `walk_enc_step` says what the step does
    have hstep := walk_enc_step (b.take pos) (b.drop (pos + 12 + rdBe32 b pos)) r hok fuel
    rw [← hb, List.length_take_of_le (by omega)] at hstep
    rw [hstep] at h
    by_cases h4 : r.name = IEND
    · rw [if_pos (beq_iff_eq.2 h4)] at h
      refine ⟨[r], b.drop (pos + 12 + rdBe32 b pos), ?_, ⟨hok, Or.inl ⟨h4, rfl⟩⟩, (Option.some.inj h).symm⟩
      rw [show encAll [r] = r.enc from List.append_nil _]; exact hb
    · rw [if_neg (mt beq_iff_eq.1 h4)] at h
      obtain ⟨rest, hw, rfl⟩ := Option.map_eq_some_iff.1 h
      obtain ⟨rs, tail, hb2, hs, hps⟩ := walk_tiles fuel b _ rest hw
      have htake : b.take (pos + 12 + r.data.length) = b.take pos ++ r.enc := by
        have hl : pos + 12 + r.data.length = (b.take pos ++ r.enc).length := by
          rw [List.length_append, List.length_take, enc_length r hok]; omega
        exact take_of_eq (hb.trans (List.append_assoc _ _ _).symm) hl
      refine ⟨r :: rs, tail, ?_, ⟨hok, Or.inr ⟨h4, hs⟩⟩, ?_⟩
      · rw [encAll_cons, List.append_assoc, ← List.append_assoc, ← htake]; exact hb2
      · rw [hps, place, show pos + (r.data.length + 12) = pos + 12 + r.data.length by omega]

/-- `b` is the signature, the well-formed chunk stream `rs`, and `tail` (bytes after IEND). -/
structure Parsed (b : Bytes) (rs : List RC) (tail : Bytes) : Prop where
  eq : b = sig ++ (encAll rs ++ tail)
  stream : Stream rs

theorem chunks_of_parsed {b : Bytes} {rs : List RC} {tail : Bytes} (h : Parsed b rs tail) :
    chunks b = some (place 8 rs) := by
  unfold chunks
  have ht : b.take 8 = sig := take_of_eq h.eq rfl
  have : (b.take 8 != sig) = false := by rw [ht]; simp
  rw [this]
  simp only [Bool.false_eq_true, if_false]
  have hf : rs.length ≤ b.length + 1 := by
    have := length_le_encAll rs (h.stream.all_ok)
    have e := congrArg List.length h.eq
    simp at e; omega
  have := walk_enc rs sig tail (b.length + 1) h.stream hf
  rw [sig_length] at this
  exact (congrArg (fun x => walk x (b.length + 1) 8) h.eq).trans this

theorem chunks_some {b : Bytes} {ps : List Chunk} (h : chunks b = some ps) :
    b.take 8 = sig ∧ walk b (b.length + 1) 8 = some ps := by
  unfold chunks at h
  cases hs : (b.take 8 != sig) with
  | true => rw [hs, if_pos rfl] at h; cases h
  | false => rw [hs, if_neg Bool.false_ne_true] at h; exact ⟨bne_eq_false_iff_eq.1 hs, h⟩

theorem parsed_of_chunks {b : Bytes} {ps : List Chunk} (h : chunks b = some ps) :
    ∃ rs tail, Parsed b rs tail ∧ ps = place 8 rs := by
  obtain ⟨ht, hw⟩ := chunks_some h
  obtain ⟨rs, tail, hb, hst, hps⟩ := walk_tiles _ b 8 ps hw
  rw [ht] at hb
  exact ⟨rs, tail, ⟨hb, hst⟩, hps⟩

theorem chunks_iff (b : Bytes) (ps : List Chunk) :
    chunks b = some ps ↔ ∃ rs tail, Parsed b rs tail ∧ ps = place 8 rs :=
  ⟨parsed_of_chunks, fun ⟨_, _, hp, he⟩ => by rw [he]; exact chunks_of_parsed hp⟩

end C2pa.C07.Png
