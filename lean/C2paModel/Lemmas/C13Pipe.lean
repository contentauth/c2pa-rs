import C2paModel.Model.C13
/-
C13 — the two-actor read-ahead pipeline: the hasher has exactly one owner at every moment and
(hasher content ++ chunks not yet absorbed) is the same byte string in every reachable state;
a state that is not finished can move, and one full hand-off is a run of the system.
-/
namespace C2pa.C13

/-- hasher content followed by everything still to be absorbed, when the hasher has exactly
one owner (`none` otherwise) -/
def PState.view (s : PState) : Option (List UInt8) :=
  let pending := s.cur.getD [] ++ s.next.getD [] ++ s.unread.flatten
  match s.mainH, s.worker, s.chan with
  | some h, none, none => some (h ++ pending)
  | none, some (h, c), none => some (h ++ c ++ pending)
  | none, none, some h => some (h ++ pending)
  | _, _, _ => none

theorem PStep.view_eq {s t : PState} (h : PStep s t) : t.view = s.view := by
  cases h with
  | inlineLast c h => simp [PState.view]
  | spawn u us c h => simp [PState.view]
  | workerRun us nx h c => simp [PState.view]
  | readNext u us w ch =>
    cases w with
    | none => cases ch <;> simp [PState.view]
    | some hc => obtain ⟨h, c⟩ := hc; cases ch <;> simp [PState.view]
  | recv us nx h => simp [PState.view]

theorem PReach.view_eq {s t : PState} (h : PReach s t) : t.view = s.view := by
  induction h with
  | refl => rfl
  | step _ hs ih => rw [hs.view_eq, ih]

/-- the states a run passes through -/
inductive PShape : PState → Prop
  | holding (us c h) : PShape ⟨us, some c, none, some h, none, none, false⟩
  | spawned (u us h c) : PShape ⟨u :: us, none, none, none, some (h, c), none, false⟩
  | hashed (u us h) : PShape ⟨u :: us, none, none, none, none, some h, false⟩
  | readAhead (us nx h c) : PShape ⟨us, none, some nx, none, some (h, c), none, false⟩
  | both (us nx h) : PShape ⟨us, none, some nx, none, none, some h, false⟩
  | finished (h) : PShape ⟨[], none, none, some h, none, none, true⟩

theorem PStep.shape {s t : PState} (hs : PShape s) (h : PStep s t) : PShape t := by
  cases h with
  | inlineLast c h => exact PShape.finished _
  | spawn u us c h => exact PShape.spawned u us h c
  | workerRun us nx h c =>
    cases hs with
    | spawned u us' h' c' => exact PShape.hashed u us' _
    | readAhead us' nx' h' c' => exact PShape.both us nx' _
  | readNext u us w ch =>
    cases hs with
    | spawned u' us' h c => exact PShape.readAhead us u h c
    | hashed u' us' h => exact PShape.both us u h
  | recv us nx h => exact PShape.holding us nx h

theorem PReach.shape {s t : PState} (hs : PShape s) (h : PReach s t) : PShape t := by
  induction h with
  | refl => exact hs
  | step _ hst ih => exact hst.shape ih

theorem PShape.progress {s : PState} (hs : PShape s) (hd : s.done = false) : ∃ t, PStep s t := by
  cases hs with
  | holding us c h =>
    cases us with
    | nil => exact ⟨_, PStep.inlineLast c h⟩
    | cons u us => exact ⟨_, PStep.spawn u us c h⟩
  | spawned u us h c => exact ⟨_, PStep.workerRun (u :: us) none h c⟩
  | hashed u us h => exact ⟨_, PStep.readNext u us none (some h)⟩
  | readAhead us nx h c => exact ⟨_, PStep.workerRun us (some nx) h c⟩
  | both us nx h => exact ⟨_, PStep.recv us nx h⟩
  | finished h => simp at hd

theorem PReach.trans {s t u : PState} (h1 : PReach s t) (h2 : PReach t u) : PReach s u := by
  induction h2 with
  | refl => exact h1
  | step _ hs ih => exact PReach.step ih hs

theorem PReach.single {s t : PState} (h : PStep s t) : PReach s t :=
  PReach.step (PReach.refl s) h

/-- one full hand-off: from "main holds chunk `c`, more to read" to "main holds the next
chunk and the hasher that absorbed `c`" (worker first, then the read) -/
theorem handoff_reach (h0 c u : List UInt8) (us : List (List UInt8)) :
    PReach (pInit h0 c (u :: us)) (pInit (h0 ++ c) u us) :=
  (((PReach.single (PStep.spawn u us c h0)).step (PStep.workerRun (u :: us) none h0 c)).step
    (PStep.readNext u us none (some (h0 ++ c)))).step (PStep.recv us u (h0 ++ c))

end C2pa.C13
