import C2paModel.Model.C11
import C2paModel.Lemmas.Ascii
/-
C11 — `normalize_format` (trim + ASCII lower-case) is idempotent.
-/
namespace C2pa.C11

/-! `asciiLower` is `Data.asciiLower` (the same body); the white-space characters are not letters. -/

theorem isWs_asciiLower (c : Char) : isWs (asciiLower c) = isWs c := by
  have e (d : Char) (hd : d.toNat < 65) : (asciiLower c == d) = (c == d) :=
    Bool.eq_iff_iff.2 (by rw [beq_iff_eq, beq_iff_eq]; exact Data.asciiLower_eq_iff (.inl hd))
  simp only [isWs, e ' ' (by decide), e '\t' (by decide), e '\n' (by decide), e '\r' (by decide),
    e '\x0b' (by decide), e '\x0c' (by decide)]

theorem asciiLower_idem (c : Char) : asciiLower (asciiLower c) = asciiLower c :=
  Data.asciiLower_idem c

theorem dropWhile_idem (p : Char → Bool) (l : Fmt) : (l.dropWhile p).dropWhile p = l.dropWhile p := by
  induction l with
  | nil => rfl
  | cons x xs ih =>
    by_cases hx : p x = true
    · simp [hx, ih]
    · simp [hx]

/-- the right half of `trim`: `dropWhile` from the end -/
def rstrip (p : Char → Bool) (l : Fmt) : Fmt := (l.reverse.dropWhile p).reverse

theorem rstrip_idem (p : Char → Bool) (l : Fmt) : rstrip p (rstrip p l) = rstrip p l := by
  unfold rstrip; rw [List.reverse_reverse, dropWhile_idem]

theorem rstrip_prefix (p : Char → Bool) (l : Fmt) : ∃ t, l = rstrip p l ++ t := by
  refine ⟨(l.reverse.takeWhile p).reverse, ?_⟩
  unfold rstrip
  rw [← List.reverse_append, List.takeWhile_append_dropWhile, List.reverse_reverse]

/-- cutting the right end exposes nothing to cut on the left: a non-empty `rstrip p l` begins as `l` does -/
theorem dropWhile_rstrip (p : Char → Bool) (l : Fmt) (h : l.dropWhile p = l) :
    (rstrip p l).dropWhile p = rstrip p l := by
  obtain ⟨t, ht⟩ := rstrip_prefix p l
  cases hr : rstrip p l with
  | nil => rfl
  | cons x r' =>
    rw [hr] at ht
    have hx : ¬ p x = true := by
      intro hpx
      rw [ht] at h
      simp only [List.cons_append, List.dropWhile_cons, hpx, ↓reduceIte] at h
      have := congrArg List.length h
      have hle := (List.dropWhile_sublist p (l := r' ++ t)).length_le
      simp only [List.length_cons] at this; omega
    exact List.dropWhile_cons_of_neg hx

theorem trim_eq (s : Fmt) : trim s = rstrip isWs (s.dropWhile isWs) := rfl

theorem trim_idem (s : Fmt) : trim (trim s) = trim s := by
  rw [trim_eq, trim_eq, dropWhile_rstrip isWs _ (dropWhile_idem isWs s), rstrip_idem]

theorem trim_map_lower (s : Fmt) : trim (s.map asciiLower) = (trim s).map asciiLower := by
  have hcomp : (isWs ∘ asciiLower) = isWs := by funext c; exact isWs_asciiLower c
  unfold trim
  rw [List.dropWhile_map, hcomp, ← List.map_reverse, List.dropWhile_map, hcomp, List.map_reverse]

theorem normalize_idem (s : Fmt) : normalize (normalize s) = normalize s := by
  unfold normalize
  rw [trim_map_lower, trim_idem, List.map_map]
  congr 1
  funext c; exact asciiLower_idem c

theorem containerFromFormat_normalize (t : Table) (f : Fmt) :
    containerFromFormat t (normalize f) = containerFromFormat t f := by
  unfold containerFromFormat; rw [normalize_idem]

end C2pa.C11
