import C2paModel.Lemmas.C19Basic
/-
C19 — the runs of `gcrm`/`gLoop` as a pair of relations, and what holds of a run without any
invariant: an `Ok` call restores the label path, more fuel never changes a result, and the
remaining depth bounds the fuel that is needed.

`gcrm` hands itself to `gLoop`, so Lean derives no induction principle for the nest. `Call` and
`Loop` are that principle: they list what a call and a loop can do, `gcrm_run` says the functions do
nothing else, and a fact about one run is one induction over them
(`induction h using Call.rec (motive_2 := …)`; in the alternatives of the other relation the
hypotheses of its motive come after the fields; a fact stated for a loop starts from `Loop.rec` with
`motive_1` for the calls). The relations carry the fuel; `Call.fuel_succ` leads back from a run that
had fuel enough to the function with one more unit.
-/
namespace C2pa.C19

mutual
/-- `Call n u st o st'`: with fuel `n`, the call on `u` in state `st` ends with `o` in `st'`. -/
inductive Call (lim : Nat) (s : Store) (stop : Bool) : Nat → Nat → GSt → Out → GSt → Prop
  | dry {u st} : Call lim s stop 0 u st .outOfFuel st
  | deep {n u st} : lim ≤ st.path.length → Call lim s stop (n + 1) u st .tooDeep st
  | memo {n u st} : ¬ lim ≤ st.path.length → u ∈ st.map → Call lim s stop (n + 1) u st .ok st
  | noClaim {n u st} : ¬ lim ≤ st.path.length → u ∉ st.map → s[u]? = none →
      Call lim s stop (n + 1) u st .noClaim st
  | done {n u st c st'} : ¬ lim ≤ st.path.length → u ∉ st.map → s[u]? = some c →
      Loop lim s stop n u c.ings (gPush st u) .ok st' → Call lim s stop (n + 1) u st .ok (gPop st' u)
  | fail {n u st c o st'} : ¬ lim ≤ st.path.length → u ∉ st.map → s[u]? = some c →
      Loop lim s stop n u c.ings (gPush st u) o st' → o ≠ .ok → Call lim s stop (n + 1) u st o st'
/-- `Loop n u ings st o st'`: the loop of claim `u` over the remaining `ings`, calls with fuel `n`. -/
inductive Loop (lim : Nat) (s : Store) (stop : Bool) : Nat → Nat → List Ing → GSt → Out → GSt → Prop
  | nil {n u st} : Loop lim s stop n u [] st .ok st
  | skip {n u i is st o st'} : i.target = none → Loop lim s stop n u is (gSkip st) o st' →
      Loop lim s stop n u (i :: is) st o st'
  | cyc {n u i is st v} : i.target = some v → v < s.length → v ∈ st.path →
      Loop lim s stop n u (i :: is) st .cyclic (gCyc st u)
  | next {n u i is st v st₁ o st'} : i.target = some v → v < s.length → v ∉ st.path →
      Call lim s stop n v (gPre st u v) .ok st₁ → Loop lim s stop n u is st₁ o st' →
      Loop lim s stop n u (i :: is) st o st'
  | abort {n u i is st v o st'} : i.target = some v → v < s.length → v ∉ st.path →
      Call lim s stop n v (gPre st u v) o st' → o ≠ .ok → Loop lim s stop n u (i :: is) st o st'
  | missStop {n u i is st v} : i.target = some v → ¬ v < s.length → stop = true →
      Loop lim s stop n u (i :: is) st .missing (gMiss st v)
  | miss {n u i is st v o st'} : i.target = some v → ¬ v < s.length → stop = false →
      Loop lim s stop n u is (gMiss st v) o st' → Loop lim s stop n u (i :: is) st o st'
end

theorem gLoop_run {lim : Nat} {s : Store} {stop : Bool} {n u : Nat} {rec : Nat → GSt → Out × GSt}
    (hrec : ∀ v st, Call lim s stop n v st (rec v st).1 (rec v st).2) (ings : List Ing) (st : GSt) :
    Loop lim s stop n u ings st (gLoop rec s stop u ings st).1 (gLoop rec s stop u ings st).2 := by
  fun_induction gLoop rec s stop u ings st with
  | case1 => exact .nil
  | case2 _ _ _ ht ih => exact .skip ht ih
  | case3 _ _ _ _ ht hv hc => exact .cyc ht hv (List.contains_iff_mem.1 hc)
  | case4 _ _ _ v ht hv hc r hok ih =>
    exact .next ht hv (mt List.contains_iff_mem.2 hc) (hok ▸ hrec v _) ih
  | case5 _ _ _ v ht hv hc r hok => exact .abort ht hv (mt List.contains_iff_mem.2 hc) (hrec v _) hok
  | case6 _ _ _ _ ht hv hs => exact .missStop ht hv hs
  | case7 _ _ _ _ ht hv hs ih => exact .miss ht hv (Bool.eq_false_iff.2 hs) ih

theorem gcrm_run (lim : Nat) (s : Store) (stop : Bool) : ∀ (n u : Nat) (st : GSt),
    Call lim s stop n u st (gcrm lim s stop n u st).1 (gcrm lim s stop n u st).2
  | 0, _, _ => .dry
  | n + 1, u, st => by
    by_cases hl : lim ≤ st.path.length
    · rw [gcrm_arrival_too_deep lim s stop n u st hl]; exact .deep hl
    by_cases hm : u ∈ st.map
    · rw [gcrm_memo hl hm]; exact .memo hl hm
    cases hs : s[u]? with
    | none => rw [gcrm_no_claim hl hm hs]; exact .noClaim hl hm hs
    | some c =>
      have hloop := gLoop_run (u := u) (gcrm_run lim s stop n) c.ings (gPush st u)
      rw [gcrm_expand hl hm hs]
      split
      · next hok => exact .done hl hm hs (hok ▸ hloop)
      · next hok => exact .fail hl hm hs hloop hok

variable {lim : Nat} {s : Store} {stop : Bool}

theorem Loop.path_eq {n u ings st o st'} (h : Loop lim s stop n u ings st o st') :
    o = .ok → st'.path = st.path := by
  induction h using Loop.rec
    (motive_1 := fun _ _ st o st' _ => o = .ok → st'.path = st.path) with
  | dry ho | deep _ ho | noClaim _ _ _ ho => cases ho
  | cyc | missStop => nofun
  | memo | nil => intros; rfl
  | done _ _ _ _ ih => exact congrArg List.tail (ih rfl)
  | fail _ _ _ _ hne _ ho => exact absurd ho hne
  | abort _ _ _ _ hne => exact fun h => absurd h hne
  | skip _ _ ih | miss _ _ _ _ ih => exact ih
  | next _ _ _ _ _ ihc ihl => exact fun h => (ihl h).trans (ihc rfl)

/- `Loop.rec` hands back the loops' half of the induction in `Loop.path_eq` only; the calls' half
is one case split away. -/
theorem Call.path_eq {n u st st'} (h : Call lim s stop n u st .ok st') : st'.path = st.path := by
  cases h with
  | memo => rfl
  | done _ _ _ hl => exact congrArg List.tail (hl.path_eq rfl)
  | fail _ _ _ _ hne => exact absurd rfl hne

theorem Call.entry_depth {n u st st'} (h : Call lim s stop n u st .ok st') :
    st.path.length < lim := by
  cases h with
  | memo hl | done hl => exact Nat.lt_of_not_le hl
  | fail _ _ _ _ hne => exact absurd rfl hne

theorem Call.fuel_succ {n u st o st'} (h : Call lim s stop n u st o st') (ho : o ≠ .outOfFuel) :
    gcrm lim s stop (n + 1) u st = (o, st') := by
  induction h using Call.rec (motive_2 := fun n u ings st o st' _ => o ≠ .outOfFuel →
    gLoop (gcrm lim s stop (n + 1)) s stop u ings st = (o, st')) with
  | dry => exact absurd rfl ho
  | deep hl => exact gcrm_arrival_too_deep lim s stop _ _ _ hl
  | memo hl hm => exact gcrm_memo hl hm
  | noClaim hl hm hs => exact gcrm_no_claim hl hm hs
  | done hl hm hs _ ih => rw [gcrm_expand hl hm hs, ih nofun]; rfl
  | fail hl hm hs _ hne ih => rw [gcrm_expand hl hm hs, ih ho]; exact if_neg hne
  | nil => rfl
  | skip ht _ ih ho => rw [gLoop_skip ht]; exact ih ho
  | cyc ht hv hc => exact gLoop_cyc ht hv hc
  | next ht hv hc _ _ ihc ihl ho => rw [gLoop_call ht hv hc, ihc nofun]; exact ihl ho
  | abort ht hv hc _ hne ihc ho => rw [gLoop_call ht hv hc, ihc ho]; exact if_neg hne
  | missStop ht hv hs => rw [gLoop_miss ht hv, if_pos hs]
  | miss ht hv hs _ ih ho => rw [gLoop_miss ht hv, if_neg (hs ▸ Bool.false_ne_true)]; exact ih ho

theorem gcrm_fuel_le (lim : Nat) (s : Store) (stop : Bool) (n u : Nat) (st : GSt)
    (h : (gcrm lim s stop n u st).1 ≠ .outOfFuel) :
    ∀ k, gcrm lim s stop (n + k) u st = gcrm lim s stop n u st :=
  stable_of_succ (gcrm lim s stop · u st) (·.1 = .outOfFuel)
    (fun n h => (gcrm_run lim s stop n u st).fuel_succ h) n h

/-- Fuel `lim + 1 - depth` suffices: the recursion is never deeper than the limit. Inside a loop
the path is one longer, and restored by every `Ok` call. -/
theorem Call.fuel_depth {n u st o st'} (h : Call lim s stop n u st o st')
    (h1 : st.path.length ≤ lim) (h2 : lim + 1 ≤ st.path.length + n) : o ≠ .outOfFuel := by
  induction h using Call.rec (motive_2 := fun n _ _ st o _ _ =>
    st.path.length ≤ lim → lim + 1 ≤ st.path.length + n → o ≠ .outOfFuel) with
  | dry => omega
  | deep | memo | noClaim | done | nil | cyc | missStop => nofun
  | @fail _ u st _ _ _ hl _ _ _ _ ih =>
    exact ih (Nat.lt_of_not_le hl)
      (by rw [show (gPush st u).path.length = st.path.length + 1 from rfl]; omega)
  | skip _ _ ih h1 h2 | miss _ _ _ _ ih h1 h2 => exact ih h1 h2
  | next _ _ _ hc _ _ ih h1 h2 => exact ih (hc.path_eq ▸ h1) (hc.path_eq ▸ h2)
  | abort _ _ _ _ _ ih h1 h2 => exact ih h1 h2

end C2pa.C19
