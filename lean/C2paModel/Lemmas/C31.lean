import C2paModel.Model.C31
/-
C31 — helper lemmas: the registry as a finite map; what one use of a parameter does when it
passes and why it stops; the guard sequence and the release loop as loops that carry an
invariant; the allocation-id invariant `Inv`; the shapes of the success path and of a whole call.
-/
namespace C2pa.C31

theorem Reg.get_eq_find (r : Reg) (a : Nat) : r.get a = (r.find? (·.1 == a)).map (·.2) := by
  induction r with
  | nil => rfl
  | cons x xs ih =>
    obtain ⟨k, e⟩ := x
    rw [Reg.get, List.find?_cons, ih]
    by_cases h : k = a
    · simp [h]
    · simp [h, beq_false_of_ne h]

theorem Reg.get_remove (r : Reg) (a b : Nat) :
    (r.remove a).get b = if b = a then none else r.get b := by
  rw [Reg.get_eq_find, Reg.get_eq_find, Reg.remove, List.find?_filter]
  split
  · next h => subst h; simp
  · next h =>
    congr 2; funext x
    by_cases hx : x.1 = b <;> simp [hx, h]

theorem Reg.get_insert (r : Reg) (a b : Nat) (e : Entry) :
    (r.insert a e).get b = if b = a then some e else r.get b := by
  unfold Reg.insert
  by_cases hb : b = a
  · subst hb; simp [Reg.get]
  · have : ¬ a = b := fun h => hb h.symm
    simp only [Reg.get, this, if_false, hb]
    rw [Reg.get_remove]; simp [hb]

theorem Reg.get_none_iff (r : Reg) (a : Nat) : r.get a = none ↔ a ∉ r.map (·.1) := by
  rw [Reg.get_eq_find, Option.map_eq_none_iff, List.find?_eq_none]
  simp only [List.mem_map, not_exists, not_and, beq_iff_eq]

theorem Reg.remove_of_get_none (r : Reg) (a : Nat) (h : r.get a = none) : r.remove a = r := by
  unfold Reg.remove
  rw [List.filter_eq_self]
  intro x hx
  have : a ∉ r.map (·.1) := (Reg.get_none_iff r a).1 h
  have hne : x.1 ≠ a := by
    intro heq; apply this; rw [← heq]; exact List.mem_map_of_mem hx
  simp [hne]

theorem Reg.mem_of_get {r : Reg} {a : Nat} {e : Entry} (h : r.get a = some e) : (a, e) ∈ r := by
  rw [Reg.get_eq_find, Option.map_eq_some_iff] at h
  obtain ⟨x, hx, rfl⟩ := h
  have := List.find?_some hx
  exact (beq_iff_eq.1 this) ▸ List.mem_of_find?_eq_some hx

theorem Reg.keys_remove_nodup (r : Reg) (a : Nat) (h : (r.map (·.1)).Nodup) :
    ((r.remove a).map (·.1)).Nodup := (List.filter_sublist.map _).nodup h

/-- In a list with distinct keys, filtering out the key of `x` takes exactly `val x` out of the
values, up to order: the id accounting of a release, for the registry (key: the address) and for
the string arrays (key: `addr`). -/
theorem map_perm_cons_filter {α β γ : Type} [DecidableEq β] (key : α → β) (val : α → γ)
    (l : List α) (x : α) (hk : (l.map key).Nodup) (hx : x ∈ l) :
    (l.map val).Perm (val x :: (l.filter (fun y => key y != key x)).map val) := by
  induction l with
  | nil => cases hx
  | cons y ys ih =>
    obtain ⟨hy, hk'⟩ := List.nodup_cons.1 hk
    rcases List.mem_cons.1 hx with rfl | hx
    · have : ys.filter (fun y => key y != key x) = ys :=
        List.filter_eq_self.2 fun z hz => by
          have : key z ≠ key x := fun h => hy (h ▸ List.mem_map_of_mem hz)
          simpa using this
      simp [this]
    · have hne : key y ≠ key x := fun h => hy (h ▸ List.mem_map_of_mem hx)
      have hne' : (key y != key x) = true := by simpa using hne
      rw [List.filter_cons, if_pos hne']
      exact ((ih hk' hx).cons _).trans (List.Perm.swap _ _ _)

theorem validate_ok_iff (r : Reg) (a : Nat) (t : Ty) (e : Entry) :
    validate r a t = .ok e ↔ a ≠ 0 ∧ r.get a = some e ∧ e.ty = t := by
  unfold validate
  by_cases ha : a = 0
  · simp [ha]
  · cases hg : r.get a with
    | none => simp [ha]
    | some e' =>
      by_cases ht : e'.ty = t
      · simp only [if_neg ha, if_pos ht, Except.ok.injEq, Option.some.injEq]
        exact ⟨fun h => ⟨ha, h, h ▸ ht⟩, fun h => h.2.1⟩
      · simp only [if_neg ha, if_neg ht, Option.some.injEq]
        exact ⟨fun h => (nomatch h), fun h => absurd (h.2.1 ▸ h.2.2) ht⟩

theorem untrack_ok_iff (r r' : Reg) (a : Nat) (t : Ty) (e : Entry) :
    untrack r a t = .ok (r', e) ↔ a ≠ 0 ∧ r.get a = some e ∧ e.ty = t ∧ r' = r.remove a := by
  unfold untrack
  by_cases ha : a = 0
  · simp [ha]
  · cases hg : r.get a with
    | none => simp [ha]
    | some e' =>
      by_cases ht : e'.ty = t
      · simp only [if_neg ha, if_pos ht, Except.ok.injEq, Prod.mk.injEq, Option.some.injEq]
        exact ⟨fun h => ⟨ha, h.2, h.2 ▸ ht, h.1.symm⟩, fun h => ⟨h.2.2.2.symm, h.2.1⟩⟩
      · simp only [if_neg ha, if_neg ht, Option.some.injEq]
        exact ⟨fun h => (nomatch h), fun h => absurd (h.2.1 ▸ h.2.2.1) ht⟩

theorem free_ok_iff (r r' : Reg) (a : Nat) (t : Ty) (oe : Option Entry) :
    free r a t = .ok (r', oe) ↔
      (a = 0 ∧ r' = r ∧ oe = none) ∨
      (a ≠ 0 ∧ ∃ e, r.get a = some e ∧ oe = some e ∧ r' = r.remove a ∧ (t = .none ∨ e.ty = t)) := by
  unfold free
  by_cases ha : a = 0
  · simp only [if_pos ha, Except.ok.injEq, Prod.mk.injEq]
    exact ⟨fun h => Or.inl ⟨ha, h.1.symm, h.2.symm⟩,
      fun h => h.elim (fun h => ⟨h.2.1.symm, h.2.2.symm⟩) (fun h => absurd ha h.1)⟩
  · cases hg : r.get a with
    | none => simp [ha]
    | some e' =>
      by_cases ht : t = .none ∨ e'.ty = t
      · simp only [if_neg ha, if_pos ht, Except.ok.injEq, Prod.mk.injEq, Option.some.injEq]
        exact ⟨fun h => Or.inr ⟨ha, e', rfl, h.2.symm, h.1.symm, ht⟩,
          fun h => h.elim (fun h => absurd h.1 ha)
            (fun ⟨_, e, he, ho, hr, _⟩ => ⟨hr.symm, he ▸ ho.symm⟩)⟩
      · simp only [if_neg ha, if_neg ht, Option.some.injEq]
        exact ⟨fun h => (nomatch h), fun h => h.elim (fun h => absurd h.1 ha)
          (fun ⟨_, e, he, _, _, hte⟩ => absurd (he ▸ hte) ht)⟩

theorem free_err (r : Reg) (a : Nat) (t : Ty) (x : RegErr) (h : free r a t = .error x) :
    a ≠ 0 ∧ ((x = .untracked ∧ r.get a = none) ∨
             (x = .wrongType ∧ t ≠ .none ∧ ∃ e, r.get a = some e ∧ e.ty ≠ t)) := by
  unfold free at h
  by_cases ha : a = 0
  · simp [ha] at h
  · refine ⟨ha, ?_⟩
    cases hg : r.get a with
    | none => simp [ha, hg] at h; exact Or.inl ⟨h.symm, rfl⟩
    | some e =>
      by_cases ht : t = .none ∨ e.ty = t
      · simp [ha, hg, ht] at h
      · simp only [ha, hg, if_false, ht, Except.error.injEq] at h
        refine Or.inr ⟨h.symm, fun h0 => ht (Or.inl h0), e, rfl, fun h1 => ht (Or.inr h1)⟩

/-- What one use of a parameter does, `a` being its argument. It passes — leaving the world, or
(`untrack_or_return!`, `cimpl_free`) releasing the tracked `a` — or it stops: with a stored error;
without one only at the three kinds of NULL return; with undefined behaviour only at a raw use
of an argument that is not what the code assumes. A use that passes without releasing says of its
argument what its kind tested: not NULL behind a stop-on-NULL guard (what `eventsSafe` counts on),
valid behind a registry guard (so a bad handle does not get past it), NULL at a `cimpl_free` (a
tracked address would have been released). -/
inductive EvSpec (row : FnRow) (args : List Arg) (w : World) (e : Event) :
    Except Stop (World × List Nat) → Prop
  | pass : (e.use.stopsOnNull = true → (argOf args e.p).a ≠ 0) →
      (e.use.isRegistryGuard = true → ∃ ent, validate w.reg (argOf args e.p).a e.ty = .ok ent) →
      (e.use = .free → (argOf args e.p).a = 0) → EvSpec row args w e (.ok (w, []))
  | release (ent : Entry) : ((e.use = .untrack ∧ ent.ty = e.ty) ∨ e.use = .free) →
      (argOf args e.p).a ≠ 0 → w.reg.get (argOf args e.p).a = some ent →
      EvSpec row args w e (.ok ({ w with reg := w.reg.remove (argOf args e.p).a,
                                         cleanups := (ent.alloc, (argOf args e.p).a) :: w.cleanups },
        [(argOf args e.p).a]))
  | err (x : LastErr) : x ≠ .none → EvSpec row args w e (.error (.err x))
  | silent : e.use = .nullretSilent → EvSpec row args w e (.error .silent)
  | okEarly : e.use = .nullretOk → EvSpec row args w e (.error .okEarly)
  | alt : e.use = .nullbranch → EvSpec row args w e (.error .alt)
  -- the second case records `isRaw = false` because `eventsSafe` tests `isRaw` first
  | ub : (e.use.isRaw = true
        ∨ (e.use.isRaw = false ∧ e.use.isRawNonnull = true ∧ (argOf args e.p).a ≠ 0)) →
      rawDefined w (paramOf row e.p) (argOf args e.p).a = false → EvSpec row args w e (.error .ub)

theorem evStep_spec (row : FnRow) (args : List Arg) (w : World) (e : Event) :
    EvSpec row args w e (evStep row args w e) := by
  have toLast : ∀ x : RegErr, x.toLast ≠ .none := fun x => by cases x <;> nofun
  obtain ⟨p, use, ty⟩ := e
  cases use <;> dsimp only [evStep]
  case validate =>
    cases hv : validate w.reg (argOf args p).a ty with
    | ok ent => exact .pass nofun (fun _ => ⟨ent, hv⟩) nofun
    | error x => exact .err _ (toLast x)
  case validateNonnull =>
    split
    · exact .pass nofun nofun nofun
    · cases validate w.reg (argOf args p).a ty with
      | ok ent => exact .pass nofun nofun nofun
      | error x => exact .err _ (toLast x)
  case untrack =>
    cases hv : untrack w.reg (argOf args p).a ty with
    | error x => exact .err _ (toLast x)
    | ok q =>
      obtain ⟨r, ent⟩ := q
      obtain ⟨ha, hg, ht, rfl⟩ := (untrack_ok_iff _ _ _ _ _).1 hv
      exact .release ent (.inl ⟨rfl, ht⟩) ha hg
  case free =>
    cases hv : free w.reg (argOf args p).a ty with
    | error x => exact .err _ (toLast x)
    | ok q =>
      obtain ⟨r, oe⟩ := q
      rcases (free_ok_iff _ _ _ _ _).1 hv with ⟨h0, _, rfl⟩ | ⟨ha, ent, hg, rfl, rfl, _⟩
      · exact .pass nofun nofun fun _ => h0
      · exact .release ent (.inr rfl) ha hg
  case nullck | cstr =>
    split
    · exact .err _ nofun
    · exact .pass (fun _ => ‹_›) nofun nofun
  case nullretOk =>
    split
    · exact .okEarly rfl
    · exact .pass (fun _ => ‹_›) nofun nofun
  case nullretSilent =>
    split
    · exact .silent rfl
    · exact .pass (fun _ => ‹_›) nofun nofun
  case nullbranch =>
    split
    · exact .alt rfl
    · exact .pass (fun _ => ‹_›) nofun nofun
  case bytes =>
    split
    · exact .err _ nofun
    · split
      · exact .err _ nofun
      · exact .pass (fun _ => ‹_›) nofun nofun
  case ifnonnull | cstropt | cstrarr | «opaque» | scalar => exact .pass nofun nofun nofun
  case raw | rawwrite | fieldread =>
    split
    · exact .pass nofun nofun nofun
    · exact .ub (.inl rfl) (Bool.eq_false_iff.2 ‹_›)
  case rawNonnull | writeNonnull =>
    split
    · exact .pass nofun nofun nofun
    · split
      · exact .pass nofun nofun nofun
      · exact .ub (.inr ⟨rfl, rfl, ‹_›⟩) (Bool.eq_false_iff.2 ‹_›)

theorem evStep_spec_of {row : FnRow} {args : List Arg} {w : World} {e : Event}
    {r : Except Stop (World × List Nat)} (h : evStep row args w e = r) : EvSpec row args w e r :=
  h ▸ evStep_spec row args w e

theorem evStep_free {row : FnRow} {args : List Arg} {w : World} {e : Event} (hu : e.use = .free) :
    evStep row args w e = match free w.reg (argOf args e.p).a e.ty with
      | .ok (r, some ent) =>
        .ok ({ w with reg := r, cleanups := (ent.alloc, (argOf args e.p).a) :: w.cleanups },
             [(argOf args e.p).a])
      | .ok (_, none) => .ok (w, [])
      | .error x => .error (.err x.toLast) := by
  unfold evStep
  simp only [hu]
  rfl

theorem evStep_opaque {row : FnRow} {args : List Arg} {w : World} {e : Event}
    (hu : e.use = .opaque) : evStep row args w e = .ok (w, []) := by
  unfold evStep
  simp only [hu]

/-- What a passing guard event can do to the world: nothing, or release the tracked
argument (ownership taken by `untrack_or_return!` / cleanup run by `cimpl_free`). -/
inductive EvEffect (w : World) (a : Nat) : World → List Nat → Prop
  | same : EvEffect w a w []
  | released (ent : Entry) (ha : a ≠ 0) (hg : w.reg.get a = some ent) :
      EvEffect w a { w with reg := w.reg.remove a, cleanups := (ent.alloc, a) :: w.cleanups } [a]

theorem evStep_effect {row : FnRow} {args : List Arg} {w w' : World} {e : Event} {f : List Nat}
    (h : evStep row args w e = .ok (w', f)) : EvEffect w (argOf args e.p).a w' f := by
  cases evStep_spec_of h with
  | pass => exact .same
  | release ent _ ha hg => exact .released ent ha hg

/-- How a guard sequence has ended in the world `w`, with the uses `rest` still to run and the stop
`st` it reports: no stop and nothing left to run, or the stop `s` with which the first of `rest`
refuses in `w`. (`st` is tied by an equation and is no index, so that `cases` works when it is a
projection of `runEvents …`.) -/
inductive Ended (row : FnRow) (args : List Arg) (w : World) (st : Option Stop) : List Event → Prop
  | done : st = none → Ended row args w st []
  | stop {e : Event} {es : List Event} {s : Stop} :
      st = some s → evStep row args w e = .error s → Ended row args w st (e :: es)

/-- The guard sequence as a loop: what holds of (uses still to run, world, released so far) at the
start and is carried on by every passing use holds where the sequence ends. `es0` is the whole
sequence, so that `pass` may use that its use occurs in it. -/
theorem runEvents_rule {row : FnRow} {args : List Arg} {I : List Event → World → List Nat → Prop}
    {es0 : List Event}
    (pass : ∀ e es w fr w' f, e :: es <:+ es0 → I (e :: es) w fr →
      evStep row args w e = .ok (w', f) → I es w' (fr ++ f))
    (es : List Event) (hes : es <:+ es0) (w : World) (fr : List Nat) (h : I es w fr) :
    ∃ rest, rest <:+ es0 ∧ I rest (runEvents row args w fr es).1 (runEvents row args w fr es).2.1
      ∧ Ended row args (runEvents row args w fr es).1 (runEvents row args w fr es).2.2 rest := by
  induction es generalizing w fr with
  | nil => exact ⟨[], hes, h, .done rfl⟩
  | cons e es ih =>
    unfold runEvents
    cases hev : evStep row args w e with
    | error s => exact ⟨e :: es, hes, h, .stop rfl hev⟩
    | ok p => exact ih ((List.suffix_cons e es).trans hes) p.1 _ (pass e es w fr p.1 p.2 hes h hev)

theorem runEvents_preserves {row : FnRow} {args : List Arg} {I : World → Prop} (es : List Event)
    (hstep : ∀ e ∈ es, ∀ w w' f, I w → evStep row args w e = .ok (w', f) → I w')
    (w : World) (fr : List Nat) (h : I w) : I (runEvents row args w fr es).1 :=
  (runEvents_rule (I := fun _ w _ => I w)
    (fun e _ _ _ _ _ hs h hev => hstep e (hs.mem List.mem_cons_self) _ _ _ h hev)
    es List.suffix_rfl w fr h).elim fun _ h => h.2.1

theorem runEvents_stop {row : FnRow} {args : List Arg} {s : Stop} (es : List Event) (w : World)
    (fr : List Nat) (h : (runEvents row args w fr es).2.2 = some s) :
    ∃ e ∈ es, ∃ w', evStep row args w' e = .error s := by
  obtain ⟨rest, hs, _, hend⟩ := runEvents_rule (I := fun _ _ _ => True)
    (fun _ _ _ _ _ _ _ _ _ => trivial) es List.suffix_rfl w fr trivial
  cases hend with
  | done hn => rw [hn] at h; cases h
  | stop hst hev => rw [hst] at h; cases h; exact ⟨_, hs.mem List.mem_cons_self, _, hev⟩

/-- All allocation ids the world knows about: tracked, untracked-but-live arrays, cleaned up. -/
def World.ids (w : World) : List Nat :=
  w.reg.map (·.2.alloc) ++ (w.arrays.map (·.alloc) ++ w.cleanups.map (·.1))

/-- Every allocation id below `next` is in exactly one of: tracked, live array, cleaned up
(exactly once). -/
structure Inv (w : World) : Prop where
  keys : (w.reg.map (·.1)).Nodup
  akeys : (w.arrays.map (·.addr)).Nodup
  nodup : w.ids.Nodup
  lt : ∀ i, i ∈ w.ids ↔ i < w.next

theorem Inv.empty : Inv {} := by
  constructor <;> simp [World.ids]

theorem Inv.of_perm {w w' : World} (h : Inv w) (hk : (w'.reg.map (·.1)).Nodup)
    (ha : (w'.arrays.map (·.addr)).Nodup) (hp : w'.ids.Perm w.ids) (hn : w'.next = w.next) : Inv w' :=
  { keys := hk, akeys := ha, nodup := hp.nodup_iff.2 h.nodup
    lt := fun i => by rw [hp.mem_iff, h.lt, hn] }

theorem Inv.alloc {w w' : World} (h : Inv w) (hk : (w'.reg.map (·.1)).Nodup)
    (ha : (w'.arrays.map (·.addr)).Nodup) (hp : w'.ids.Perm (w.next :: w.ids))
    (hn : w'.next = w.next + 1) : Inv w' :=
  { keys := hk, akeys := ha
    nodup := hp.nodup_iff.2
      (List.nodup_cons.2 ⟨fun hm => Nat.lt_irrefl _ ((h.lt _).1 hm), h.nodup⟩)
    lt := fun i => by rw [hp.mem_iff, List.mem_cons, h.lt, hn]; omega }

/-- The executed cleanups are exactly the allocations handed out and no longer held: the statement
behind `free_once`. -/
theorem Inv.cleanups {w : World} (hi : Inv w) :
    (w.cleanups.map (·.1)).Nodup ∧
    ∀ i, i ∈ w.cleanups.map (·.1) ↔
      (i < w.next ∧ i ∉ w.reg.map (·.2.alloc) ∧ i ∉ w.arrays.map (·.alloc)) := by
  obtain ⟨-, hrest, hreg⟩ := List.nodup_append.1 hi.nodup
  obtain ⟨-, hcl, harr⟩ := List.nodup_append.1 hrest
  refine ⟨hcl, fun i => ⟨fun hm => ⟨(hi.lt i).1 (by simp [World.ids, hm]), ?_, ?_⟩, ?_⟩⟩
  · intro h; exact hreg i h i (by simp [hm]) rfl
  · intro h; exact harr i h i hm rfl
  · rintro ⟨hlt, h1, h2⟩
    have := (hi.lt i).2 hlt
    simp only [World.ids, List.mem_append] at this
    exact (this.resolve_left h1).resolve_left h2

theorem EvEffect.inv {w w' : World} {a : Nat} {f : List Nat} (h : EvEffect w a w' f) (hi : Inv w) : Inv w' := by
  cases h with
  | same => exact hi
  | released ent ha hg =>
    refine hi.of_perm (Reg.keys_remove_nodup _ _ hi.keys) hi.akeys ?_ rfl
    have hp := map_perm_cons_filter (·.1) (·.2.alloc) w.reg (a, ent) hi.keys (Reg.mem_of_get hg)
    simp only [World.ids, List.map_cons]
    -- with R, X the tracked ids before and after, A the arrays', C the cleaned-up ones, i the released:
    -- X ++ (A ++ i :: C)  ~  (i :: X) ++ (A ++ C)  ~  R ++ (A ++ C)
    refine List.Perm.trans ?_ (hp.symm.append_right _)
    refine List.Perm.trans (List.Perm.append_left _ List.perm_middle) ?_
    exact List.perm_middle

theorem EvEffect.get_none_or_eq {w w' : World} {a : Nat} {f : List Nat} (h : EvEffect w a w' f) (b : Nat) :
    w'.reg.get b = none ∨ w'.reg.get b = w.reg.get b := by
  cases h with
  | same => exact Or.inr rfl
  | released ent ha hg =>
    simp only [Reg.get_remove]
    by_cases hb : b = a
    · left; simp [hb]
    · right; simp [hb]

theorem EvEffect.arrays {w w' : World} {a : Nat} {f : List Nat} (h : EvEffect w a w' f) :
    w'.arrays = w.arrays ∧ w'.next = w.next := by
  cases h <;> exact ⟨rfl, rfl⟩

theorem runEvents_inv (row : FnRow) (args : List Arg) (es : List Event) (w : World) (fr : List Nat)
    (hi : Inv w) : Inv (runEvents row args w fr es).1 :=
  runEvents_preserves es (fun _ _ _ _ _ hi hev => (evStep_effect hev).inv hi) w fr hi

theorem runEvents_get_none_or_eq (row : FnRow) (args : List Arg) (es : List Event) (w : World) (fr : List Nat) (b : Nat) :
    (runEvents row args w fr es).1.reg.get b = none ∨ (runEvents row args w fr es).1.reg.get b = w.reg.get b :=
  runEvents_preserves (I := fun w' => w'.reg.get b = none ∨ w'.reg.get b = w.reg.get b) es
    (fun _ _ _ _ _ h hev => ((evStep_effect hev).get_none_or_eq b).elim .inl fun h' => h' ▸ h) w fr (.inr rfl)

theorem runEvents_arrays (row : FnRow) (args : List Arg) (es : List Event) (w : World) (fr : List Nat) :
    (runEvents row args w fr es).1.arrays = w.arrays ∧ (runEvents row args w fr es).1.next = w.next :=
  runEvents_preserves (I := fun w' => w'.arrays = w.arrays ∧ w'.next = w.next) es
    (fun _ _ _ _ _ h hev => ⟨(evStep_effect hev).arrays.1.trans h.1, (evStep_effect hev).arrays.2.trans h.2⟩)
    w fr ⟨rfl, rfl⟩

theorem World.arrayAt_none_iff (w : World) (a : Nat) : w.arrayAt a = none ↔ a ∉ w.arrays.map (·.addr) := by
  unfold World.arrayAt
  rw [List.find?_eq_none]
  simp only [List.mem_map, not_exists, not_and]
  constructor
  · intro h x hx heq; exact h x hx (by simp [heq])
  · intro h x hx heq; exact h x hx (by simpa using heq)

theorem World.live_false (w : World) (a : Nat) (h : w.live a = false) :
    w.reg.get a = none ∧ a ∉ w.arrays.map (·.addr) := by
  unfold World.live at h
  simp only [Bool.or_eq_false_iff, Option.isSome_eq_false_iff, Option.isNone_iff_eq_none] at h
  exact ⟨h.1, (w.arrayAt_none_iff a).1 h.2⟩

theorem allocTracked_inv (w : World) (a : Nat) (t : Ty) (hi : Inv w)
    (hok : (allocTracked w a t).2 = true) : Inv (allocTracked w a t).1 := by
  unfold allocTracked at hok ⊢
  by_cases ha : a = 0
  · simpa [ha] using hi
  · simp only [ha, if_false, Bool.not_eq_true'] at hok ⊢
    obtain ⟨hg, _⟩ := w.live_false a hok
    have hrem : w.reg.remove a = w.reg := Reg.remove_of_get_none _ _ hg
    have hnk : a ∉ w.reg.map (·.1) := (Reg.get_none_iff _ _).1 hg
    refine hi.alloc ?_ hi.akeys ?_ rfl
    · simp only [track, ha, if_false, Reg.insert, hrem, List.map_cons]
      exact List.nodup_cons.2 ⟨hnk, hi.keys⟩
    · simp only [World.ids, track, ha, if_false, Reg.insert, hrem, List.map_cons, List.cons_append]
      exact .refl _

theorem allocTracked_arrays (w : World) (a : Nat) (t : Ty) : (allocTracked w a t).1.arrays = w.arrays := by
  unfold allocTracked; by_cases ha : a = 0 <;> simp [ha]

theorem allocStrings_inv (l : List Nat) (w : World) (hi : Inv w)
    (hok : (allocStrings w l).2 = true) : Inv (allocStrings w l).1 := by
  induction l generalizing w with
  | nil => exact hi
  | cons a as ih =>
    simp only [allocStrings, Bool.and_eq_true, decide_eq_true_eq] at hok ⊢
    exact ih _ (allocTracked_inv w a .cstring hi hok.1.2) hok.2

theorem allocStrings_arrays (l : List Nat) (w : World) : (allocStrings w l).1.arrays = w.arrays := by
  induction l generalizing w with
  | nil => rfl
  | cons a as ih => simp only [allocStrings]; rw [ih, allocTracked_arrays]

theorem freeElems_preserves {I : World → Prop} (t : Ty)
    (hstep : ∀ w w' a f, I w → EvEffect w a w' f → I w') (l : List Nat) (w : World) (h : I w) :
    I (freeElems t w l).1 := by
  induction l generalizing w with
  | nil => exact h
  | cons a as ih =>
    unfold freeElems
    cases hf : free w.reg a t with
    | error x => simpa using ih w h
    | ok p =>
      obtain ⟨r, oe⟩ := p
      rcases (free_ok_iff _ _ _ _ _).1 hf with ⟨_, _, rfl⟩ | ⟨ha, ent, hg, rfl, rfl, _⟩
      · simpa using ih w h
      · simpa using ih _ (hstep _ _ _ _ h (.released ent ha hg))

theorem freeElems_inv (t : Ty) (l : List Nat) (w : World) (hi : Inv w) :
    Inv (freeElems t w l).1 ∧ (freeElems t w l).1.arrays = w.arrays :=
  ⟨freeElems_preserves t (fun _ _ _ _ hi h => h.inv hi) l w hi,
    freeElems_preserves (I := fun w' => w'.arrays = w.arrays) t
      (fun _ _ _ _ hi h => h.arrays.1.trans hi) l w rfl⟩

theorem freeElems_get_none (t : Ty) (l : List Nat) (w : World) (a : Nat) (hg : w.reg.get a = none) :
    (freeElems t w l).1.reg.get a = none :=
  freeElems_preserves (I := fun w' => w'.reg.get a = none) t
    (fun _ _ _ _ hi h => (h.get_none_or_eq a).elim id (· ▸ hi)) l w hg

theorem allocTracked_get_none (w : World) (t : Ty) {a b : Nat} (hb : b ≠ a)
    (hg : w.reg.get a = none) : (allocTracked w b t).1.reg.get a = none := by
  unfold allocTracked
  by_cases hb0 : b = 0
  · simpa [hb0] using hg
  · have : ¬ a = b := fun h => hb h.symm
    simp [hb0, track, Reg.get_insert, this, hg]

theorem allocStrings_get_none (l : List Nat) (w : World) {a : Nat} (hl : a ∉ l)
    (hg : w.reg.get a = none) : (allocStrings w l).1.reg.get a = none := by
  induction l generalizing w with
  | nil => exact hg
  | cons b bs ih =>
    simp only [allocStrings]
    exact ih _ (fun h => hl (List.mem_cons_of_mem _ h))
      (allocTracked_get_none w _ (fun h => hl (h ▸ List.mem_cons_self ..)) hg)

/-! ### the success path and a whole call -/

/-- The worlds the success path can end in — the old one; the old one after the release loop
over a live string array, minus that array; after one tracked allocation; after the allocation
of a string array — and what a clear `allocBad` flag then says: the allocations went to
addresses that were not live. -/
inductive Finished (w : World) (c : Call) : World → Bool → Prop
  | same {bad : Bool} : Finished w c w bad
  | arrayFreed {bad : Bool} (ar : ArrayEntry) (w1 : World) :
      w.arrayAt (argOf c.args 0).a = some ar → w1 = (freeElems c.row.elemTy w ar.elems).1 →
      Finished w c { w1 with arrays := w1.arrays.filter (fun x => x.addr != ar.addr),
                             cleanups := (ar.alloc, ar.addr) :: w1.cleanups } bad
  | tracked {bad : Bool} (t : Ty) :
      (bad = false → (allocTracked w (c.allocs.getD 0 0) t).2 = true) →
      Finished w c (allocTracked w (c.allocs.getD 0 0) t).1 bad
  | arrayTracked {bad : Bool} (arr : Nat) (revElems : List Nat) (w1 : World) :
      c.allocs.reverse = arr :: revElems → w1 = (allocStrings w revElems.reverse).1 →
      (bad = false → (allocStrings w revElems.reverse).2 = true ∧ w1.live arr = false) →
      Finished w c { w1 with
        arrays := { addr := arr, alloc := w1.next, elems := revElems.reverse } :: w1.arrays,
        next := w1.next + 1 } bad

theorem finish_cases {w : World} {c : Call} {fr : List Nat} {r : World × Outcome}
    (hr : finish w c fr = r) :
    r.2.fail = false ∧ r.2.ub = false ∧ Finished w c r.1 r.2.allocBad := by
  unfold finish at hr
  split at hr
  -- the row frees a string array: no array at the address / the array and its elements released
  · split at hr
    · subst hr; exact ⟨rfl, rfl, .same⟩
    · rename_i ar har
      subst hr; exact ⟨rfl, rfl, .arrayFreed ar _ har rfl⟩
  -- otherwise by the row's return type
  · split at hr
    -- `.handle`: one tracked allocation, `allocBad` also for the answer 0
    · subst hr
      refine ⟨rfl, rfl, .tracked _ fun h => ?_⟩
      simp only [Bool.not_eq_eq_eq_not, Bool.not_false, Bool.and_eq_true] at h
      exact h.1
    -- `.cstring`, `.cstringOpt`, `.bytes`: one tracked allocation
    · subst hr
      exact ⟨rfl, rfl, .tracked _ fun h => by simpa using h⟩
    · subst hr
      exact ⟨rfl, rfl, .tracked _ fun h => by simpa using h⟩
    · subst hr
      exact ⟨rfl, rfl, .tracked _ fun h => by simpa using h⟩
    -- `.strarray`: no answer at all / the strings, then the array
    · split at hr
      · subst hr; exact ⟨rfl, rfl, .same⟩
      · rename_i arr revElems hrev
        subst hr
        refine ⟨rfl, rfl, .arrayTracked arr revElems _ hrev rfl fun h => ?_⟩
        simp only [Bool.or_eq_false_iff, Bool.not_eq_eq_eq_not, Bool.not_false] at h
        exact ⟨h.1, h.2.2⟩
    -- `.int64`: bytes through an out parameter (NULL out pointer: nothing / one tracked
    -- allocation), or no out parameter
    · split at hr
      · split at hr
        · subst hr; exact ⟨rfl, rfl, .same⟩
        · subst hr
          exact ⟨rfl, rfl, .tracked _ fun h => by simpa using h⟩
      · subst hr; exact ⟨rfl, rfl, .same⟩
    -- `.unit`, `.int`, `.bool`: the world stays
    all_goals subst hr; exact ⟨rfl, rfl, .same⟩

theorem Finished.inv {w w' : World} {c : Call} {bad : Bool} (h : Finished w c w' bad) (hi : Inv w)
    (hok : bad = false) : Inv w' := by
  cases h with
  | same => exact hi
  | arrayFreed ar w1 har hw1 =>
    subst hw1
    obtain ⟨hi1, harr⟩ := freeElems_inv c.row.elemTy ar.elems w hi
    have hp := map_perm_cons_filter (·.addr) (·.alloc) _ ar hi1.akeys
      (List.mem_of_find?_eq_some (by rw [harr]; exact har))
    refine hi1.of_perm hi1.keys ((List.filter_sublist.map _).nodup hi1.akeys) ?_ rfl
    simp only [World.ids, List.map_cons]
    -- R ++ (A' ++ i :: C) ~ R ++ (i :: A' ++ C) ~ R ++ (A ++ C)
    exact List.Perm.append_left _ (List.perm_middle.trans (hp.symm.append_right _))
  | tracked t hb => exact allocTracked_inv _ _ _ hi (hb hok)
  | arrayTracked arr revElems w1 _ hw1 hb =>
    subst hw1
    obtain ⟨hok1, hnl⟩ := hb hok
    have hi1 := allocStrings_inv revElems.reverse w hi hok1
    obtain ⟨_, hna⟩ := World.live_false _ _ hnl
    refine hi1.alloc hi1.keys ?_ ?_ rfl
    · simp only [List.map_cons]; exact List.nodup_cons.2 ⟨hna, hi1.akeys⟩
    · simp only [World.ids, List.map_cons, List.cons_append]
      exact List.perm_middle

/-- The four ways a call ends, by the result `r` of its guard sequence (the world `r.1`, the
addresses `r.2.1` released so far, the stop `r.2.2`): undefined behaviour, the world untouched; the
success path `finish`, when no guard stopped (or one took its NULL branch) and the SDK operation
succeeded; the error value (a guard stored an error, a silent NULL return, or the SDK operation
failed), the world as the guards left it; an early success on NULL. -/
inductive Stepped (w : World) (c : Call) (r : World × List Nat × Option Stop) : World × Outcome → Prop
  | ub : r.2.2 = some .ub → Stepped w c r (w, { ub := true })
  | finished : (r.2.2 = none ∨ r.2.2 = some .alt) → c.inner = true →
      Stepped w c r (finish r.1 c r.2.1)
  | failed (e : LastErr) : (r.2.2 = some (.err e) ∨ (r.2.2 = some .silent ∧ e = .none)
        ∨ ((r.2.2 = none ∨ r.2.2 = some .alt) ∧ c.inner = false ∧ e = .other)) →
      Stepped w c r (r.1, { fail := true, err := e, freed := r.2.1 })
  | okEarly : r.2.2 = some .okEarly → Stepped w c r (r.1, { freed := r.2.1 })

/-- (`hr` and `hx` make the cases speak of variables: at the uses `hr` is `rfl` or the caller's own
equation, `hx` comes from `generalize`.) -/
theorem step_cases {w : World} {c : Call} {r : World × List Nat × Option Stop} {x : World × Outcome}
    (hr : runEvents c.row c.args w [] c.row.events = r) (hx : step w c = x) : Stepped w c r x := by
  subst hx
  unfold step
  rw [hr]
  clear hr
  -- `dsimp only` reduces the projections of the triple once; left to unification they are slow
  rcases r with ⟨w1, fr, _ | e | _ | _ | _ | _⟩ <;> dsimp only
  case none | some.alt =>
    -- the `if` is reduced by hand: left to the unification with the arm's result it unfolds `finish`
    cases hin : c.inner
    · rw [if_neg Bool.false_ne_true]
      exact .failed .other (.inr (.inr ⟨by simp, hin, rfl⟩))
    · rw [if_pos rfl]
      exact .finished (by simp) hin
  case some.err => exact .failed e (.inl rfl)
  case some.silent => exact .failed .none (.inr (.inl ⟨rfl, rfl⟩))
  case some.okEarly => exact .okEarly rfl
  case some.ub => exact .ub rfl

theorem step_fail {w : World} {c : Call} {r : World × List Nat × Option Stop}
    (hr : runEvents c.row c.args w [] c.row.events = r) (hf : (step w c).2.fail = true) :
    ∃ e, step w c = (r.1, { fail := true, err := e, freed := r.2.1 }) ∧
      (r.2.2 = some (.err e) ∨ (r.2.2 = some .silent ∧ e = .none)
        ∨ ((r.2.2 = none ∨ r.2.2 = some .alt) ∧ c.inner = false ∧ e = .other)) := by
  generalize hx : step w c = x at hf ⊢
  cases step_cases hr hx with
  | ub | okEarly => cases hf
  | finished => rw [(finish_cases rfl).1] at hf; cases hf
  | failed e h => exact ⟨e, rfl, h⟩

theorem step_inv (w : World) (c : Call) (hi : Inv w) (hok : (step w c).2.allocBad = false) :
    Inv (step w c).1 := by
  have hre := runEvents_inv c.row c.args c.row.events w [] hi
  generalize hx : step w c = x at hok ⊢
  cases step_cases rfl hx with
  | ub => exact hi
  | finished => exact (finish_cases rfl).2.2.inv hre hok
  | failed | okEarly => exact hre

/-! ### an untracked address stays untracked over a whole call and a run, unless the allocator
answers it -/

theorem Finished.get_none {w w' : World} {c : Call} {bad : Bool} (h : Finished w c w' bad) {a : Nat}
    (ha : a ≠ 0) (hna : a ∉ c.allocs) (hg : w.reg.get a = none) : w'.reg.get a = none := by
  cases h with
  | same => exact hg
  | arrayFreed ar w1 _ hw1 => exact hw1 ▸ freeElems_get_none c.row.elemTy ar.elems w a hg
  | tracked t _ =>
    refine allocTracked_get_none w _ (fun h => ?_) hg
    cases hl : c.allocs with
    | nil => simp [hl] at h; exact ha h.symm
    | cons x xs => simp [hl] at h; apply hna; rw [hl, ← h]; exact List.mem_cons_self ..
  | arrayTracked arr revElems w1 hrev hw1 _ =>
    subst hw1
    refine allocStrings_get_none _ _ (fun hm => hna ?_) hg
    have : a ∈ c.allocs.reverse := by rw [hrev]; exact List.mem_cons_of_mem _ (List.mem_reverse.1 hm)
    exact List.mem_reverse.1 this

theorem step_get_none (w : World) (c : Call) (a : Nat) (ha : a ≠ 0) (hna : a ∉ c.allocs)
    (hg : w.reg.get a = none) : (step w c).1.reg.get a = none := by
  have hre := (runEvents_get_none_or_eq c.row c.args c.row.events w [] a).elim id (· ▸ hg)
  generalize hx : step w c = x
  cases step_cases rfl hx with
  | ub => exact hg
  | finished => exact (finish_cases rfl).2.2.get_none ha hna hre
  | failed | okEarly => exact hre

theorem run_get_none (cs : List Call) (w : World) (a : Nat) (ha : a ≠ 0)
    (hna : ∀ c ∈ cs, a ∉ c.allocs) (hg : w.reg.get a = none) : (run w cs).1.reg.get a = none := by
  induction cs generalizing w with
  | nil => exact hg
  | cons c cs ih =>
    simp only [run]
    exact ih _ (fun c' hc' => hna c' (List.mem_cons_of_mem _ hc'))
      (step_get_none w c a ha (hna c (List.mem_cons_self ..)) hg)

end C2pa.C31
