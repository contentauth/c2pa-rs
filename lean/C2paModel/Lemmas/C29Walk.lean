import C2paModel.Model.C29
/-! C29 — the path walk: its equations, composition, monotonicity, what a result says about
the tree. -/
namespace C2pa.C29

/-! The equations of `walk`, in the order of its definition. `fun_induction walk` has one case
for each way through it: 1 the path has ended, 2 no fuel left, 3 an empty or `.` segment, 4 `..`,
then for a name `s`: 5 and 6 nothing there (only separators follow / more follows), 7 a
directory, 8 and 9 a file (in last position / not), 10 a link in last position that is not
followed, 11 a link with empty target, 12 a link that is followed. -/
section equations
variable {fs : FS} {fl : Bool} {f : Nat} {cur : PPath} {s : Str} {rest : List Str}

theorem walk_nil : walk fs fl f cur [] = .found cur .dir f := by
  rw [walk]

theorem walk_skip (h : s = [] ∨ s = [46]) :
    walk fs fl (f + 1) cur (s :: rest) = walk fs fl f cur rest := by
  rw [walk, if_pos h]

theorem walk_up : walk fs fl (f + 1) cur ([46, 46] :: rest) = walk fs fl f cur.dropLast rest := by
  rw [walk, if_neg (by decide), if_pos rfl]

variable (h1 : ¬(s = [] ∨ s = [46])) (h2 : s ≠ [46, 46])
include h1 h2

theorem walk_none (hl : fs.look (cur ++ [s]) = none) :
    walk fs fl (f + 1) cur (s :: rest) =
      if rest.all (fun r => r = []) then .absent cur s (!rest.isEmpty) f else .err .enoent := by
  rw [walk, if_neg h1, if_neg h2, hl]

theorem walk_dir (hl : fs.look (cur ++ [s]) = some .dir) :
    walk fs fl (f + 1) cur (s :: rest) = walk fs fl f (cur ++ [s]) rest := by
  rw [walk, if_neg h1, if_neg h2, hl]

theorem walk_file {c : Str} (hl : fs.look (cur ++ [s]) = some (.file c)) :
    walk fs fl (f + 1) cur (s :: rest) =
      if rest = [] then .found (cur ++ [s]) (.file c) f else .err .enotdir := by
  rw [walk, if_neg h1, if_neg h2, hl]

theorem walk_link {t : Str} (hl : fs.look (cur ++ [s]) = some (.link t)) :
    walk fs fl (f + 1) cur (s :: rest) =
      if rest = [] ∧ fl = false then .found (cur ++ [s]) (.link t) f
      else if t = [] then .err .enoent
      else walk fs fl f (if isRooted t then [] else cur) (splitSlash t ++ rest) := by
  rw [walk, if_neg h1, if_neg h2, hl]

end equations

theorem walk_skips (fs : FS) (fl : Bool) : ∀ (sk : List Str) (f : Nat) (cur : PPath),
    (∀ s ∈ sk, isSkip s = true) →
    walk fs fl f cur sk = if sk.length ≤ f then .found cur .dir (f - sk.length) else .err .eloop := by
  intro sk
  induction sk with
  | nil => intro f cur _; simp [walk_nil]
  | cons s rest ih =>
    intro f cur h
    have hs : s = [] ∨ s = [46] := by simpa [isSkip] using h s (by simp)
    cases f with
    | zero => rfl
    | succ f =>
      rw [walk_skip hs, ih f cur (fun x hx => h x (by simp [hx]))]
      simp only [List.length_cons, Nat.add_le_add_iff_right, Nat.add_sub_add_right]

/-- How the walk of `X ++ Y` continues after the walk of `X`. (The walk of `X` follows links, so it
never answers with one: the value in that arm is not used.) -/
def Res.andThen (fs : FS) (fl : Bool) (r : Res) (Y : List Str) : Res :=
  match r with
  | .found p .dir g => walk fs fl g p Y
  | .found _ (.file _) _ => .err .enotdir
  | .found _ (.link _) _ => .err .enoent
  | .absent d n _ g => if Y.all (fun r => r = []) then .absent d n true g else .err .enoent
  | .err e => .err e

/-- `Y ≠ []`: the last segment of `X` is then not the last of the path, where a file, a link that is
not followed and trailing separators are treated differently. -/
theorem walk_append (fs : FS) (fl : Bool) (f : Nat) (cur : PPath) (X Y : List Str) (hY : Y ≠ []) :
    walk fs fl f cur (X ++ Y) = (walk fs true f cur X).andThen fs fl Y := by
  fun_induction walk fs true f cur X
  case case1 => rfl
  case case2 => rfl
  case case3 h ih => rw [List.cons_append, walk_skip h, ih]
  case case4 ih => rw [List.cons_append, walk_up, ih]
  case case5 f cur s rest h1 h2 hl hr =>
    have he : (rest ++ Y).isEmpty = false := by simp [hY]
    rw [List.cons_append, walk_none h1 h2 hl, List.all_append, hr, he]
    simp [Res.andThen]
  case case6 h1 h2 hl hr =>
    rw [List.cons_append, walk_none h1 h2 hl, List.all_append, Bool.eq_false_iff.2 hr]
    rfl
  case case7 h1 h2 hl ih => rw [List.cons_append, walk_dir h1 h2 hl, ih]
  case case8 h1 h2 c hl =>
    rw [List.cons_append, walk_file h1 h2 hl]
    simp [Res.andThen, hY]
  case case9 h1 h2 c hl hr =>
    rw [List.cons_append, walk_file h1 h2 hl]
    simp [Res.andThen, hr]
  case case10 h => simp at h
  case case11 h1 h2 _ hl =>
    rw [List.cons_append, walk_link h1 h2 hl]
    simp [Res.andThen, hY]
  case case12 h1 h2 t hl _ ht ih =>
    rw [List.cons_append, walk_link h1 h2 hl, ← List.append_assoc, ← ih]
    simp [hY, ht]

theorem walk_append_found {fs : FS} {fl : Bool} {f : Nat} {cur : PPath} {A B : List Str}
    (hB : B ≠ []) {p : PPath} {k : Kind} {g : Nat}
    (h : walk fs fl f cur (A ++ B) = .found p k g) :
    ∃ p' g', walk fs true f cur A = .found p' .dir g' ∧ walk fs fl g' p' B = .found p k g := by
  rw [walk_append _ _ _ _ _ _ hB] at h
  cases hA : walk fs true f cur A with
  | err e => rw [hA] at h; cases h
  | absent d n tr g' =>
    rw [hA, Res.andThen] at h
    split at h <;> cases h
  | found p' k' g' =>
    rw [hA] at h
    cases k' with
    | dir => exact ⟨p', g', rfl, h⟩
    | file c => cases h
    | link t => cases h

/-! A path is handled as a front part `X` and what follows it. The walk of `X ++ Y` starts where
the first segment of `X` says, so the front part alone is walked from there too: `[""]` is then
`/`, which as a path of its own would be the empty path (`Env.start` takes `""` for the root only
when a second segment follows). -/

def Env.frontStart (env : Env) : Segs → PPath
  | [] :: _ => []
  | _ => env.cwd

abbrev walkS (fs : FS) (env : Env) (fl : Bool) (X : Segs) : Res :=
  walk fs fl env.fuel (env.frontStart X) X

theorem frontStart_append (env : Env) {X : Segs} (hX : X ≠ []) (Y : Segs) :
    env.frontStart (X ++ Y) = env.frontStart X := by
  match X, hX with
  | [] :: _, _ => rfl
  | (_ :: _) :: _, _ => rfl

theorem walkP_eq_walkS (fs : FS) (env : Env) (fl : Bool) {X : Segs} (h : emptyPath X = false) :
    walkP fs env fl X = walkS fs env fl X := by
  have : env.start X = env.frontStart X := by
    match X, h with
    | [], h => exact absurd h (by decide)
    | [[]], h => exact absurd h (by decide)
    | [] :: _ :: _, _ => rfl
    | [_ :: _], _ => rfl
    | (_ :: _) :: _ :: _, _ => rfl
  rw [walkP, h, this]
  rfl

theorem emptyPath_append {X Y : Segs} (hX : X ≠ []) (hY : Y ≠ []) : emptyPath (X ++ Y) = false := by
  match X, Y, hX, hY with
  | _ :: X, _ :: _, _, _ => cases X <;> simp [emptyPath]

theorem walkP_below (fs : FS) (env : Env) (fl : Bool) {X Y : Segs} (hX : X ≠ []) (hY : Y ≠ []) :
    walkP fs env fl (X ++ Y) = (walkS fs env true X).andThen fs fl Y := by
  rw [walkP_eq_walkS _ _ _ (emptyPath_append hX hY), walkS, frontStart_append env hX,
    walk_append _ _ _ _ _ _ hY]

theorem walk_nofollow (fs : FS) (f : Nat) (cur : PPath) (X : List Str) :
    walk fs false f cur X = walk fs true f cur X ∨
      ∃ q t g, walk fs false f cur X = .found q (.link t) g := by
  fun_induction walk fs true f cur X
  case case1 => exact .inl walk_nil
  case case2 => exact .inl rfl
  case case3 h ih => rwa [walk_skip h]
  case case4 ih => rwa [walk_up]
  case case5 h1 h2 hl hr => exact .inl (by rw [walk_none h1 h2 hl, if_pos hr])
  case case6 h1 h2 hl hr => exact .inl (by rw [walk_none h1 h2 hl, if_neg hr])
  case case7 h1 h2 hl ih => rwa [walk_dir h1 h2 hl]
  case case8 h1 h2 c hl => exact .inl (by rw [walk_file h1 h2 hl, if_pos rfl])
  case case9 h1 h2 c hl hr => exact .inl (by rw [walk_file h1 h2 hl, if_neg hr])
  case case10 h => simp at h
  case case11 f cur s rest h1 h2 _ hl =>
    rw [walk_link h1 h2 hl]
    by_cases hr : rest = []
    · exact .inr ⟨_, _, _, if_pos ⟨hr, rfl⟩⟩
    · exact .inl (by rw [if_neg (fun h => hr h.1), if_pos rfl])
  case case12 f cur s rest h1 h2 t hl _ ht ih =>
    rw [walk_link h1 h2 hl]
    by_cases hr : rest = []
    · exact .inr ⟨_, _, _, if_pos ⟨hr, rfl⟩⟩
    · rwa [if_neg (fun h => hr h.1), if_neg ht]

theorem walk_nofollow_front_found {fs : FS} {f : Nat} {cur : PPath} {A B : List Str} {p : PPath}
    {k : Kind} {g : Nat} (h : walk fs true f cur (A ++ B) = .found p k g) :
    ∃ q k' g', walk fs false f cur A = .found q k' g' := by
  have hA : ∃ p' k' g', walk fs true f cur A = .found p' k' g' := by
    by_cases hB : B = []
    · exact ⟨p, k, g, by rwa [hB, List.append_nil] at h⟩
    · obtain ⟨p', g', h1, _⟩ := walk_append_found hB h
      exact ⟨p', _, g', h1⟩
  obtain ⟨p', k', g', hA⟩ := hA
  rcases walk_nofollow fs f cur A with h1 | ⟨q, t, g'', h1⟩
  · exact ⟨p', k', g', h1.trans hA⟩
  · exact ⟨q, _, g'', h1⟩

/-- What the answer of a walk says about the tree `fs`. When the segments run out the walk answers
`.dir` for the place it stands at without looking it up, and the start or the result of a `..` need
not be a node of the tree: hence `k = .dir ∨ …`. -/
def Res.Sound (fs : FS) (fl : Bool) : Res → Prop
  | .found q k _ => (k = .dir ∨ fs.look q = some k) ∧ (fl = true → ∀ t, k ≠ .link t)
  | .absent d n _ _ => fs.look (d ++ [n]) = none
  | .err _ => True

theorem walk_sound (fs : FS) (fl : Bool) (f : Nat) (cur : PPath) (X : List Str) :
    (walk fs fl f cur X).Sound fs fl := by
  fun_induction walk fs fl f cur X
  case case1 => exact ⟨.inl rfl, fun _ _ => nofun⟩
  case case8 hl => exact ⟨.inr hl, fun _ _ => nofun⟩
  case case10 hl h => exact ⟨.inr hl, fun hfl => nomatch hfl ▸ h.2⟩
  case case5 hl _ => exact hl
  case case2 | case6 | case9 | case11 => trivial
  all_goals assumption

theorem walkP_sound (fs : FS) (env : Env) (fl : Bool) (p : Segs) :
    (walkP fs env fl p).Sound fs fl := by
  unfold walkP
  split
  · trivial
  · exact walk_sound ..

theorem walk_true_not_link (fs : FS) : ∀ (f : Nat) (cur : PPath) (X : List Str) q t g,
    walk fs true f cur X ≠ .found q (.link t) g := by
  intro f cur X q t g h
  have := walk_sound fs true f cur X
  rw [h] at this
  exact this.2 rfl t rfl

def FS.le (fs fs' : FS) : Prop := ∀ p k, fs.look p = some k → fs'.look p = some k

theorem FS.le_refl (fs : FS) : fs.le fs := fun _ _ h => h

theorem FS.le_trans {a b c : FS} (h1 : a.le b) (h2 : b.le c) : a.le c :=
  fun p k h => h2 p k (h1 p k h)

theorem walk_mono {fs fs' : FS} (hle : fs.le fs') {fl : Bool} {f : Nat} {cur : PPath}
    {X : List Str} {q : PPath} {k : Kind} {g : Nat}
    (h : walk fs fl f cur X = .found q k g) : walk fs' fl f cur X = .found q k g := by
  fun_induction walk fs fl f cur X
  case case1 => rwa [walk_nil]
  case case3 hs ih => rw [walk_skip hs]; exact ih h
  case case4 ih => rw [walk_up]; exact ih h
  case case7 h1 h2 hl ih => rw [walk_dir h1 h2 (hle _ _ hl)]; exact ih h
  case case8 h1 h2 c hl => rwa [walk_file h1 h2 (hle _ _ hl), if_pos rfl]
  case case10 h1 h2 t hl hc => rwa [walk_link h1 h2 (hle _ _ hl), if_pos hc]
  case case12 h1 h2 t hl hc ht ih =>
    rw [walk_link h1 h2 (hle _ _ hl), if_neg hc, if_neg ht]; exact ih h
  all_goals cases h

end C2pa.C29
