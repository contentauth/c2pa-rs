import C2paModel.Model.C07Base
import C2paModel.Lemmas.List
/-
Layer A (segment lists, any format), shared by the C07 / C08 / C09 / C12 property files: `strip` and
`manifests` are the two complementary filters of a container, `writeA` is "strip, then insert one manifest
segment at `insIdx`", so every fact about it is read off a split of the stripped list; then byte-level
facts about `slice` on a file `pre ++ w ++ post` and the soundness of the offset pivot rule.
-/
namespace C2pa.C07

theorem ser_append (a b : List Seg) : ser (a ++ b) = ser a ++ ser b := by
  simp [ser, List.flatMap_append]

theorem ser_cons (x : Seg) (r : List Seg) : ser (x :: r) = x.raw ++ ser r := by
  simp [ser, List.flatMap_cons]

theorem ser_nil : ser [] = [] := rfl

theorem writeA_def (F : Fmt) (c : List Seg) (s : Bytes) :
    writeA F c s = (strip c).take (insIdx F c) ++ mseg F s :: (strip c).drop (insIdx F c) := rfl

theorem isM_mseg (F : Fmt) (s : Bytes) : isM (mseg F s) = true := rfl

theorem not_isM_of_mem_strip {c : List Seg} {x : Seg} (h : x ∈ strip c) : isM x = false := by
  have := (List.mem_filter.1 h).2
  simpa using this

theorem strip_eq_self {l : List Seg} (h : ∀ x ∈ l, isM x = false) : strip l = l := by
  unfold strip
  apply List.filter_eq_self.2
  intro x hx; simp [h x hx]

theorem manifests_eq_nil {l : List Seg} (h : ∀ x ∈ l, isM x = false) : manifests l = [] := by
  unfold manifests
  apply List.filter_eq_nil_iff.2
  intro x hx; simp [h x hx]

theorem strip_eq_self_of_manifests_nil {c : List Seg} (h : manifests c = []) : strip c = c :=
  strip_eq_self fun x hx => by
    cases hm : isM x
    · rfl
    · have : x ∈ manifests c := List.mem_filter.2 ⟨hx, hm⟩
      rw [h] at this; cases this

theorem strip_append (a b : List Seg) : strip (a ++ b) = strip a ++ strip b := by
  simp [strip, List.filter_append]

theorem manifests_append (a b : List Seg) : manifests (a ++ b) = manifests a ++ manifests b := by
  simp [manifests, List.filter_append]

theorem strip_strip (c : List Seg) : strip (strip c) = strip c :=
  strip_eq_self fun _ hx => not_isM_of_mem_strip hx

theorem manifests_strip (c : List Seg) : manifests (strip c) = [] :=
  manifests_eq_nil fun _ hx => not_isM_of_mem_strip hx

/-! ### `writeA` on a split of the stripped list -/

theorem insIdx_of_split {F : Fmt} {c Lx Rx : List Seg} (h : strip c = Lx ++ Rx)
    (hi : F.pos c = Lx.length) : insIdx F c = Lx.length := by
  rw [insIdx, hi, h, List.length_append]; exact Nat.min_eq_left (Nat.le_add_right _ _)

theorem writeA_of_split {F : Fmt} {c Lx Rx : List Seg} (s : Bytes) (h : strip c = Lx ++ Rx)
    (hi : F.pos c = Lx.length) : writeA F c s = Lx ++ mseg F s :: Rx := by
  rw [writeA_def, insIdx_of_split h hi, h, List.take_left' rfl, List.drop_left' rfl]

theorem caiOff_of_split {F : Fmt} {c Lx Rx : List Seg} (h : strip c = Lx ++ Rx)
    (hi : F.pos c = Lx.length) : caiOff F c = (ser Lx).length := by
  rw [caiOff, offAt, insIdx_of_split h hi, h, List.take_left' rfl]

theorem strip_cons_mseg (F : Fmt) (s : Bytes) (R : List Seg) : strip (mseg F s :: R) = strip R :=
  List.filter_cons_of_neg (by rw [isM_mseg]; decide)

theorem manifests_cons_mseg (F : Fmt) (s : Bytes) (R : List Seg) :
    manifests (mseg F s :: R) = mseg F s :: manifests R :=
  List.filter_cons_of_pos (isM_mseg F s)

theorem strip_writeA (F : Fmt) (c : List Seg) (s : Bytes) : strip (writeA F c s) = strip c := by
  rw [writeA_def, strip_append, strip_cons_mseg, ← strip_append, List.take_append_drop, strip_strip]

theorem manifests_writeA (F : Fmt) (c : List Seg) (s : Bytes) :
    manifests (writeA F c s) = [mseg F s] := by
  rw [writeA_def, manifests_append, manifests_cons_mseg,
    manifests_eq_nil fun _ hx => not_isM_of_mem_strip (List.mem_of_mem_take hx),
    manifests_eq_nil fun _ hx => not_isM_of_mem_strip (List.mem_of_mem_drop hx)]
  rfl

theorem manifests_writeA_le_one (F : Fmt) (c : List Seg) (s : Bytes) :
    (manifests (writeA F c s)).length ≤ 1 := by
  rw [manifests_writeA]; exact Nat.le_refl 1

theorem manifests_removeA_le_one (c : List Seg) : (manifests (removeA c)).length ≤ 1 := by
  rw [removeA, manifests_strip]; exact Nat.zero_le 1

theorem readA_none {F : Fmt} {c : List Seg} (h : manifests c = []) : readA F c = .none := by
  unfold readA; rw [h]

theorem readA_one {F : Fmt} {c : List Seg} {m : Seg} {s : Bytes} (h : manifests c = [m])
    (hu : F.unwrap m.raw = some s) : readA F c = .ok s := by
  unfold readA; rw [h]; simp only [hu]

theorem readA_many {F : Fmt} {c : List Seg} (h : 2 ≤ (manifests c).length) : readA F c = .many := by
  unfold readA
  split
  · rename_i e; rw [e] at h; cases h
  · rename_i e; rw [e] at h; exact absurd h (Nat.not_succ_le_self 1)
  · rfl

/-! ### the written file as `pre ++ wrap s ++ post`; `slice`, `take`, `drop` on such a file -/

theorem ser_writeA (F : Fmt) (c : List Seg) (s : Bytes) :
    ser (writeA F c s) =
      ser ((strip c).take (insIdx F c)) ++ F.wrap s ++ ser ((strip c).drop (insIdx F c)) := by
  unfold writeA
  rw [ser_append, ser_cons]
  simp [mseg, List.append_assoc]

theorem ser_strip_split (F : Fmt) (c : List Seg) :
    ser ((strip c).take (insIdx F c)) ++ ser ((strip c).drop (insIdx F c)) = ser (strip c) := by
  rw [← ser_append, List.take_append_drop]

theorem slice_app (p m q : Bytes) (k n : Nat) (hk : k = p.length) (hn : n = m.length) :
    slice (p ++ (m ++ q)) k n = m := by
  subst hk; subst hn; simp [slice]

theorem slice_mid (pre w post : Bytes) : slice (pre ++ w ++ post) pre.length w.length = w := by
  rw [List.append_assoc]; exact slice_app _ _ _ _ _ rfl rfl

theorem take_pre (pre w post : Bytes) : (pre ++ w ++ post).take pre.length = pre := by
  rw [List.append_assoc, List.take_left']; rfl

theorem drop_post (pre w post : Bytes) : (pre ++ w ++ post).drop (pre.length + w.length) = post := by
  have : pre.length + w.length = (pre ++ w).length := by simp
  rw [this, List.drop_left']; rfl

theorem splice_local (pre w₁ w₂ post : Bytes) (h : w₁.length = w₂.length) :
    (pre ++ w₁ ++ post).length = (pre ++ w₂ ++ post).length ∧
    (pre ++ w₁ ++ post).take pre.length = (pre ++ w₂ ++ post).take pre.length ∧
    (pre ++ w₁ ++ post).drop (pre.length + w₁.length)
      = (pre ++ w₂ ++ post).drop (pre.length + w₁.length) ∧
    ∀ j, (j < pre.length ∨ pre.length + w₁.length ≤ j) →
      (pre ++ w₁ ++ post)[j]? = (pre ++ w₂ ++ post)[j]? := by
  have ht : (pre ++ w₁ ++ post).take pre.length = (pre ++ w₂ ++ post).take pre.length := by
    rw [take_pre, take_pre]
  have hd : (pre ++ w₁ ++ post).drop (pre.length + w₁.length)
      = (pre ++ w₂ ++ post).drop (pre.length + w₁.length) := by
    rw [drop_post, h, drop_post]
  exact ⟨by simp only [List.length_append, h], ht, hd,
    fun j hj => Data.getElem?_outside_mid pre w₂ w₁ post h j (h ▸ hj)⟩

/-! ### offsets across a replaced region -/

theorem slice_before (pre old new post : Bytes) (o n : Nat) (h : o + n ≤ pre.length) :
    slice (pre ++ new ++ post) o n = slice (pre ++ old ++ post) o n := by
  unfold slice
  have e : ∀ w : Bytes, ((pre ++ w ++ post).drop o).take n = (pre.drop o).take n := by
    intro w
    rw [List.append_assoc, List.drop_append_of_le_length (by omega)]
    rw [List.take_append_of_le_length (by simp; omega)]
  rw [e new, e old]

theorem slice_after (pre old new post : Bytes) (o n : Nat) (h : pre.length + old.length ≤ o) :
    slice (pre ++ new ++ post) (o - old.length + new.length) n = slice (pre ++ old ++ post) o n := by
  unfold slice
  have e : ∀ w : Bytes, ∀ k, ((pre ++ w ++ post).drop (pre.length + w.length + k)) = post.drop k := by
    intro w k
    have : pre.length + w.length + k = (pre ++ w).length + k := by simp
    rw [this, List.drop_append]
    simp
  obtain ⟨k, rfl⟩ : ∃ k, o = pre.length + old.length + k := ⟨o - (pre.length + old.length), by omega⟩
  have h1 : pre.length + old.length + k - old.length + new.length = pre.length + new.length + k := by omega
  rw [h1, e new k, e old k]

/-- The pivot rule of `adjust_known_offsets_from` (offsets below the end of
the replaced region stay, the others move by the size difference) is sound: for a file
`pre ++ old ++ post` rewritten to `pre ++ new ++ post`, every absolute offset `o` addressing
`n` bytes that do not straddle the replaced region addresses the same bytes at
`adjOff |pre| |old| |new| o` in the output. -/
theorem offset_shift_sound (pre old new post : Bytes) (o n : Nat)
    (h : o + n ≤ pre.length ∨ pre.length + old.length ≤ o) :
    slice (pre ++ new ++ post) (adjOff pre.length old.length new.length o) n
      = slice (pre ++ old ++ post) o n := by
  unfold adjOff
  rcases h with h | h
  · -- an empty range at `|pre|` with `old` empty takes the shifted branch
    by_cases hn : n = 0
    · subst hn; simp [slice]
    · have : o < pre.length + old.length := by omega
      rw [if_pos this]
      exact slice_before pre old new post o n h
  · have : ¬ o < pre.length + old.length := by omega
    rw [if_neg this]
    exact slice_after pre old new post o n h

end C2pa.C07
