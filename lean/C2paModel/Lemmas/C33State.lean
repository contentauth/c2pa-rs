import C2paModel.Model.C33
import C2paModel.Props.C04
/-
C33 — C04's `state` under the statuses an identity validation adds (for "CAWG failures never make
the manifest Invalid"), in C33's words. The facts are C04's (`C04.harmless_never_invalid`,
`C04.nontolerated_failure_in_sequence_invalid`, `C04.not_trusted_of_failure`); `Harmless`,
`harmless_never_invalid`, `addStatus_harmless_valid` and `nontolerated_in_sequence_invalid` state
them under the names the property's registry entry lists.
-/
namespace C2pa.C33

open C2pa.C04

/-- A status that cannot hurt: not a failure, or a failure whose code is tolerated. -/
def Harmless (s : Status) : Prop := s.kind = .failure → tolerated s.code = true

/-- The code is recorded as a failure somewhere in the results: `f ∈ C04.failures r`
(`hasFailure_iff`). -/
def HasFailure (r : Results) (f : Code) : Prop :=
  (∃ a, r.active = some a ∧ f ∈ a.failure) ∨ ∃ d ∈ deltasOf r, f ∈ d.codes.failure

theorem hasFailure_iff (r : Results) (f : Code) : HasFailure r f ↔ f ∈ failures r := by
  unfold HasFailure failures
  cases r.active <;> simp

theorem harmless_never_invalid (ss : List Status) (hs : ∀ s ∈ ss, Harmless s) (r : Results)
    (h : state r ≠ .invalid) : state (ss.foldl addStatus r) ≠ .invalid :=
  C04.harmless_never_invalid ss hs r h

theorem addStatus_harmless_valid (r : Results) (s : Status) (hs : Harmless s)
    (h : ValidCond r) : ValidCond (addStatus r s) :=
  (state_not_invalid_iff _).1 (C04.harmless_never_invalid [s]
    (List.forall_mem_singleton.2 hs) r ((state_not_invalid_iff r).2 h))

theorem valid_of_failure (r : Results) (f : Code) (hv : state r ≠ .invalid) (h : f ∈ failures r) :
    state r = .valid := by
  have := not_trusted_of_failure r f h
  cases hs : state r <;> simp_all

theorem nontolerated_in_sequence_invalid (ss : List Status) (s : Status) (hm : s ∈ ss)
    (hk : s.kind = .failure) (ht : tolerated s.code = false) :
    ∀ r : Results, state (ss.foldl addStatus r) = .invalid :=
  fun r => nontolerated_failure_in_sequence_invalid r ss s hm hk ht

theorem validCond_of_no_failure (a : Codes) (h1 : C04.cSigValidated ∈ a.success)
    (h2 : cInsideValidity ∈ a.success) (hf : a.failure = []) :
    ValidCond { active := some a, deltas := none } :=
  ⟨a, rfl, h1, h2, fun f h => (by rw [hf] at h; cases h), fun d h => (by cases h)⟩

end C2pa.C33
