import C2paModel.Lemmas.C13Excl
import C2paModel.Lemmas.C13Pieces
import C2paModel.Lemmas.C13Sort
/-
C13 — BMFF offset markers in the exclusion branch: splitting the remaining ranges at the
offsets, the "remaining offsets" rule, and the final stable sort.
-/
namespace C2pa.C13

/-- the marker piece at offset `o`; reducible, because unfolding the model (`remaining`, `splitRun`)
shows the literal `⟨o, o, true⟩` and the lemmas below have to apply to it -/
abbrev markerAt (o : Nat) : Piece := ⟨o, o, true⟩

theorem contains_markerAt (o x : Nat) : (markerAt o).contains x = true ↔ x = o := by
  show (decide (o ≤ x) && decide (x ≤ o)) = true ↔ x = o
  rw [Bool.and_eq_true, decide_eq_true_eq, decide_eq_true_eq]; omega

theorem anyContains_markerAt (os o : Nat) : anyContains [markerAt os] o = false ↔ o ≠ os := by
  rw [anyContains_cons, show anyContains [] o = false from rfl, Bool.or_false, Bool.eq_false_iff, Ne,
    contains_markerAt]

theorem dataCover_map_markerAt (D : List Nat) (x : Nat) : dataCover (D.map markerAt) x = false := by
  simp [dataCover, Piece.covers]

theorem markerCount_map_markerAt (D : List Nat) (x : Nat) : markerCount (D.map markerAt) x = D.count x := by
  simp [markerCount, List.countP_map, List.count, Function.comp_def]

/-! ### `splitRun`: one remaining range cut at the offsets that fall into it -/

/-- with what follows (`rest`) in the statement, so that `splitAll_WF` is its iteration and no lemma
about `WF` of an append is needed -/
theorem splitRun_WF {N : Nat} (starts : List Nat) (cur : Nat × Nat) (rest : List Piece) :
    ∀ k, cur.1 ≤ cur.2 → cur.2 < N → k ≤ cur.1 → WF N (cur.2 + 1) rest →
      WF N k (splitRun starts cur ++ rest) := by
  fun_induction splitRun starts cur with
  | case1 cur => intro k h1 h2 h3 h4; exact WF_cons_data.2 ⟨h3, h1, h2, h4⟩
  | case2 more cur hin ih =>
    intro k h1 h2 h3 h4
    exact WF_cons_marker.2 ⟨h3, Nat.lt_of_le_of_lt h1 h2, ih _ h1 h2 (Nat.le_refl _) h4⟩
  | case3 os more cur hin heq ih =>
    intro k h1 h2 h3 h4
    have hlt : cur.1 < os := Nat.lt_of_le_of_ne hin.1 heq
    have hN : os < N := Nat.lt_of_le_of_lt hin.2 h2
    have hpred : os - 1 + 1 = os := Nat.sub_add_cancel (Nat.zero_lt_of_lt hlt)
    exact WF_cons_data.2 ⟨h3, Nat.le_sub_one_of_lt hlt, Nat.lt_of_le_of_lt (Nat.sub_le os 1) hN,
      WF_cons_marker.2 ⟨Nat.le_of_eq hpred, hN, ih os hin.2 h2 (Nat.le_refl _) h4⟩⟩
  | case4 os more cur hin ih => exact ih

theorem splitRun_dataCover (starts : List Nat) (cur : Nat × Nat) (x : Nat) :
    dataCover (splitRun starts cur) x = (decide (cur.1 ≤ x) && decide (x ≤ cur.2)) := by
  fun_induction splitRun starts cur with
  | case1 cur => exact Bool.or_false _
  | case2 more cur hin ih => rw [dataCover_cons, ih]; rfl
  | case3 os more cur hin heq ih =>
    have hlt : cur.1 < os := by omega
    rw [dataCover_cons, dataCover_cons, ih]
    exact decide_le_and_le_cut hlt hin.2 x
  | case4 os more cur hin ih => exact ih

theorem splitRun_markerCount_out (starts : List Nat) (cur : Nat × Nat) (x : Nat) (h : cur.1 ≤ cur.2)
    (hx : ¬ (cur.1 ≤ x ∧ x ≤ cur.2)) : markerCount (splitRun starts cur) x = 0 := by
  have hw := splitRun_WF (N := cur.2 + 1) starts cur [] cur.1 h (Nat.lt_succ_self _) (Nat.le_refl _) trivial
  rw [List.append_nil] at hw
  exact (WF_outside _ _ x hw fun h' => hx ⟨h'.1, Nat.le_of_lt_succ h'.2⟩).1

theorem splitRun_markerCount_in (starts : List Nat) (cur : Nat × Nat) (x : Nat) :
    starts.Pairwise (· ≤ ·) → cur.1 ≤ x ∧ x ≤ cur.2 →
      markerCount (splitRun starts cur) x = starts.count x := by
  fun_induction splitRun starts cur with
  | case1 cur => intro _ _; rfl
  | case2 more cur hin ih =>
    intro hs hx
    rw [markerCount_cons_marker, ih (List.pairwise_cons.1 hs).2 hx, List.count_cons]
  | case3 os more cur hin heq ih =>
    intro hs hx
    rw [List.pairwise_cons] at hs
    rw [markerCount_cons_data, markerCount_cons_marker, List.count_cons]
    by_cases hox : os ≤ x
    · rw [ih hs.2 ⟨hox, hx.2⟩]
    · -- `x` lies before `os`, hence before every later offset
      rw [splitRun_markerCount_out more _ x hin.2 (fun h => hox h.1),
        List.count_eq_zero.2 fun hm => hox (hs.1 x hm)]
  | case4 os more cur hin ih =>
    intro hs hx
    rw [ih (List.pairwise_cons.1 hs).2 hx, List.count_cons, if_neg (by rw [beq_iff_eq]; omega)]
    rfl

def splitAll (starts : List Nat) (rs : List (Nat × Nat)) : List Piece := rs.flatMap (splitRun starts)

theorem splitAll_cons (starts : List Nat) (r : Nat × Nat) (rs : List (Nat × Nat)) :
    splitAll starts (r :: rs) = splitRun starts r ++ splitAll starts rs := List.flatMap_cons ..

theorem splitAll_WF {N : Nat} (starts : List Nat) : ∀ (rs : List (Nat × Nat)) (k : Nat),
    WFR N k rs → WF N k (splitAll starts rs)
  | [], _, _ => trivial
  | r :: rs, k, ⟨h1, h2, h3, h4⟩ => by
    rw [splitAll_cons]
    exact splitRun_WF starts r _ k h2 h3 h1 (splitAll_WF starts rs _ h4)

theorem splitAll_dataCover (starts : List Nat) (rs : List (Nat × Nat)) (x : Nat) :
    dataCover (splitAll starts rs) x = runCover rs x := by
  unfold dataCover splitAll runCover
  rw [List.any_flatMap]
  exact List.any_congr rfl fun r => splitRun_dataCover starts r x

/-- the ranges are the data pieces of `splitAll []`, so they lie behind `k` -/
theorem WFR_below {N : Nat} (rs : List (Nat × Nat)) (k x : Nat) (h : WFR N k rs) (hx : x < k) :
    runCover rs x = false := by
  rw [← splitAll_dataCover []]
  exact (WF_below _ k x (splitAll_WF [] rs k h) hx).2

theorem splitAll_markerCount {N : Nat} (starts : List Nat) (hs : starts.Pairwise (· ≤ ·)) (x : Nat) :
    ∀ (rs : List (Nat × Nat)) (k : Nat), WFR N k rs →
      markerCount (splitAll starts rs) x = if runCover rs x then starts.count x else 0
  | [], _, _ => rfl
  | r :: rs, k, ⟨h1, h2, h3, h4⟩ => by
    rw [splitAll_cons, markerCount_append, splitAll_markerCount starts hs x rs _ h4, runCover_cons]
    by_cases hx : r.1 ≤ x ∧ x ≤ r.2
    · -- the ranges are disjoint: no later one contains `x`
      rw [splitRun_markerCount_in starts r x hs hx, WFR_below rs (r.2 + 1) x h4 (by omega),
        (decide_le_and_le ..).2 hx]
      rfl
    · rw [splitRun_markerCount_out starts r x h2 hx, Nat.zero_add,
        Bool.eq_false_iff.2 (mt (decide_le_and_le ..).1 hx), Bool.false_or]

/-- a marker of `splitAll` sits at the start of a data piece, so it contains nothing new -/
theorem splitAll_anyContains {N : Nat} {starts : List Nat} (hs : starts.Pairwise (· ≤ ·))
    {rs : List (Nat × Nat)} {k : Nat} (hw : WFR N k rs) (x : Nat) :
    anyContains (splitAll starts rs) x = runCover rs x := by
  rw [anyContains_eq _ k x (splitAll_WF starts rs k hw), splitAll_dataCover,
    splitAll_markerCount starts hs x rs k hw]
  cases runCover rs x <;> simp

/-! ### "remaining offsets" -/

theorem remaining_test (vec : List Piece) (os before after : Nat) :
    (!vec.any (·.contains os) && decide (before < os) && decide (os < after)) = true ↔
      anyContains vec os = false ∧ before < os ∧ os < after := by
  simp [anyContains, and_assoc]

/-- `remaining` appends one marker for every offset of `starts` that no piece contains and that
lies strictly between `before` and `after`: one only, because an offset that got its marker is
contained in the grown vector -/
theorem remaining_spec (before after : Nat) (starts : List Nat) (vec : List Piece) :
    ∃ D : List Nat, remaining before after starts vec = vec ++ D.map markerAt ∧ D.Nodup ∧
      ∀ o, o ∈ D ↔ o ∈ starts ∧ anyContains vec o = false ∧ before < o ∧ o < after := by
  fun_induction remaining before after starts vec with
  | case1 vec => exact ⟨[], (List.append_nil _).symm, List.nodup_nil, by simp⟩
  | case2 os rest vec hc ih =>
    obtain ⟨D, hD, hnd, hm⟩ := ih
    simp only [anyContains_append, Bool.or_eq_false_iff, anyContains_markerAt] at hm
    refine ⟨os :: D, by rw [hD, List.append_assoc]; rfl,
      List.nodup_cons.2 ⟨fun h => ((hm os).1 h).2.1.2 rfl, hnd⟩, fun o => ?_⟩
    rw [List.mem_cons, hm, List.mem_cons]
    by_cases ho : o = os
    · subst ho; simp [(remaining_test ..).1 hc]
    · simp [ho]
  | case3 os rest vec hc ih =>
    obtain ⟨D, hD, hnd, hm⟩ := ih
    refine ⟨D, hD, hnd, fun o => ?_⟩
    rw [hm, List.mem_cons]
    by_cases ho : o = os
    · subst ho; simp [mt (remaining_test ..).2 hc]
    · simp [ho]

/-! ### inserting the gap markers keeps the list ordered -/

theorem insertAfter_marker_WF {N : Nat} (o : Nat) (L : List Piece) :
    ∀ k, WF N k L → k ≤ o → o < N → dataCover L o = false →
      WF N k (insertAfter Piece.lo (markerAt o) L) := by
  fun_induction insertAfter Piece.lo (markerAt o) L with
  | case1 => intro k _ h1 h2 _; exact ⟨h1, Nat.le_refl _, h2, rfl, trivial⟩
  | case2 p ps hle ih =>
    -- `p` starts at or before `o` and, if it is a data piece, ends before it: the marker goes behind `p`
    intro k ⟨w1, w2, w3, w4⟩ h1 h2 hc
    rw [dataCover_cons, Bool.or_eq_false_iff] at hc
    have hle' : p.lo ≤ o := hle
    refine ⟨w1, w2, w3, ?_⟩
    cases hm : p.marker <;> simp only [hm, if_true, Bool.false_eq_true, if_false] at w4 ⊢
    · exact ih (p.hi + 1) w4 (Nat.lt_of_not_le fun h =>
        Bool.eq_false_iff.1 hc.1 ((p.covers_iff o).2 ⟨hm, hle', h⟩)) h2 hc.2
    · exact ⟨w4.1, ih p.lo w4.2 hle' h2 hc.2⟩
  | case3 p ps hgt =>
    intro k ⟨w1, w2, w3, w4⟩ h1 h2 _
    have hlt : o ≤ p.lo := Nat.le_of_lt (Nat.lt_of_not_le hgt)
    exact ⟨h1, Nat.le_refl _, h2, rfl, hlt, w2, w3, w4⟩

theorem foldl_insert_WF {N : Nat} : ∀ (D : List Nat) (L : List Piece) (k : Nat), WF N k L →
    (∀ o ∈ D, k ≤ o ∧ o < N ∧ dataCover L o = false) →
    WF N k ((D.map markerAt).foldl (fun acc x => insertAfter Piece.lo x acc) L)
  | [], _, _, h, _ => h
  | o :: D, L, k, h, hD => by
    obtain ⟨g2, g3, g4⟩ := hD o (List.mem_cons_self ..)
    refine foldl_insert_WF D _ k (insertAfter_marker_WF o L k h g2 g3 g4) fun o' ho' => ?_
    obtain ⟨b, c, d⟩ := hD o' (List.mem_cons_of_mem _ ho')
    -- the inserted marker covers nothing
    exact ⟨b, c, ((insertAfter_perm Piece.lo (markerAt o) L).any_eq).trans d⟩

/-- the final `sort_by` applied to an ordered list followed by markers outside its data pieces -/
theorem stableSort_append_WF {N : Nat} (vec : List Piece) (D : List Nat) (hv : WF N 0 vec)
    (hD : ∀ o ∈ D, o < N ∧ dataCover vec o = false) :
    WF N 0 (stableSort Piece.lo (vec ++ D.map markerAt)) := by
  rw [stableSort_append, stableSort_of_sorted _ _ (WF_sorted vec 0 hv)]
  exact foldl_insert_WF D vec 0 hv fun o ho => ⟨Nat.zero_le _, hD o ho⟩

end C2pa.C13
