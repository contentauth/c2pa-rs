import C2paModel.Model.C03
import C2paModel.Props.C13
import C2paModel.Props.C14
/-
C03 — the definitions the theorem statements use (`HashOK`, `Laws`, `finalExcl`, `placeholderDH`,
`firstOut`, `rawDH`) and the lemmas under them: the C14 and the C15 view of a DataHash have the same
size (so C14's `pad_to_size` results apply to `updateDataHash`), what the hasher returns under
`HashOK`, and what the two passes of `start_save_stream` compute.
-/
namespace C2pa.C03
open C2pa

theorem hdr_eq (n : Nat) : C14.hdr n = C15.hdr n := rfl

theorem size_eq (d : DHash) :
    d.size = 1 + (if d.excl.isEmpty then 0 else 11 + C15.exclSize d.excl) +
      C15.optField 4 (some 14) + C15.optField 3 (some d.algLen) + (5 + C15.str d.hash.length) +
      (4 + C15.str d.pad) + C15.optField 4 d.pad2 := by
  obtain ⟨ex, _, _, _, _⟩ := d
  cases ex <;> rfl

theorem size_c14 (d : DHash) : C14.dhSize d.c14 = d.size := by
  unfold DHash.c14 DHash.rest DHash.size C14.dhSize C15.dhSize DHash.c15
  have h0 : C15.hdr 0 = 1 := by decide
  cases hp : d.pad2 with
  | none =>
    simp only [C15.optField, C14.optEntry, C15.str, hdr_eq, h0]
    omega
  | some m =>
    simp only [C15.optField, C14.optEntry, C14.entry, C15.str, hdr_eq, h0]
    omega

/-- An unpadded DataHash (the shape of `rawDH`) against one with the placeholder's 10 bytes of padding,
same algorithm and digest length: only the two `exclusions` members differ. -/
theorem size_le_placeholder (algLen : Nat) {h h0 : List UInt8} (hl : h.length = h0.length)
    (ex ex0 : List C15.Range) :
    (⟨ex, algLen, h, 0, none⟩ : DHash).size ≤ (⟨ex0, algLen, h0, 10, none⟩ : DHash).size ↔
      (if ex.isEmpty then 0 else 11 + C15.exclSize ex) ≤
        (if ex0.isEmpty then 0 else 11 + C15.exclSize ex0) + 10 := by
  have h10 : C15.str 10 = 11 := rfl
  have h0' : C15.str 0 = 1 := rfl
  rw [size_eq, size_eq]
  simp only [hl, h10, h0']
  omega

theorem rest_pad (d : DHash) (p : Nat) (p2 : Option Nat) :
    ({ d with pad := p, pad2 := p2 } : DHash).rest = d.rest := rfl

theorem updateDataHash_of_le (h : DHash) (want : Nat) (h2 : h.pad2 = none) (hle : h.size ≤ want) :
    ∃ p p2, updateDataHash h want = .ok { h with pad := p, pad2 := p2 } ∧
      ({ h with pad := p, pad2 := p2 } : DHash).size = want := by
  obtain ⟨d', hp, hsz, hrest⟩ :=
    C14.datahash_pad_exact h.c14 want h2 (by rw [size_c14]; exact hle)
  refine ⟨d'.pad, d'.pad2, by unfold updateDataHash; rw [hp], ?_⟩
  rw [← size_c14, ← hsz]
  show C14.dhSize ⟨h.rest, d'.pad, d'.pad2⟩ = C14.dhSize d'
  rw [show h.rest = d'.rest from hrest.symm]

theorem updateDataHash_of_gt (h : DHash) (want : Nat) (hgt : want < h.size) :
    updateDataHash h want = .error .jumbfCreation := by
  unfold updateDataHash
  rw [C14.padToSize_err _ _ (by rw [size_c14]; exact hgt)]

theorem isEmpty_of_length {l : List UInt8} {n : Nat} (h : l.length = n) (hn : 0 < n) :
    l.isEmpty = false := by
  cases l with
  | nil => exact absurd h (by simp; omega)
  | cons a t => rfl

/-- Everything `C13.excl_complete_of_count` needs besides a non-empty list: supported algorithm, non-empty stream within
`u64`, positive chunk size, ranges inside the stream, no `u32` progress-counter overflow. -/
structure HashOK (alg : String) (n : Nat) (rs : List C13.HashRange) (buf : Nat) : Prop where
  halg : C13.supported alg = true
  pos : 1 ≤ n
  len : n ≤ C13.u64Max
  hbuf : 0 < buf
  within : ∀ x ∈ rs, x.start + x.length ≤ n
  cnt : ∀ ps, C13.buildPieces n (some rs) true = .ok ps → C13.chunkCount buf ps ≤ C13.u32Max

theorem verifyBinding_of {H : List UInt8 → List UInt8} {alg : String} {asset : List UInt8}
    {dh : DHash} {buf : Nat} {pre : List UInt8} {prog : List (Nat × Nat)}
    (hh : C13.hashModel alg asset dh.ranges true buf none = .ok pre prog) (hd : dh.hash = H pre) :
    verifyBinding H alg asset dh buf = true := by
  unfold verifyBinding
  rw [hh, hd]
  exact beq_self_eq_true _

theorem hash_excl_of_agree {alg : String} {d d' : List UInt8} {rs : List C13.HashRange} {buf : Nat}
    (hne : rs ≠ []) (ok : HashOK alg d.length rs buf) (hl : d'.length = d.length)
    (h : ∀ x, C13.included d.length rs x = true → d'[x]? = d[x]?) :
    ∃ prog, C13.hashModel alg d' (some rs) true buf none = .ok (C13.exclSpec d rs) prog := by
  have ok' := hl ▸ ok
  obtain ⟨prog, hh⟩ := C13.excl_complete_of_count alg d' rs buf ok'.halg ok'.pos ok'.len ok'.hbuf hne
    ok'.within ok'.cnt
  exact ⟨prog, by rw [hh, C13.exclSpec_congr d d' rs hl h]⟩

/-- The exclusion list the second pass computes for an asset. -/
def finalExcl (a : Asset) : Option (List C15.Range) := exclusionsOf a.bytes.length a.locs true

/-- What the flow needs from a format handler, for payloads of the placeholder's length `n0`. -/
structure Laws (E : Env) (src : Asset) (n0 : Nat) : Prop where
  /-- for what it wrote, the handler reports a non-empty exclusion list inside the asset -/
  reported : ∀ j, j.length = n0 → ∃ ex, finalExcl (E.embed src j) = some ex ∧ ex ≠ [] ∧
    ∀ r ∈ ex, r.start + r.length ≤ (E.embed src j).bytes.length
  /-- the handler never writes an empty asset -/
  nonempty : ∀ j, j.length = n0 → 1 ≤ (E.embed src j).bytes.length
  /-- replacing the payload by one of equal length keeps the layout, the length, and every byte
  outside the reported exclusions -/
  stable : ∀ j j' ex, j.length = n0 → j'.length = n0 → finalExcl (E.embed src j) = some ex →
    (E.embed (E.embed src j) j').bytes.length = (E.embed src j).bytes.length ∧
    ∀ x, C13.included (E.embed src j).bytes.length (ex.map toHR) x = true →
      (E.embed (E.embed src j) j').bytes[x]? = (E.embed src j).bytes[x]?

/-- first-pass DataHash of the flow (zero digest, 10 bytes of padding) -/
def placeholderDH (alg : String) (src : Asset) (n : Nat) : DHash :=
  { excl := (exclusionsOf src.bytes.length src.locs false).getD [], algLen := alg.length
    hash := List.replicate n 0, pad := 10, pad2 := none }

/-- the output stream after the first pass: the source with the placeholder store embedded -/
abbrev firstOut (E : Env) (alg : String) (src : Asset) (n : Nat) : Asset :=
  E.embed src (E.jumbf (placeholderDH alg src n) E.sigPlaceholder)

/-- the second-pass DataHash before padding, for exclusion list `ex` and digest `h` -/
abbrev rawDH (alg : String) (ex : List C15.Range) (h : List UInt8) : DHash :=
  { excl := ex, algLen := alg.length, hash := h, pad := 0, pad2 := none }

/-! ### the two passes of `start_save_stream`

`_first`: `generate_data_hashes_for_stream` with `calc_hashes = false` (exclusions of the source, zero
digest); `_second`: with `true`, on the first-pass output. -/

theorem exclusionsOf_first (len : Nat) (locs : List Loc) :
    ∃ ex, exclusionsOf len locs false = some ex := by
  unfold exclusionsOf
  generalize scan (C13.stableSort Loc.offset locs) = s
  obtain ⟨a, b, f, o⟩ := s
  cases f
  · exact ⟨o, rfl⟩
  · by_cases h : b > a
    · exact ⟨o ++ [⟨a, b - a⟩], by simp [h]⟩
    · exact ⟨o, by simp [h]⟩

theorem exclusionsOf_single (len o l : Nat) (calcH : Bool) (hl : 0 < l)
    (hin : calcH = true → o + l ≤ len) :
    exclusionsOf len [⟨o, l, .cai⟩] calcH = some [⟨o, l⟩] := by
  have hs : scan (C13.stableSort Loc.offset [⟨o, l, .cai⟩]) = ⟨o, o + l, true, []⟩ := rfl
  unfold exclusionsOf
  rw [hs]
  cases calcH with
  | false => simp [hl]
  | true =>
    have := hin rfl
    simp [hl, this]
    omega

theorem genDataHash_first (H : List UInt8 → List UInt8) (alg : String) (src : Asset) (buf n : Nat)
    (hd : digestLen alg = some n) :
    genDataHash H alg src.bytes src.locs false buf = .ok { placeholderDH alg src n with pad := 0 } := by
  obtain ⟨ex, hex⟩ := exclusionsOf_first src.bytes.length src.locs
  unfold genDataHash placeholderDH
  simp [hex, hd]

theorem genDataHash_second {H : List UInt8 → List UInt8} {alg : String} {data : List UInt8}
    {locs : List Loc} {buf : Nat} {ex : List C15.Range} {pre : List UInt8} {prog : List (Nat × Nat)}
    (hex : exclusionsOf data.length locs true = some ex)
    (hh : C13.hashModel alg data (rawDH alg ex []).ranges true buf none = .ok pre prog)
    (hH : (H pre).isEmpty = false) :
    genDataHash H alg data locs true buf = .ok (rawDH alg ex (H pre)) := by
  unfold genDataHash
  rw [hex]
  simp only [if_true]
  rw [hh]
  simp only [hH, Bool.false_eq_true, if_false]

theorem ranges_of_ne (d : DHash) (h : d.excl ≠ []) : d.ranges = some (d.excl.map toHR) := by
  unfold DHash.ranges
  cases hd : d.excl with
  | nil => exact absurd hd h
  | cons a t => simp

end C2pa.C03
