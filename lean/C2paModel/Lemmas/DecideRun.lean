/-- Evaluates a closed run of the model. Every string literal is first spelt as its list of
characters: `String.toList_ofList` costs the kernel nothing, whereas the kernel left to itself
decodes the literal's UTF-8 bytes, at many times the cost of the run. Literals hidden inside a
definition are reached by unfolding that definition first. -/
macro "decide_run" : tactic => `(tactic| ((repeat rw [String.toList_ofList]); decide +kernel))
