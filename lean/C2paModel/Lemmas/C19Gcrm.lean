import C2paModel.Lemmas.C19Run
/-
C19 — what holds of a run of `gcrm` for every outcome: resource accounting, growth of the memo map,
classification of outcomes, fuel bounded by the claims not yet in the memo map. `GBounded` and
`GBudget` carry it (`G…` as in the model's `GSt`; `Lemmas/C19Ic` has the `I…` pair for
`ingredient_checks`).
-/
namespace C2pa.C19

/-- The state of a walk is well formed: what the pigeonhole arguments need of the label path and
of the memo map. -/
structure GBounded (s : Store) (lim : Nat) (st : GSt) : Prop where
  pnd : st.path.Nodup
  plt : ∀ x ∈ st.path, x < s.length
  plen : st.path.length ≤ lim
  mnd : st.map.Nodup
  mlt : ∀ x ∈ st.map, x < s.length

/-- What one call (k = 0) or one loop over `k` remaining ingredients may do to the state. Each
counter grows by no more than its budget, written without subtraction: expansions by the new memo
entries, inspections by `k` and the out-degrees of the new memo entries, comparisons by `lim` per
inspection. -/
structure GBudget (s : Store) (lim k : Nat) (st st' : GSt) : Prop where
  bounded : GBounded s lim st'
  mapl : st.map.length ≤ st'.map.length
  expg : st'.exp + st.map.length = st.exp + st'.map.length
  inspg : st'.insp + degSum s st.map ≤ st.insp + k + degSum s st'.map
  cmpsg : st'.cmps + lim * st.insp ≤ st.cmps + lim * st'.insp

/-- Outcomes `gcrm` can produce. -/
def GOut (s : Store) (stop : Bool) (lim : Nat) (o : Out) : Prop :=
  o = .ok ∨ (o = .tooDeep ∧ lim < s.length) ∨ o = .cyclic ∨ (o = .missing ∧ stop = true) ∨
    o = .outOfFuel

theorem GBudget.refl {s : Store} {lim : Nat} {st : GSt} (h : GBounded s lim st) :
    GBudget s lim 0 st st :=
  ⟨h, Nat.le_refl _, rfl, by omega, by omega⟩

theorem GBudget.trans {s : Store} {lim k₁ k₂ : Nat} {a b c : GSt}
    (h₁ : GBudget s lim k₁ a b) (h₂ : GBudget s lim k₂ b c) : GBudget s lim (k₁ + k₂) a c := by
  refine ⟨h₂.bounded, Nat.le_trans h₁.mapl h₂.mapl, ?_, ?_, ?_⟩
  · have := h₁.expg; have := h₂.expg; omega
  · have := h₁.inspg; have := h₂.inspg; omega
  · have := h₁.cmpsg; have := h₂.cmpsg; omega

theorem GBudget.mono {s : Store} {lim k k' : Nat} {a b : GSt} (h : GBudget s lim k a b)
    (hk : k ≤ k') : GBudget s lim k' a b :=
  ⟨h.bounded, h.mapl, h.expg, by have := h.inspg; omega, h.cmpsg⟩

theorem GBudget.cons {s : Store} {lim k : Nat} {a b c : GSt} (h₁ : GBudget s lim 1 a b)
    (h₂ : GBudget s lim k b c) : GBudget s lim (k + 1) a c :=
  Nat.add_comm 1 k ▸ h₁.trans h₂

theorem GBounded.step1 {s : Store} {lim : Nat} {st st' : GSt} (h : GBounded s lim st)
    (hp : st'.path = st.path) (hm : st'.map = st.map) (he : st'.exp = st.exp)
    (hi : st'.insp = st.insp + 1) (hc : st'.cmps ≤ st.cmps + lim) : GBudget s lim 1 st st' := by
  refine ⟨⟨hp ▸ h.pnd, hp ▸ h.plt, hp ▸ h.plen, hm ▸ h.mnd, hm ▸ h.mlt⟩, hm ▸ Nat.le_refl _, ?_, ?_, ?_⟩
  · rw [hm, he]
  · rw [hm, hi]; omega
  · rw [hi, Nat.mul_succ]; omega

theorem GBounded.pre {s : Store} {lim : Nat} {st : GSt} (h : GBounded s lim st) (u v : Nat) :
    GBudget s lim 1 st (gPre st u v) :=
  h.step1 rfl rfl rfl rfl (Nat.add_le_add_left h.plen _)

theorem GBounded.cyc {s : Store} {lim : Nat} {st : GSt} (h : GBounded s lim st) (u : Nat) :
    GBudget s lim 1 st (gCyc st u) :=
  h.step1 rfl rfl rfl rfl (Nat.add_le_add_left h.plen _)

theorem GBounded.skip {s : Store} {lim : Nat} {st : GSt} (h : GBounded s lim st) :
    GBudget s lim 1 st (gSkip st) :=
  h.step1 rfl rfl rfl rfl (Nat.le_add_right ..)

theorem GBounded.miss {s : Store} {lim : Nat} {st : GSt} (h : GBounded s lim st) (v : Nat) :
    GBudget s lim 1 st (gMiss st v) :=
  h.step1 rfl rfl rfl rfl (Nat.le_add_right ..)

theorem GBounded.push {s : Store} {lim : Nat} {st : GSt} (h : GBounded s lim st) (u : Nat)
    (hu : u < s.length) (hp : u ∉ st.path) (hm : u ∉ st.map) (hl : ¬ lim ≤ st.path.length) :
    GBounded s lim (gPush st u) :=
  ⟨List.nodup_cons.2 ⟨hp, h.pnd⟩, List.forall_mem_cons.2 ⟨hu, h.plt⟩,
    by simp only [gPush, List.length_cons]; omega,
    List.nodup_cons.2 ⟨hm, h.mnd⟩, List.forall_mem_cons.2 ⟨hu, h.mlt⟩⟩

theorem GBounded.pop {s : Store} {lim : Nat} {st : GSt} (h : GBounded s lim st) (u : Nat) :
    GBounded s lim (gPop st u) :=
  ⟨h.pnd.sublist (List.tail_sublist _), fun x hx => h.plt x (List.mem_of_mem_tail hx),
    by simp only [gPop, List.length_tail]; have := h.plen; omega, h.mnd, h.mlt⟩

theorem GBudget.pop {s : Store} {lim k : Nat} {st st' : GSt} (h : GBudget s lim k st st')
    (u : Nat) : GBudget s lim k st (gPop st' u) :=
  ⟨h.bounded.pop u, h.mapl, h.expg, h.inspg, h.cmpsg⟩

/-- What the loop of claim `u` did, seen from the state before `u` was pushed: the push added `u`
to the memo map and one expansion, and `u` pays for the `deg s u` inspections of its loop. -/
theorem GBudget.ofPush {s : Store} {lim u : Nat} {st st' : GSt}
    (l : GBudget s lim (deg s u) (gPush st u) st') : GBudget s lim 0 st st' := by
  refine ⟨l.bounded, Nat.le_trans (Nat.le_succ _) l.mapl, ?_, ?_, l.cmpsg⟩
  · have := l.expg
    simp only [gPush, List.length_cons] at this
    omega
  · have := l.inspg
    simp only [gPush, degSum_cons] at this
    omega

/-- Safety of a call for every outcome, and the fuel bound by claims: `|V| - |memo| + 1` suffices. -/
theorem Call.safe {lim : Nat} {s : Store} {stop : Bool} {n u st o st'}
    (h : Call lim s stop n u st o st') (hw : GBounded s lim st) (hp : u ∉ st.path)
    (hu : u < s.length) :
    GBudget s lim 0 st st' ∧ GOut s stop lim o ∧
      (s.length + 1 ≤ st.map.length + n → o ≠ .outOfFuel) := by
  induction h using Call.rec (motive_2 := fun n _ ings st o st' _ => GBounded s lim st →
    GBudget s lim ings.length st st' ∧ GOut s stop lim o ∧
      (s.length + 1 ≤ st.map.length + n → o ≠ .outOfFuel)) with
  | @dry u st =>
    refine ⟨.refl hw, .inr (.inr (.inr (.inr rfl))), fun hn => ?_⟩
    have := nodup_length_le s.length st.map hw.mnd hw.mlt
    omega
  | @deep _ u st hl =>
    -- the depth error needs `lim < |V|`: the path and `u` are `lim + 1` distinct claims
    refine ⟨.refl hw, .inr (.inl ⟨rfl, ?_⟩), fun _ => nofun⟩
    have := nodup_length_le s.length (u :: st.path) (List.nodup_cons.2 ⟨hp, hw.pnd⟩)
      (List.forall_mem_cons.2 ⟨hu, hw.plt⟩)
    rw [List.length_cons] at this
    omega
  | memo => exact ⟨.refl hw, .inl rfl, fun _ => nofun⟩
  | noClaim _ _ hs => rw [List.getElem?_eq_getElem hu] at hs; cases hs
  | @done _ u _ _ _ hl hm hs _ ih =>
    obtain ⟨l1, _, _⟩ := ih (hw.push u hu hp hm hl)
    exact ⟨(deg_of_get s u _ hs ▸ l1).ofPush.pop u, .inl rfl, fun _ => nofun⟩
  | @fail _ u st _ _ _ hl hm hs _ _ ih =>
    obtain ⟨l1, l2, l3⟩ := ih (hw.push u hu hp hm hl)
    -- the push has added `u` to the memo map
    refine ⟨(deg_of_get s u _ hs ▸ l1).ofPush, l2, fun hn => l3 ?_⟩
    show s.length + 1 ≤ (u :: st.map).length + _
    rw [List.length_cons]; omega
  | nil hw => exact ⟨.refl hw, .inl rfl, fun _ => nofun⟩
  | skip _ _ ih hw =>
    obtain ⟨l1, l2, l3⟩ := ih hw.skip.bounded
    exact ⟨hw.skip.cons l1, l2, l3⟩
  | @cyc _ u _ _ _ _ _ _ _ hw =>
    exact ⟨(hw.cyc u).mono (by simp), .inr (.inr (.inl rfl)), fun _ => nofun⟩
  | @next _ u _ _ _ v _ _ _ _ hv hc _ _ ihc ihl hw =>
    obtain ⟨r1, _, _⟩ := ihc (hw.pre u v).bounded hc hv
    obtain ⟨l1, l2, l3⟩ := ihl r1.bounded
    exact ⟨((hw.pre u v).trans r1).cons l1, l2, fun hm => l3 (Nat.le_trans hm
      (Nat.add_le_add_right r1.mapl _))⟩
  | @abort _ u _ _ _ v _ _ _ hv hc _ _ ihc hw =>
    obtain ⟨r1, r2, r3⟩ := ihc (hw.pre u v).bounded hc hv
    exact ⟨((hw.pre u v).trans r1).mono (by simp), r2, r3⟩
  | missStop _ _ hs hw =>
    exact ⟨(hw.miss _).mono (by simp), .inr (.inr (.inr (.inl ⟨rfl, hs⟩))), fun _ => nofun⟩
  | miss _ _ _ _ ih hw =>
    obtain ⟨l1, l2, l3⟩ := ih (hw.miss _).bounded
    exact ⟨(hw.miss _).cons l1, l2, l3⟩

theorem GBounded.init (s : Store) (lim : Nat) : GBounded s lim {} :=
  ⟨List.nodup_nil, nofun, Nat.zero_le _, List.nodup_nil, nofun⟩

theorem gcrm_safe_root (lim : Nat) (s : Store) (stop : Bool) (fuel root : Nat)
    (hr : root < s.length) :
    GBudget s lim 0 {} (gcrm lim s stop fuel root {}).2 ∧
      GOut s stop lim (gcrm lim s stop fuel root {}).1 ∧
      (s.length + 1 ≤ fuel → (gcrm lim s stop fuel root {}).1 ≠ .outOfFuel) := by
  have := (gcrm_run lim s stop fuel root {}).safe (GBounded.init s lim) nofun hr
  rwa [show ({} : GSt).map.length + fuel = fuel from Nat.zero_add fuel] at this

end C2pa.C19
