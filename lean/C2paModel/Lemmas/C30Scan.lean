import C2paModel.Lemmas.C30
import C2paModel.Lemmas.C30Term
import C2paModel.Lemmas.List
/-
C30 — lemmas about the text-level reader/scanner (`Model/C30Scan.lean`): what it does with
a rendered rdf:Description tag (any layout: white space, `=` spacing, either quote) and
with the markup in front of it.
-/
namespace C2pa.C30

/-! ### the texts the theorems speak of: an rdf:Description tag in a free layout, `Item`s in
front of it -/

def AllWs (w : Str) : Prop := ∀ c ∈ w, isWs c = true

instance (w : Str) : Decidable (AllWs w) := by unfold AllWs; infer_instance

def keyCharOk (c : Char) : Bool :=
  !isWs c && c != '=' && c != '>' && c != '"' && c != '\''

/-- an attribute name the writer can put between a blank and `=`: not empty, no white
space, none of `= > " '` -/
def KeyOk (k : Str) : Prop := k ≠ [] ∧ ∀ c ∈ k, keyCharOk c = true

instance (k : Str) : Decidable (KeyOk k) := by unfold KeyOk; infer_instance

/-- how one attribute is laid out in a tag: white space before the name (at least one),
around `=`, and the quote character -/
structure Lay where
  pre : Str
  mid1 : Str
  mid2 : Str
  q : Char
  deriving DecidableEq, Repr

/-- the writer's layout: one blank, no space around `=`, double quotes -/
def Lay.std : Lay := ⟨[' '], [], [], '"'⟩

def LayOk (a : Attr) (l : Lay) : Prop :=
  l.pre ≠ [] ∧ AllWs l.pre ∧ AllWs l.mid1 ∧ AllWs l.mid2 ∧ (l.q = '"' ∨ l.q = '\'') ∧ l.q ∉ a.val

instance (a : Attr) (l : Lay) : Decidable (LayOk a l) := by unfold LayOk; infer_instance

def renderAttrL (a : Attr) (l : Lay) : Str :=
  l.pre ++ (a.key ++ (l.mid1 ++ '=' :: (l.mid2 ++ l.q :: (a.val ++ [l.q]))))

def renderAttrsL : List (Attr × Lay) → Str
  | [] => []
  | al :: als => renderAttrL al.1 al.2 ++ renderAttrsL als

def descContentL (als : List (Attr × Lay)) (tw : Str) (empty : Bool) : Str :=
  rdfDescription ++ (renderAttrsL als ++ tw) ++ (if empty then ['/'] else [])

/-- an rdf:Description start/empty tag in free layout -/
def renderDescL (als : List (Attr × Lay)) (tw : Str) (empty : Bool) : Str :=
  '<' :: (descContentL als tw empty ++ ['>'])

/-- run of `ElementParser` over a text that must not close the tag: `none` when a `>` is
met outside quotes, else the final state -/
def qrun : Q → Str → Option Q
  | q, [] => some q
  | q, c :: cs => if q = .out ∧ c = '>' then none else qrun (qstep q c) cs

/-- one piece of markup, by its kind and free content -/
inductive Markup where
  | comment (b : Str)
  | cdata (b : Str)
  | pi (b : Str)
  | etag (n : Str)
  | tag (c : Str)
  deriving DecidableEq, Repr

/-- the text after `<` -/
def Markup.body : Markup → Str
  | .comment b => '!' :: '-' :: '-' :: (b ++ ['-', '-', '>'])
  | .cdata b => '!' :: '[' :: 'C' :: 'D' :: 'A' :: 'T' :: 'A' :: '[' :: (b ++ [']', ']', '>'])
  | .pi b => '?' :: (b ++ ['?', '>'])
  | .etag n => '/' :: (n ++ ['>'])
  | .tag c => c ++ ['>']

def Markup.render (m : Markup) : Str := '<' :: m.body

/-- the tag content does not start like a comment, CDATA section or DOCTYPE (`!`), an end tag
(`/`) or a processing instruction (`?`) -/
def tagHeadOk : Str → Bool
  | [] => false
  | h :: _ => h != '!' && h != '/' && h != '?'

/-- Markup the theorems let stand in front of the first rdf:Description: comments, CDATA
sections, processing instructions (among them `<?xpacket begin…?>` and the XML declaration)
without `>` in their content, end tags, and start/empty tags with balanced quotes (no `>`
outside quotes) whose name is neither rdf:Description nor the key looked for. -/
def Markup.Ok (k : Str) : Markup → Prop
  | .comment b => '>' ∉ b
  | .cdata b => '>' ∉ b
  | .pi b => '>' ∉ b
  | .etag n => qrun .out n = some .out
  | .tag c => tagHeadOk c = true ∧ qrun .out c = some .out ∧
      (splitTag c).name ≠ rdfDescription ∧ (splitTag c).name ≠ k

instance (k : Str) (m : Markup) : Decidable (m.Ok k) := by
  cases m <;> (unfold Markup.Ok; infer_instance)

def leadOk (l : Str) : Prop := ∀ c ∈ l, c ≠ '<' ∧ c ≠ '&'

instance (l : Str) : Decidable (leadOk l) := by unfold leadOk; infer_instance

structure Item where
  /-- white space / text in front of the markup (no `<`, no `&`) -/
  lead : Str
  m : Markup
  deriving DecidableEq, Repr

def Item.render (it : Item) : Str := it.lead ++ it.m.render

def Item.Ok (k : Str) (it : Item) : Prop := leadOk it.lead ∧ it.m.Ok k

instance (k : Str) (it : Item) : Decidable (it.Ok k) := by unfold Item.Ok; infer_instance

def renderItems : List Item → Str
  | [] => []
  | it :: its => it.render ++ renderItems its

theorem dropWs_allWs_append (w t : Str) (hw : AllWs w) : dropWs (w ++ t) = dropWs t := by
  rw [dropWs_eq]; exact List.dropWhile_append_of_pos hw

theorem dropWs_allWs (w : Str) (hw : AllWs w) : dropWs w = [] := by
  simpa [dropWs] using dropWs_allWs_append w [] hw

theorem dropWs_cons_of_not_ws (c : Char) (r : Str) (h : isWs c = false) : dropWs (c :: r) = c :: r := by
  simp [dropWs, h]

theorem breakOn_append (p : Char → Bool) (a b : Str)
    (ha : ∀ x ∈ a, p x = false) (hb : ∀ c ∈ b.head?, p c = true) : breakOn p (a ++ b) = (a, b) := by
  obtain ⟨h1, h2⟩ := Data.span_append (!p ·) a b (fun x hx => by rw [ha x hx]; rfl)
    (fun c hc => by rw [hb c hc]; rfl)
  rw [breakOn_eq, h1, h2]

theorem breakOn_all (p : Char → Bool) (a : Str) (ha : ∀ x ∈ a, p x = false) : breakOn p a = (a, []) := by
  simpa using breakOn_append p a [] ha nofun

/-! ### `ElementParser` over a text with balanced quotes -/

theorem elemEnd_of_qrun (s : Str) : ∀ q, qrun q s = some .out →
    ∀ rest, elemEnd q (s ++ '>' :: rest) = some (s, rest) := by
  induction s with
  | nil =>
    intro q h rest
    simp only [qrun, Option.some.injEq] at h
    subst h
    simp [elemEnd]
  | cons c cs ih =>
    intro q h rest
    simp only [qrun] at h
    split at h
    · cases h
    · rename_i hc
      simp only [List.cons_append, elemEnd, if_neg hc]
      rw [ih _ h rest]

theorem qrun_append (a b : Str) : ∀ q, qrun q (a ++ b) = (qrun q a).bind (fun q' => qrun q' b) := by
  induction a with
  | nil => intro q; simp [qrun]
  | cons c cs ih =>
    intro q
    simp only [List.cons_append, qrun]
    split
    · rfl
    · exact ih _

theorem qrun_out_append {a b : Str} (ha : qrun .out a = some .out) (hb : qrun .out b = some .out) :
    qrun .out (a ++ b) = some .out := by
  rw [qrun_append, ha]; exact hb

/-- a character that leaves the automaton outside quotes -/
def plainChar (c : Char) : Bool := c != '>' && c != '"' && c != '\''

theorem qrun_stay (q : Q) (s : Str) (h : ∀ c ∈ s, ¬(q = .out ∧ c = '>') ∧ qstep q c = q) :
    qrun q s = some q := by
  induction s with
  | nil => rfl
  | cons c cs ih =>
    obtain ⟨⟨h1, h2⟩, hcs⟩ := List.forall_mem_cons.1 h
    rw [qrun, if_neg h1, h2]
    exact ih hcs

theorem qrun_out_plain (s : Str) (h : ∀ c ∈ s, plainChar c = true) : qrun .out s = some .out := by
  refine qrun_stay .out s fun c hc => ?_
  have := h c hc
  simp only [plainChar, Bool.and_eq_true, bne_iff_ne, ne_eq] at this
  obtain ⟨⟨h1, h2⟩, h3⟩ := this
  exact ⟨fun h => h1 h.2, by simp [qstep, h2, h3]⟩

theorem qrun_dq (s : Str) (h : '"' ∉ s) : qrun .dq s = some .dq :=
  qrun_stay .dq s fun c hc =>
    ⟨by simp, by simp [qstep, show c ≠ '"' from fun e => h (e ▸ hc)]⟩

theorem qrun_sq (s : Str) (h : '\'' ∉ s) : qrun .sq s = some .sq :=
  qrun_stay .sq s fun c hc =>
    ⟨by simp, by simp [qstep, show c ≠ '\'' from fun e => h (e ▸ hc)]⟩

theorem plain_of_ws (c : Char) (h : isWs c = true) : plainChar c = true := by
  simp only [isWs, Bool.or_eq_true, beq_iff_eq] at h
  rcases h with ((h | h) | h) | h <;> subst h <;> decide

theorem qrun_out_ws (w : Str) (hw : AllWs w) : qrun .out w = some .out :=
  qrun_out_plain w (fun c hc => plain_of_ws c (hw c hc))

theorem qrun_quoted (q : Char) (v : Str) (hq : q = '"' ∨ q = '\'') (hv : q ∉ v) :
    qrun .out (q :: (v ++ [q])) = some .out := by
  rcases hq with rfl | rfl
  · have h1 : qstep .out '"' = .dq := by decide
    simp only [qrun, h1]
    rw [qrun_append, qrun_dq v hv]
    decide
  · have h1 : qstep .out '\'' = .sq := by decide
    simp only [qrun, h1]
    rw [qrun_append, qrun_sq v hv]
    decide

theorem keyCharOk_parts (c : Char) (h : keyCharOk c = true) :
    isWs c = false ∧ c ≠ '=' ∧ plainChar c = true := by
  simp only [keyCharOk, Bool.and_eq_true, Bool.not_eq_true', bne_iff_ne, ne_eq] at h
  obtain ⟨⟨⟨⟨h1, h2⟩, h3⟩, h4⟩, h5⟩ := h
  exact ⟨h1, h2, by simp [plainChar, h3, h4, h5]⟩

/-! ### the layout of `Writer::write_event` is one of the layouts -/

theorem renderAttrL_std (a : Attr) : renderAttrL a Lay.std = renderAttr a := by
  simp [renderAttrL, Lay.std, renderAttr]

theorem renderAttrsL_std (as : List Attr) : renderAttrsL (as.map fun a => (a, Lay.std)) = renderAttrs as := by
  induction as with
  | nil => rfl
  | cons a as ih => simp [renderAttrsL, renderAttrs, renderAttrL_std, ih]

theorem renderDescL_std (d : Desc) :
    renderDescL (d.attrs.map fun a => (a, Lay.std)) [] d.empty = renderDesc d := by
  simp only [renderDescL, descContentL, renderAttrsL_std, renderDesc, List.append_nil]
  cases d.empty <;> simp

theorem layOk_std (a : Attr) (h : '"' ∉ a.val) : LayOk a Lay.std := by
  refine ⟨by decide, by decide, by decide, by decide, Or.inl rfl, h⟩

/-! ### the attribute iterator on a rendered attribute -/

theorem keyEnd_mid (m X : Str) (hm : AllWs m) : keyEnd (m ++ '=' :: X) = .eq ('=' :: X) := by
  cases m with
  | nil => simp [keyEnd]
  | cons w ws =>
    obtain ⟨hw, hws⟩ := List.forall_mem_cons.1 hm
    have hne : w ≠ '=' := by
      intro e; subst e; revert hw; decide
    have hd : dropWs (ws ++ '=' :: X) = '=' :: X := by
      rw [dropWs_allWs_append ws _ hws]; exact dropWs_cons_of_not_ws _ _ (by decide)
    simp [keyEnd, hne, hd]

/-- the stop condition of the key scan, in the form `breakOn_append` asks for -/
theorem head_mid_eq (m X : Str) (hm : AllWs m) :
    ∀ c ∈ (m ++ '=' :: X).head?, (c == '=' || isWs c) = true := by
  cases m with
  | nil => simp
  | cons w ws => simp [hm w (List.mem_cons_self ..)]

theorem attrNext_renderAttrL (keys : List Str) (a : Attr) (l : Lay) (rest : Str)
    (hk : KeyOk a.key) (hl : LayOk a l) (hn : a.key ∉ keys) :
    attrNext keys (.next (renderAttrL a l ++ rest)) = some (.ok a, a.key :: keys, .next rest) := by
  obtain ⟨hpre0, hpre, hm1, hm2, hq, hqv⟩ := hl
  obtain ⟨hk0, hkc⟩ := hk
  obtain ⟨kc, kt, hkey⟩ : ∃ kc kt, a.key = kc :: kt := by
    cases hkk : a.key with
    | nil => exact absurd hkk hk0
    | cons c t => exact ⟨c, t, rfl⟩
  have hkc' : isWs kc = false := (keyCharOk_parts kc (hkc kc (by rw [hkey]; exact List.mem_cons_self ..))).1
  have hkt : ∀ x ∈ kt, (x == '=' || isWs x) = false := by
    intro x hx
    have := keyCharOk_parts x (hkc x (by rw [hkey]; exact List.mem_cons_of_mem _ hx))
    simp [this.1, this.2.1]
  -- The facts below follow the matches of `attrNext` in their order: white space and the key
  -- (`hdrop`, `hbreak`), the `=` (`keyEnd_mid`), the duplicate check (`hnk`), white space and the
  -- opening quote (`hX`), the value up to the closing quote (`hval`). `X` is the text after `=`.
  let X : Str := l.mid2 ++ l.q :: (a.val ++ l.q :: rest)
  have hs : renderAttrL a l ++ rest = l.pre ++ (kc :: (kt ++ (l.mid1 ++ '=' :: X))) := by
    simp [renderAttrL, hkey, X]
  have hdrop : dropWs (renderAttrL a l ++ rest) = kc :: (kt ++ (l.mid1 ++ '=' :: X)) := by
    rw [hs, dropWs_allWs_append _ _ hpre]; exact dropWs_cons_of_not_ws _ _ hkc'
  have hbreak := breakOn_append (fun x => x == '=' || isWs x) kt _ hkt (head_mid_eq l.mid1 X hm1)
  have hqws : isWs l.q = false := by rcases hq with h | h <;> rw [h] <;> decide
  have hX : dropWs X = l.q :: (a.val ++ l.q :: rest) := by
    show dropWs (l.mid2 ++ l.q :: (a.val ++ l.q :: rest)) = _
    rw [dropWs_allWs_append _ _ hm2]; exact dropWs_cons_of_not_ws _ _ hqws
  have hval := breakOn_append (fun x => x == l.q) a.val (l.q :: rest)
    (fun x hx => beq_false_of_ne fun e => hqv (e ▸ hx)) (by simp)
  have hnk : (kc :: kt) ∉ keys := by rw [← hkey]; exact hn
  unfold attrNext
  simp only [recover, hdrop, hbreak, keyEnd_mid l.mid1 X hm1, List.tail_cons, hX, hq, if_true,
    hval, if_neg hnk]
  -- the attribute found is `⟨kc :: kt, a.val⟩`, which is `a`
  cases a with
  | mk key val => simp only at hkey; subst hkey; rfl

/-- the fuel `n` only has to exceed the length of the text: every attribute takes at least
the blank in front of it -/
theorem attrsAll_render (als : List (Attr × Lay)) (tw : Str) (htw : AllWs tw)
    (hok : ∀ al ∈ als, KeyOk al.1.key ∧ LayOk al.1 al.2) (hnd : (als.map (·.1.key)).Nodup) :
    ∀ (n : Nat) (keys : List Str), (renderAttrsL als ++ tw).length < n →
    (∀ al ∈ als, al.1.key ∉ keys) →
    attrsAll n keys (.next (renderAttrsL als ++ tw)) = (als.map (·.1)).map .ok := by
  induction als with
  | nil =>
    intro n keys hn _
    obtain ⟨n, rfl⟩ : ∃ m, n = m + 1 := ⟨n - 1, by omega⟩
    simp [attrsAll, attrNext, recover, renderAttrsL, dropWs_allWs tw htw]
  | cons al als ih =>
    intro n keys hn hnk
    obtain ⟨n, rfl⟩ : ∃ m, n = m + 1 := ⟨n - 1, by omega⟩
    obtain ⟨hal, hok'⟩ := List.forall_mem_cons.1 hok
    obtain ⟨hnk0, hnk1⟩ := List.forall_mem_cons.1 hnk
    have hstep := attrNext_renderAttrL keys al.1 al.2 (renderAttrsL als ++ tw) hal.1 hal.2 hnk0
    simp only [List.map_cons, List.nodup_cons] at hnd
    have hnk' : ∀ b ∈ als, b.1.key ∉ al.1.key :: keys := by
      intro b hb hm
      rcases List.mem_cons.1 hm with h | h
      · exact hnd.1 (List.mem_map.2 ⟨b, hb, h⟩)
      · exact hnk1 b hb h
    have hn' : (renderAttrsL als ++ tw).length < n := by
      have := List.length_pos_iff.2 hal.2.1
      simp only [renderAttrsL, renderAttrL, List.length_append] at hn
      simp only [List.length_append]
      omega
    simp only [renderAttrsL, List.append_assoc, List.map_cons, attrsAll, hstep,
      ih hok' hnd.2 n (al.1.key :: keys) hn' hnk']

theorem attrsOf_render (als : List (Attr × Lay)) (tw : Str) (htw : AllWs tw)
    (hok : ∀ al ∈ als, KeyOk al.1.key ∧ LayOk al.1 al.2) (hnd : (als.map (·.1.key)).Nodup) :
    attrsOf (renderAttrsL als ++ tw) = (als.map (·.1)).map .ok :=
  attrsAll_render als tw htw hok hnd _ [] (Nat.lt_succ_self _) (fun _ _ h => nomatch h)

theorem strictAttrs_ok (as : List Attr) : strictAttrs (as.map .ok) = some as := by
  induction as with
  | nil => rfl
  | cons a as ih => simp [strictAttrs, ih]

theorem findAttrTxt_strict (k : Str) (rs : List ARes) : ∀ as, strictAttrs rs = some as →
    findAttrTxt k rs = (findAttr k as).map (·.val) := by
  fun_induction strictAttrs rs
  case case1 => intro as h; cases h; rfl
  case case2 a rs ih =>
    intro as h
    obtain ⟨as', h', rfl⟩ := Option.map_eq_some_iff.1 h
    simp only [findAttrTxt, findAttr, ih as' h']
    split <;> rfl
  case case3 => exact nofun

/-! ### `emit_start` on the rendered tag -/

theorem endsSlash_eq (s : Str) : endsSlash s = (s.getLast? == some '/') := by
  fun_induction endsSlash s
  case case1 => rfl
  case case2 c => simp
  case case3 ih => rw [ih, List.getLast?_cons_cons]

theorem endsSlash_snoc (a : Str) (c : Char) : endsSlash (a ++ [c]) = (c == '/') := by
  simp [endsSlash_eq]

theorem endsSlash_append (a b : Str) (hb : b ≠ []) : endsSlash (a ++ b) = endsSlash b := by
  obtain ⟨b', c, rfl⟩ := (List.eq_nil_or_concat b).resolve_left hb
  rw [List.concat_eq_append, ← List.append_assoc, endsSlash_snoc, endsSlash_snoc]

theorem head_attrs_ws (als : List (Attr × Lay)) (tw : Str) (htw : AllWs tw)
    (hok : ∀ al ∈ als, LayOk al.1 al.2) : ∀ c ∈ (renderAttrsL als ++ tw).head?, isWs c = true := by
  cases als with
  | nil => exact fun c hc => htw c (List.mem_of_mem_head? hc)
  | cons al als =>
    obtain ⟨h0, hws, _⟩ := hok al (List.mem_cons_self ..)
    intro c hc
    rw [renderAttrsL, renderAttrL, List.append_assoc, List.append_assoc, List.head?_append,
      List.head?_eq_some_head h0, Option.some_or] at hc
    exact hws c (by cases hc; exact List.head_mem h0)

theorem getLast_attrs (als : List (Attr × Lay)) (hok : ∀ al ∈ als, LayOk al.1 al.2) :
    ∀ c ∈ (renderAttrsL als).getLast?, c = '"' ∨ c = '\'' := by
  induction als with
  | nil => nofun
  | cons al als ih =>
    obtain ⟨hal, hok'⟩ := List.forall_mem_cons.1 hok
    have hlast : (renderAttrL al.1 al.2).getLast? = some al.2.q := by
      simp [renderAttrL, List.getLast?_cons]
    intro c hc
    rw [renderAttrsL, List.getLast?_append, hlast, Option.mem_def, Option.or_eq_some_iff] at hc
    rcases hc with hc | ⟨_, hc⟩
    · exact ih hok' c hc
    · cases hc; exact hal.2.2.2.2.1

theorem splitTag_append (n a : Str) (e : Bool) (hn : ∀ x ∈ n, isWs x = false)
    (ha : ∀ c ∈ a.head?, isWs c = true) (hl : (n ++ a).getLast? ≠ some '/') :
    splitTag (n ++ a ++ (if e then ['/'] else [])) = ⟨n, a, e⟩ := by
  unfold splitTag
  cases e with
  | false => simp only [Bool.false_eq_true, if_false, List.append_nil, endsSlash_eq,
      beq_eq_false_iff_ne.2 hl, breakOn_append isWs n a hn ha]
  | true => simp only [if_true, endsSlash_eq, List.getLast?_concat, beq_self_eq_true,
      List.dropLast_concat, breakOn_append isWs n a hn ha]

theorem splitTag_descContentL (als : List (Attr × Lay)) (tw : Str) (empty : Bool) (htw : AllWs tw)
    (hok : ∀ al ∈ als, LayOk al.1 al.2) :
    splitTag (descContentL als tw empty) =
      { name := rdfDescription, attrs := renderAttrsL als ++ tw, empty := empty } := by
  -- the last character before `/` is a letter of the name, a closing quote or white space
  refine splitTag_append rdfDescription _ empty (by decide) (head_attrs_ws als tw htw hok) fun h => ?_
  simp only [List.getLast?_append, Option.or_eq_some_iff] at h
  rcases h with (h | ⟨_, h⟩) | ⟨_, h⟩
  · exact absurd (htw _ (List.mem_of_mem_getLast? h)) (by decide)
  · rcases getLast_attrs als hok _ h with h | h <;> cases h
  · revert h; decide

/-! ### the rendered tag has balanced quotes, so `ElementParser` ends it at its `>` -/

theorem qrun_renderAttrL (a : Attr) (l : Lay) (hk : KeyOk a.key) (hl : LayOk a l) :
    qrun .out (renderAttrL a l) = some .out := by
  obtain ⟨_, hpre, hm1, hm2, hq, hqv⟩ := hl
  have hkey : qrun .out a.key = some .out :=
    qrun_out_plain _ (fun c hc => (keyCharOk_parts c (hk.2 c hc)).2.2)
  exact qrun_out_append (qrun_out_ws _ hpre) <| qrun_out_append hkey <|
    qrun_out_append (qrun_out_ws _ hm1) <| qrun_out_append (a := ['=']) (by decide) <|
    qrun_out_append (qrun_out_ws _ hm2) (qrun_quoted l.q a.val hq hqv)

theorem qrun_renderAttrsL (als : List (Attr × Lay)) (hok : ∀ al ∈ als, KeyOk al.1.key ∧ LayOk al.1 al.2) :
    qrun .out (renderAttrsL als) = some .out := by
  induction als with
  | nil => rfl
  | cons al als ih =>
    obtain ⟨h, hok'⟩ := List.forall_mem_cons.1 hok
    exact qrun_out_append (qrun_renderAttrL _ _ h.1 h.2) (ih hok')

theorem qrun_descContentL (als : List (Attr × Lay)) (tw : Str) (empty : Bool) (htw : AllWs tw)
    (hok : ∀ al ∈ als, KeyOk al.1.key ∧ LayOk al.1 al.2) :
    qrun .out (descContentL als tw empty) = some .out :=
  qrun_out_append
    (qrun_out_append (by decide) (qrun_out_append (qrun_renderAttrsL als hok) (qrun_out_ws tw htw)))
    (by cases empty <;> decide)

theorem renderDescL_then (als : List (Attr × Lay)) (tw : Str) (empty : Bool) (rest : Str) :
    renderDescL als tw empty ++ rest = '<' :: (descContentL als tw empty ++ '>' :: rest) := by
  simp [renderDescL]

/-! ### the reader on the markup in front of the element -/

/-- events `extract_xmp_key` passes over -/
def evSkip (k : Str) : Ev → Prop
  | .other => True
  | .illFormed => True
  | .endTag _ => True
  | .elem t => t.name ≠ rdfDescription ∧ t.name ≠ k
  | _ => False

theorem evSkip_emitEnd (k : Str) (stk : List Str) (content : Str) :
    evSkip k (emitEnd stk content).1 := by
  fun_cases emitEnd stk content <;> trivial

theorem extractStep_skip (k : Str) (stk : List Str) (s : Str) (ev : Ev) (stk' : List Str) (X : Str)
    (h : readEvent true stk s = (ev, stk', some X)) (hs : evSkip k ev) :
    extractStep k stk s = .cont stk' X := by
  unfold extractStep
  rw [h]
  cases ev with
  | elem t => simp only [evSkip] at hs; simp [hs.1, hs.2, contOrEnd]
  | endTag n => simp [contOrEnd]
  | other => simp [contOrEnd]
  | illFormed => simp [contOrEnd]
  | fatal => exact absurd hs (by simp [evSkip])
  | eof => exact absurd hs (by simp [evSkip])
  | unmodelled => exact absurd hs (by simp [evSkip])

theorem commentEnd_body (b X : Str) (hb : '>' ∉ b) : ∀ i p2 p1, 4 ≤ i →
    commentEnd i p2 p1 (b ++ '-' :: '-' :: '>' :: X) = some X := by
  induction b with
  | nil =>
    intro i p2 p1 hi
    have h5 : 5 < i + 1 + 1 := by omega
    simp [commentEnd, h5]
  | cons c cs ih =>
    intro i p2 p1 hi
    have hc : c ≠ '>' := fun e => hb (e ▸ List.mem_cons_self ..)
    simp only [List.cons_append, commentEnd, hc, false_and, if_false]
    exact ih (fun m => hb (List.mem_cons_of_mem _ m)) _ _ _ (by omega)

theorem cdataEnd_body (b X : Str) (hb : '>' ∉ b) : ∀ p2 p1,
    cdataEnd p2 p1 (b ++ ']' :: ']' :: '>' :: X) = some X := by
  induction b with
  | nil => intro p2 p1; simp [cdataEnd]
  | cons c cs ih =>
    intro p2 p1
    have hc : c ≠ '>' := fun e => hb (e ▸ List.mem_cons_self ..)
    simp only [List.cons_append, cdataEnd, hc, false_and, if_false]
    exact ih (fun m => hb (List.mem_cons_of_mem _ m)) _ _

theorem piEnd_body (b X : Str) (hb : '>' ∉ b) : ∀ n p1,
    piEnd n p1 (b ++ '?' :: '>' :: X) = some (n + b.length + 2, X) := by
  induction b with
  | nil => intro n p1; simp [piEnd]
  | cons c cs ih =>
    intro n p1
    have hc : c ≠ '>' := fun e => hb (e ▸ List.mem_cons_self ..)
    simp only [List.cons_append, piEnd, hc, false_and, if_false, List.length_cons]
    rw [ih (fun m => hb (List.mem_cons_of_mem _ m))]
    congr 2; omega

theorem readMarkup_tag (stk : List Str) (b c X : Str) (hh : tagHeadOk c = true)
    (he : elemEnd .out b = some (c, X)) :
    readMarkup stk b =
      (.elem (splitTag c), (if (splitTag c).empty then stk else (splitTag c).name :: stk), some X) := by
  obtain rfl := elemEnd_split b _ _ _ he
  cases c with
  | nil => simp [tagHeadOk] at hh
  | cons h t =>
    simp only [tagHeadOk, Bool.and_eq_true, bne_iff_ne, ne_eq] at hh
    obtain ⟨⟨h1, h2⟩, h3⟩ := hh
    rw [List.cons_append] at he ⊢
    unfold readMarkup
    dsimp only
    rw [if_neg h1, if_neg h2, if_neg h3, he]

theorem readMarkup_ok (k : Str) (stk : List Str) (m : Markup) (X : Str) (hm : m.Ok k) :
    ∃ ev stk', readMarkup stk (m.body ++ X) = (ev, stk', some X) ∧ evSkip k ev := by
  cases m with
  | comment b =>
    refine ⟨.other, stk, ?_, trivial⟩
    have h := commentEnd_body b X hm 4 '-' '-' (by omega)
    simp [Markup.body, readMarkup, commentEnd, h]
  | cdata b =>
    refine ⟨.other, stk, ?_, trivial⟩
    have hb : '>' ∉ ['C', 'D', 'A', 'T', 'A', '['] ++ b := by
      intro hmem
      rcases List.mem_append.1 hmem with h | h
      · revert h; decide
      · exact hm h
    have h := cdataEnd_body (['C', 'D', 'A', 'T', 'A', '['] ++ b) X hb '!' '['
    simp only [List.cons_append, List.nil_append] at h
    simp [Markup.body, readMarkup, h, List.isPrefixOf]
  | pi b =>
    refine ⟨.other, stk, ?_, trivial⟩
    have h := piEnd_body b X hm 2 '?'
    have h3 : 3 < 2 + b.length + 2 := by omega
    simp [Markup.body, readMarkup, h, h3]
  | etag n =>
    have h := elemEnd_of_qrun n .out hm X
    exact ⟨(emitEnd stk n).1, (emitEnd stk n).2, by simp [Markup.body, readMarkup, h],
      evSkip_emitEnd k stk n⟩
  | tag c =>
    obtain ⟨hh, hq, hn1, hn2⟩ := hm
    refine ⟨.elem (splitTag c), (if (splitTag c).empty then stk else (splitTag c).name :: stk), ?_, ?_⟩
    · simp only [Markup.body, List.append_assoc, List.cons_append, List.nil_append]
      exact readMarkup_tag stk _ c X hh (elemEnd_of_qrun c .out hq X)
    · exact ⟨hn1, hn2⟩

/-! ### white space and text in front of markup -/

theorem dropWs_append_nonws (a : Str) (c : Char) (r : Str) (hc : isWs c = false) :
    dropWs (a ++ c :: r) = dropWs a ++ c :: r := by
  simp only [dropWs_eq, List.dropWhile_append]
  split
  · rename_i h; simp [List.isEmpty_iff.1 h, hc]
  · rfl

theorem mem_dropWs (a : Str) (x : Char) (h : x ∈ dropWs a) : x ∈ a := by
  rw [dropWs_eq] at h; exact (List.dropWhile_sublist _).mem h

theorem readEvent_markup (trim : Bool) (stk : List Str) (Y : Str) :
    readEvent trim stk ('<' :: Y) = readMarkup stk Y := by
  have : dropWs ('<' :: Y) = '<' :: Y := dropWs_cons_of_not_ws _ _ (by decide)
  cases trim <;> simp [readEvent, this]

theorem readEvent_lead_ws (stk : List Str) (lead Y : Str) (h : dropWs lead = []) :
    readEvent true stk (lead ++ '<' :: Y) = readMarkup stk Y := by
  have : dropWs (lead ++ '<' :: Y) = '<' :: Y := by
    rw [dropWs_append_nonws _ _ _ (by decide), h]; rfl
  simp [readEvent, this]

theorem readEvent_lead_text (stk : List Str) (lead Y : Str) (c : Char) (r : Str)
    (h : dropWs lead = c :: r) (hl : leadOk lead) :
    readEvent true stk (lead ++ '<' :: Y) = (.other, stk, some ('<' :: Y)) := by
  have hd : dropWs (lead ++ '<' :: Y) = c :: (r ++ '<' :: Y) := by
    rw [dropWs_append_nonws _ _ _ (by decide), h]; rfl
  have hc := hl c (mem_dropWs lead c (by rw [h]; exact List.mem_cons_self ..))
  have hr : ∀ x ∈ r, (x == '<' || x == '&') = false := by
    intro x hx
    have := hl x (mem_dropWs lead x (by rw [h]; exact List.mem_cons_of_mem _ hx))
    simp [this.1, this.2]
  have hb := breakOn_append (fun x => x == '<' || x == '&') r ('<' :: Y) hr (by simp)
  simp [readEvent, hd, hc.1, hc.2, hb]

/-! ### the main loop -/

/-- white space and text in front of markup are passed over: white space is trimmed off
by the same `read_event` that reads the markup, other text is an event of its own -/
theorem extractLoop_lead (k : Str) (stk : List Str) (lead Y : Str) (hl : leadOk lead) :
    extractLoop k stk (lead ++ '<' :: Y) = extractLoop k stk ('<' :: Y) := by
  cases hd : dropWs lead with
  | nil =>
    rw [extractLoop_eq, extractLoop_eq k stk ('<' :: Y)]
    unfold extractStep
    rw [readEvent_lead_ws stk _ _ hd, readEvent_markup]
  | cons c r =>
    rw [extractLoop_eq,
      extractStep_skip k stk _ .other stk _ (readEvent_lead_text stk _ _ c r hd hl) trivial]

/-! Markup changes the open-tag stack, so the facts about the loop are stated for every stack:
the loop answers `r` on a text whatever the stack if it does so on the text behind the markup. -/

theorem extractLoop_markup (k : Str) (m : Markup) (X : Str) (hm : m.Ok k) (r : XRes)
    (h : ∀ stk, extractLoop k stk X = r) : ∀ stk, extractLoop k stk (m.render ++ X) = r := by
  intro stk
  obtain ⟨ev, stk', hre, hs⟩ := readMarkup_ok k stk m X hm
  rw [← readEvent_markup true, ← List.cons_append, ← Markup.render] at hre
  rw [extractLoop_eq, extractStep_skip k stk _ ev stk' X hre hs]
  exact h stk'

theorem extractLoop_items (k : Str) (items : List Item) (hok : ∀ it ∈ items, it.Ok k) (Z : Str)
    (r : XRes) (h : ∀ stk, extractLoop k stk Z = r) :
    ∀ stk, extractLoop k stk (renderItems items ++ Z) = r := by
  induction items with
  | nil => exact h
  | cons it its ih =>
    obtain ⟨hit, hits⟩ := List.forall_mem_cons.1 hok
    intro stk
    rw [renderItems, Item.render, List.append_assoc, List.append_assoc, Markup.render, List.cons_append,
      extractLoop_lead k stk _ _ hit.1]
    exact extractLoop_markup k it.m _ hit.2 r (ih hits) stk

theorem splitTag_name_prefix (c : Str) : (splitTag c).name <+: c := by
  unfold splitTag
  simp only [breakOn_eq]
  split
  · exact (List.takeWhile_prefix _).trans (List.dropLast_prefix _)
  · exact List.takeWhile_prefix _

theorem scanDesc_some {s : Str} {d : Desc} {rest : Str} (h : scanDesc s = some (d, rest)) :
    ∃ b c, s = '<' :: b ∧ elemEnd .out b = some (c, rest) ∧ (splitTag c).name = rdfDescription ∧
      strictAttrs (attrsOf (splitTag c).attrs) = some d.attrs ∧ (splitTag c).empty = d.empty := by
  revert h
  fun_cases scanDesc s
  case case2 b c _ he _ hn as hs => intro h; cases h; exact ⟨b, c, rfl, he, hn, hs, rfl⟩
  all_goals exact nofun

/-- The two readers agree on the element: where the element reading of `add_xmp_key`
succeeds, one turn of `extract_xmp_key` answers with the first attribute that has the key, or
goes on behind the tag. -/
theorem extractStep_scanDesc (k : Str) (stk : List Str) {s : Str} {d : Desc} {rest : Str}
    (h : scanDesc s = some (d, rest)) :
    extractStep k stk s =
      match findAttr k d.attrs with
      | some a => .found (unescapeLenient a.val)
      | none => .cont (if d.empty then stk else rdfDescription :: stk) rest := by
  obtain ⟨b, c, rfl, he, hn, hs, hem⟩ := scanDesc_some h
  -- the content starts with the name, so it is no `!`, `/` or `?` markup
  have hh : tagHeadOk c = true := by
    obtain ⟨t, ht⟩ := hn ▸ splitTag_name_prefix c
    rw [← ht]; rfl
  unfold extractStep
  rw [readEvent_markup, readMarkup_tag stk b c rest hh he]
  simp only [hn, if_true, findAttrTxt_strict k _ _ hs, hem]
  cases findAttr k d.attrs <;> rfl

/-- a byte-order mark in front of the text is part of the first lead, which is passed over
with or without it -/
theorem extractLoop_stripBom (k : Str) (stk : List Str) (lead Y : Str) (hl : leadOk lead) :
    extractLoop k stk (stripBom (lead ++ '<' :: Y)) = extractLoop k stk (lead ++ '<' :: Y) := by
  rw [extractLoop_lead k stk lead Y hl]
  cases lead with
  | nil => simp [stripBom, show ('<' : Char) ≠ Char.ofNat 0xFEFF by decide]
  | cons c l =>
    by_cases hc : c = Char.ofNat 0xFEFF
    · simp only [stripBom, hc, List.cons_append, if_true]
      exact extractLoop_lead k stk l Y fun x hx => hl x (List.mem_cons_of_mem _ hx)
    · simp only [stripBom, hc, List.cons_append, if_false]
      exact extractLoop_lead k stk (c :: l) Y hl

/-- the form `extractLoop_stripBom` needs: the text in front of the element starts with a lead
and a `<` -/
theorem renderItems_lead (k : Str) (items : List Item) (lead Z : Str)
    (hok : ∀ it ∈ items, it.Ok k) (hl : leadOk lead) :
    ∃ lead' Y, leadOk lead' ∧ renderItems items ++ (lead ++ '<' :: Z) = lead' ++ '<' :: Y := by
  cases items with
  | nil => exact ⟨lead, Z, hl, rfl⟩
  | cons it its =>
    exact ⟨it.lead, it.m.body ++ (renderItems its ++ (lead ++ '<' :: Z)), (hok it (List.mem_cons_self ..)).1,
      by simp only [renderItems, Item.render, Markup.render, List.append_assoc, List.cons_append]⟩

/-- `extract_xmp_key` on a text: markup items in front, then (after white space or
text) an rdf:Description tag that `add_xmp_key` can read and that has the key: the value
returned is the unescaped raw value of the first attribute with that key, whatever follows
the tag. -/
theorem extractTxt_desc (k : Str) (items : List Item) (lead s : Str) (d : Desc) (rest : Str) (a : Attr)
    (hitems : ∀ it ∈ items, it.Ok k) (hl : leadOk lead)
    (hs : scanDesc s = some (d, rest)) (hf : findAttr k d.attrs = some a) :
    extractTxt k (renderItems items ++ (lead ++ s)) = .found (unescapeLenient a.val) := by
  have hfound : ∀ stk, extractLoop k stk s = .found (unescapeLenient a.val) := fun stk => by
    rw [extractLoop_eq, extractStep_scanDesc k stk hs, hf]
  obtain ⟨b, _, rfl, _⟩ := scanDesc_some hs
  unfold extractTxt
  obtain ⟨lead', Y, hl', hs'⟩ := renderItems_lead k items lead b hitems hl
  rw [hs', extractLoop_stripBom k [] lead' Y hl', ← hs']
  exact extractLoop_items k items hitems _ _ (fun stk => (extractLoop_lead k stk lead _ hl).trans (hfound stk)) []

end C2pa.C30
