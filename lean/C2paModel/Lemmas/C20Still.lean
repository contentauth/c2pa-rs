import C2paModel.Lemmas.C20Loop
/-
C20 — helper lemmas for "the redacted claim still validates" at the level of the whole
`verify_claim`: the tracking list of the assertion loop, the rule blocks and rule 2.d of
`verify_actions` after one assertion was removed from the assertion store.
-/
namespace C2pa.C20
open C2pa.C34

theorem eraseKey_eq_eraseP (l : Str) (i : Nat) (t : List CA) :
    eraseKey l i t = t.eraseP fun a => a.label == l && a.inst == i := by
  induction t with
  | nil => rfl
  | cons a as ih =>
    unfold eraseKey
    by_cases h : (a.label == l && a.inst == i) = true
    · simp [h, List.eraseP_cons_of_pos]
    · simp only [h]
      rw [List.eraseP_cons_of_neg (by simpa using h), ih]
      rfl

/-- no assertion becomes undeclared by removing one -/
theorem track_sublist (refs : List Ref) :
    ∀ (t t' : List CA), t'.Sublist t → (track refs t').Sublist (track refs t) := by
  unfold track
  induction refs with
  | nil => intro t t' h; exact h
  | cons r rs ih =>
    intro t t' h
    simp only [List.foldl_cons]
    apply ih
    rw [eraseKey_eq_eraseP, eraseKey_eq_eraseP]
    exact h.eraseP

theorem find_remove_other (pre post : List CA) (a : CA) (p : CA → Bool) (ha : p a = false) :
    (pre ++ a :: post).find? p = (pre ++ post).find? p := by
  rw [List.find?_append, List.find?_append,
    List.find?_cons_of_neg (by rw [ha]; exact Bool.false_ne_true)]

theorem parseRedactions_mem :
    ∀ (reds : List Str) (keys : List RedKey), parseRedactions reds = some keys →
      (∀ r ∈ reds, ∃ k ∈ keys, parseRedaction r = some k) ∧
      (∀ k ∈ keys, ∃ r ∈ reds, parseRedaction r = some k) := by
  intro reds
  induction reds with
  | nil => intro keys h; cases h; simp
  | cons r rs ih =>
    intro keys h
    unfold parseRedactions at h
    obtain ⟨k, hk, h⟩ := Option.bind_eq_some_iff.1 h
    obtain ⟨ks, hr, h⟩ := Option.bind_eq_some_iff.1 h
    cases h
    obtain ⟨h1, h2⟩ := ih ks hr
    constructor
    · refine List.forall_mem_cons.2 ⟨⟨k, List.mem_cons_self .., hk⟩, fun x hx => ?_⟩
      obtain ⟨k', hk', hp⟩ := h1 x hx
      exact ⟨k', List.mem_cons_of_mem _ hk', hp⟩
    · refine List.forall_mem_cons.2 ⟨⟨r, List.mem_cons_self .., hk⟩, fun x hx => ?_⟩
      obtain ⟨r', hr', hp⟩ := h2 x hx
      exact ⟨r', List.mem_cons_of_mem _ hr', hp⟩

theorem keys_mono (reds reds' : List Str) (keys keys' : List RedKey)
    (hk : parseRedactions reds = some keys) (hk' : parseRedactions reds' = some keys')
    (hsub : ∀ r ∈ reds, r ∈ reds') : ∀ k ∈ keys, k ∈ keys' := by
  intro k hkm
  obtain ⟨r, hr, hp⟩ := (parseRedactions_mem reds keys hk).2 k hkm
  obtain ⟨k', hk'm, hp'⟩ := (parseRedactions_mem reds' keys' hk').1 r (hsub r hr)
  rw [hp] at hp'; cases hp'
  exact hk'm

/-! ### rule 2.d of `verify_actions` reads only labels, hashed-URI lists and the redaction list -/

/-- what `verify_actions` reads of a claim of the manifest map -/
def ckey (c : Claim) : Str × List HU := (c.label, c.assertions)

/-- The four levels of rule 2.d differ for two claims and two maps only in the parameter test at the
bottom, and that test looks a claim up by its label and reads its hashed URIs. -/
theorem actionsEvents_congr (c c' : Claim) (map map' : List Claim) (ing : Bool)
    (hr : c.redactions = c'.redactions) (hm : map.map ckey = map'.map ckey) :
    actionsEvents c map ing = actionsEvents c' map' ing := by
  have hfind (il : Str) : (map.find? (·.label == il)).map ckey = (map'.find? (·.label == il)).map ckey := by
    have := congrArg (List.find? fun k : Str × List HU => k.1 == il) hm
    rwa [List.find?_map, List.find?_map] at this
  have hp : redactedParamTest c map = redactedParamTest c' map' := by
    funext uri
    unfold redactedParamTest
    cases manifestLabelFromUri uri with
    | none => rfl
    | some m =>
      cases m with
      | none => rfl
      | some il =>
        have hf := hfind il
        simp only [Option.bind_eq_bind, Option.bind_some]
        generalize map.find? (·.label == il) = o at hf
        generalize map'.find? (·.label == il) = o' at hf
        match o, o', hf with
        | none, none, _ => rfl
        | some ic, some ic', hf =>
          simp only [show ic.assertions = ic'.assertions from congrArg Prod.snd (Option.some.inj hf), hr]
        | none, some _, hf => cases hf
        | some _, none, hf => cases hf
  have ha : redactedActionEvents c map ing = redactedActionEvents c' map' ing := by
    funext a; simp only [redactedActionEvents, hp]
  have hl : actsEvents c map ing = actsEvents c' map' ing := by
    funext l
    induction l with
    | nil => rfl
    | cons a as ih => simp only [actsEvents, ha, ih]
  funext l
  induction l with
  | nil => rfl
  | cons a as ih => simp only [actionsEvents, hl, ih]

/-! ### the rule blocks after the removal of a plain assertion

`c'` is the claim after the removal: its assertion store is that of `c` without `a`. What else the two
claims share is a hypothesis where it is needed; what is only monotone in the store is stated for a
sublist. -/

theorem actionAssertions_remove (c c' : Claim) (pre post : List CA) (a : CA)
    (hs : c.store = pre ++ a :: post) (hs' : c'.store = pre ++ post) (ha : a.acts? = none) :
    actionAssertions c' = actionAssertions c := by
  unfold actionAssertions
  rw [hs, hs']
  simp [List.filterMap_append, ha]

theorem ingAssertions_remove (c c' : Claim) (pre post : List CA) (a : CA)
    (hs : c.store = pre ++ a :: post) (hs' : c'.store = pre ++ post) (ha : a.ing? = none) :
    ingAssertions c' = ingAssertions c := by
  unfold ingAssertions
  rw [hs, hs']
  simp [List.filterMap_append, ha]

theorem parentCount_remove (c c' : Claim) (pre post : List CA) (a : CA)
    (hs : c.store = pre ++ a :: post) (hs' : c'.store = pre ++ post) (ha : a.ing? = none) :
    parentCount c' = parentCount c := by
  unfold parentCount
  rw [ingAssertions_remove c c' pre post a hs hs' ha]

theorem mem_ite_singleton_mono {α : Type} {p q : Prop} [Decidable p] [Decidable q] {x e : α}
    (hpq : p → q) (h : e ∈ if p then [x] else []) : e ∈ if q then [x] else [] :=
  List.mem_ite_nil_right.2 ((List.mem_ite_nil_right.1 h).imp_left hpq)

/-- the thumbnail count and the hard-binding test of the rule block are monotone in the store -/
theorem manifestRules_mono (c c' : Claim) (ing : Bool) (hsub : c'.store.Sublist c.store)
    (hu' : c'.update = c.update) (hacts : actionAssertions c' = actionAssertions c)
    (hpar : parentCount c' = parentCount c) :
    ∀ e ∈ manifestRules c' ing, e ∈ manifestRules c ing := by
  intro e he
  unfold manifestRules disallowedActionEvents at he ⊢
  rw [hu', hacts, hpar] at he
  by_cases hu : c.update = true
  · simp only [hu, if_true, List.mem_append] at he ⊢
    exact he.imp (Or.imp
      (Or.imp_right (mem_ite_singleton_mono fun ht => Nat.lt_of_lt_of_le ht (hsub.filter _).length_le))
      (mem_ite_singleton_mono fun h => by
        obtain ⟨a, ha, h⟩ := List.any_eq_true.1 h
        exact List.any_eq_true.2 ⟨a, hsub.subset ha, h⟩)) id
  · simp only [hu] at he ⊢
    exact he
end C2pa.C20
