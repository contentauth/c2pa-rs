import C2paModel.Model.C26
/-
Invariant rules for the redirect-follower loop of Model/C27.lean over an arbitrary layer `inner`
that satisfies `InnerOK`; the default stack of Model/C26.lean is an instance.
-/
namespace C2pa.C27

/-- A layer below the redirect follower either hands the request to the transport (the request
is appended to the trace) or does not (trace unchanged). -/
def InnerOK (inner : Inner) : Prop :=
  ∀ hop req st, (inner hop req st).1.trace = st.trace ++ [req] ∨ (inner hop req st).1.trace = st.trace

theorem bare_innerOK (t : Transport) : InnerOK (bare t) := by
  intro hop req st; left; rfl

theorem InnerOK.length_le {inner : Inner} (hin : InnerOK inner) (hop : Nat) (req : Request) (st : St) :
    (inner hop req st).1.trace.length ≤ st.trace.length + 1 := by
  rcases hin hop req st with e | e <;> rw [e] <;> simp

/-- Induction over the loop of `http_resolve`, for properties of the final state. `I n req st`
speaks of the request and the state at the head of an iteration with `n` iterations left. -/
theorem loop_rule (inner : Inner) (join : JoinFn) (a : Bool)
    (I : Nat → Request → St → Prop) (P : St → Prop)
    (h0 : ∀ req st, I 0 req st → P st)
    (hstep : ∀ n hop req st, I (n + 1) req st →
      P (inner hop req st).1 ∧
      ∀ resp t, (inner hop req st).2 = .ok resp →
        redirectTarget join a hop req.uri resp = .ok (some t) →
        I n (buildRedirected req t) (inner hop req st).1) :
    ∀ fuel hop req st, I fuel req st → P (redirectLoop inner join a fuel hop req st).1 := by
  intro fuel
  induction fuel with
  | zero => intro hop req st h; exact h0 req st h
  | succ n ih =>
    intro hop req st h
    obtain ⟨hP, hI⟩ := hstep n hop req st h
    unfold redirectLoop
    cases hi : inner hop req st with
    | mk st' res =>
      rw [hi] at hP hI
      cases res with
      | error e => exact hP
      | ok resp =>
        simp only
        cases hr : redirectTarget join a hop req.uri resp with
        | error e => exact hP
        | ok o =>
          cases o with
          | none => exact hP
          | some target => exact ih _ _ _ (hI resp target rfl hr)

theorem loop_all (inner : Inner) (join : JoinFn) (a : Bool) (C : Request → Prop)
    (hin : InnerOK inner) (hC : ∀ (req : Request) t, C req → C (buildRedirected req t)) :
    ∀ fuel hop req st, C req → (∀ r ∈ st.trace, C r) →
      ∀ r ∈ (redirectLoop inner join a fuel hop req st).1.trace, C r := by
  intro fuel hop req st hreq h
  refine loop_rule inner join a (fun _ req st => C req ∧ ∀ r ∈ st.trace, C r)
    (fun st => ∀ r ∈ st.trace, C r) (fun _ _ h => h.2) ?_ fuel hop req st ⟨hreq, h⟩
  intro _ hop req st ⟨hreq, h⟩
  have h' : ∀ r ∈ (inner hop req st).1.trace, C r := by
    intro r hr
    rcases hin hop req st with e | e <;> rw [e] at hr
    · exact (List.mem_append.1 hr).elim (h r) fun h1 => List.mem_singleton.1 h1 ▸ hreq
    · exact h r hr
  exact ⟨h', fun _ t _ _ => ⟨hC req t hreq, h'⟩⟩

/-- For properties of redirect hops only. The first request ever traced is exempt (`tail` drops it):
while the trace is empty the current request will be that one, afterwards it has to satisfy `C`. -/
theorem loop_hops (inner : Inner) (join : JoinFn) (a : Bool) (C : Request → Prop)
    (hin : InnerOK inner)
    (hC : ∀ hop (req : Request) resp t,
      redirectTarget join a hop req.uri resp = .ok (some t) → C (buildRedirected req t)) :
    ∀ fuel hop req st, (st.trace = [] ∨ C req) → (∀ r ∈ st.trace.tail, C r) →
      ∀ r ∈ (redirectLoop inner join a fuel hop req st).1.trace.tail, C r := by
  intro fuel hop req st h0 h
  refine loop_rule inner join a
    (fun _ req st => (st.trace = [] ∨ C req) ∧ ∀ r ∈ st.trace.tail, C r)
    (fun st => ∀ r ∈ st.trace.tail, C r) (fun _ _ h => h.2) ?_ fuel hop req st ⟨h0, h⟩
  intro _ hop req st ⟨h0, h⟩
  have h' : ∀ r ∈ (inner hop req st).1.trace.tail, C r := by
    intro r hr
    rcases hin hop req st with e | e <;> rw [e] at hr
    · -- the request just traced is a hop unless the trace was empty
      by_cases hne : st.trace = []
      · rw [hne] at hr; cases hr
      · rw [List.tail_append_of_ne_nil hne] at hr
        exact (List.mem_append.1 hr).elim (h r) fun h1 =>
          List.mem_singleton.1 h1 ▸ h0.resolve_left hne
    · exact h r hr
  exact ⟨h', fun resp t _ hr => ⟨Or.inr (hC hop req resp t hr), h'⟩⟩

/-- The invariant counts trace length and iterations left together: an iteration traces at most one
request. -/
theorem loop_trace_length (inner : Inner) (join : JoinFn) (a : Bool) (hin : InnerOK inner) :
    ∀ fuel hop req st,
      (redirectLoop inner join a fuel hop req st).1.trace.length ≤ st.trace.length + fuel := by
  intro fuel hop req st
  refine loop_rule inner join a
    (fun n _ st' => st'.trace.length + n ≤ st.trace.length + fuel)
    (fun st' => st'.trace.length ≤ st.trace.length + fuel) (fun _ _ h => h) ?_ fuel hop req st
    (Nat.le_refl _)
  intro n hop req st' h
  have hlen := hin.length_le hop req st'
  exact ⟨by omega, fun _ _ _ _ => by omega⟩

theorem loop_disabled (inner : Inner) (join : JoinFn) (n hop : Nat) (req : Request) (st : St) :
    redirectLoop inner join false (n + 1) hop req st =
      ((inner hop req st).1,
        match (inner hop req st).2 with
        | .error e => .error e
        | .ok resp => if redirectLocation resp = none then .ok resp else .error .redirectDisallowed) := by
  unfold redirectLoop
  cases hi : inner hop req st with
  | mk st' res =>
    cases res with
    | error e => rfl
    | ok resp =>
      simp only [redirectTarget]
      cases redirectLocation resp <;> simp

end C2pa.C27

namespace C2pa.C26

open C2pa.C27

theorem restricted_innerOK (allowed : Option (List Pattern)) (t : Transport) :
    InnerOK (restricted allowed t) := by
  intro hop req st
  unfold restricted
  by_cases h : (!resolverAllows allowed req.uri) = true
  · right; simp [h]
  · left; simp [h]

/-- The layer below the redirect follower in the default stack. -/
def stackInner (t : Transport) (allowed : Option (List Pattern)) : Inner :=
  match allowed with
  | some ps => restricted (some ps) t
  | none => bare t

theorem stackInner_innerOK (t : Transport) (allowed : Option (List Pattern)) :
    InnerOK (stackInner t allowed) := by
  cases allowed with
  | none => exact bare_innerOK t
  | some ps => exact restricted_innerOK (some ps) t

theorem stack_eq (t : Transport) (join : JoinFn) (allowed : Option (List Pattern)) (a : Bool)
    (req : Request) :
    stack t join allowed a req = redirectResolver (stackInner t allowed) join a req := by
  cases allowed <;> rfl

theorem stack_hops (t : Transport) (join : JoinFn) (allowed : Option (List Pattern)) (a : Bool)
    (req : Request) (C : Request → Prop)
    (hC : ∀ hop (rq : Request) resp tg,
      redirectTarget join a hop rq.uri resp = .ok (some tg) → C (buildRedirected rq tg)) :
    ∀ r ∈ (stack t join allowed a req).1.trace.tail, C r := by
  rw [stack_eq]
  exact loop_hops _ join a C (stackInner_innerOK t allowed) hC _ _ _ _ (Or.inl rfl) nofun

end C2pa.C26
