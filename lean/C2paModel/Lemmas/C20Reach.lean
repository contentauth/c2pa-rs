import C2paModel.Lemmas.C20Loop
/-
C20 — store level. The log that `ingredient_checks` returns with `Ok` extends the log it was given, and when
`verify_store` returns `Ok`, every ingredient assertion of the active manifest that is not zeroed,
parses, and names a manifest present in the store has had `verify_claim` run on that manifest
(ingredient scope): everything that run logged — and everything the edge check logged — is in the
log `verify_store` returns, as is everything `verify_claim` logged for the active manifest itself.
In front of that: what `getClaim` finds, and the walkers on a claim where they stop at once.
-/
namespace C2pa.C20
open C2pa.C34

theorem getClaim_label (s : Store) (l : Str) (p : Claim) (h : getClaim s l = some p) :
    p.label = l := by
  unfold getClaim at h
  have := List.find?_some h
  simpa using this

theorem getClaim_head (c : Claim) (s : Store) : getClaim (c :: s) c.label = some c := by
  simp [getClaim]

theorem getClaim_of_mem_nodup :
    ∀ (s : Store) (c : Claim), (s.map (·.label)).Nodup → c ∈ s → getClaim s c.label = some c := by
  intro s
  induction s with
  | nil => intro c _ hc; cases hc
  | cons x xs ih =>
    intro c hnd hc
    simp only [List.map_cons, List.nodup_cons] at hnd
    unfold getClaim
    simp only [List.find?_cons]
    rcases List.mem_cons.1 hc with rfl | hc
    · simp
    · have hne : (x.label == c.label) = false := by
        apply beq_false_of_ne
        intro heq
        exact hnd.1 (heq ▸ List.mem_map.2 ⟨c, hc, rfl⟩)
      simp only [hne]
      exact ih c hnd.2 hc

theorem hbm_self (s : Store) (fuel : Nat) (c : Claim) (hu : c.update = false) (hh : hasHash c = true) :
    hbm s (fuel + 1) c [] = some (some c.label) := by
  unfold hbm
  simp [hu, hh]

theorem ingChecks_leaf (s : Store) (reds : List Str) (map : List Claim) (fuel : Nat) (c : Claim)
    (st : ISt) (hi : ingAssertions c = []) : ingChecks s reds map (fuel + 1) c st = .ok st := by
  unfold ingChecks
  rw [hi]
  unfold iLoop
  rfl

/-- the ingredient edge `x` of a claim resolves to the claim `ic` of the store. `d`, `t`, `il` are what
`iLoop` reads off `x` on the way; they are arguments because `Reached` and the edge check speak of them. -/
def Resolves (s : Store) (x : CA × Option IngD) (d : IngD) (t : HU) (il : Str) (ic : Claim) : Prop :=
  x.1.zero = false ∧ x.2 = some d ∧ d.target = some t ∧ labelFromPath t.url = some il ∧
    getClaim s il = some ic

/-- what the loop of `ingredient_checks` has done for an edge once it is past it -/
def Reached (reds : List Str) (map : List Claim) (d : IngD) (t : HU) (il : Str) (ic : Claim)
    (log : List Ev) : Prop :=
  ∃ vc, verifyClaim ic reds map true = some vc ∧ vc.err = false ∧
    (edgeCheck reds il d t ic).err = false ∧
    (∀ e ∈ (edgeCheck reds il d t ic).log, e ∈ log) ∧ ∀ e ∈ vc.log, e ∈ log

/-- an `Ok` result extends the log `l` and satisfies `Q` -/
def IRes.Post (l : List Ev) (Q : List Ev → Prop) : IRes → Prop
  | .ok st => l <+: st.log ∧ Q st.log
  | _ => True

theorem IRes.Post.mono {l l' : List Ev} {Q Q' : List Ev → Prop} {r : IRes} (h : r.Post l Q)
    (hl : l' <+: l) (hQ : ∀ log, l <+: log → Q log → Q' log) : r.Post l' Q' := by
  cases r with
  | ok st => exact ⟨hl.trans h.1, hQ _ h.1 h.2⟩
  | err | panic => trivial

def AllReached (s : Store) (reds : List Str) (map : List Claim) (es : List (CA × Option IngD))
    (log : List Ev) : Prop :=
  ∀ x ∈ es, ∀ d t il ic, Resolves s x d t il ic → Reached reds map d t il ic log

theorem AllReached.cons_skip {s : Store} {reds : List Str} {map : List Claim} {x : CA × Option IngD}
    {es : List (CA × Option IngD)} {log : List Ev} (hx : ∀ d t il ic, ¬ Resolves s x d t il ic)
    (h : AllReached s reds map es log) : AllReached s reds map (x :: es) log :=
  List.forall_mem_cons.2 ⟨fun d t il ic hr => absurd hr (hx d t il ic), h⟩

/-- `hec`, `hve` in the shape the `if`s of `iLoop` hand them over -/
theorem AllReached.cons_resolved {s : Store} {reds : List Str} {map : List Claim} {a : CA} {d : IngD}
    {t : HU} {il : Str} {ic : Claim} {vc : Out} {es : List (CA × Option IngD)} {pre log : List Ev}
    (ht : d.target = some t) (hl : labelFromPath t.url = some il) (hg : getClaim s il = some ic)
    (hec : ¬ (edgeCheck reds il d t ic).err = true) (hv : verifyClaim ic reds map true = some vc)
    (hve : ¬ vc.err = true) (hsub : pre ++ (edgeCheck reds il d t ic).log ++ vc.log <+: log)
    (h : AllReached s reds map es log) : AllReached s reds map ((a, some d) :: es) log := by
  refine List.forall_mem_cons.2 ⟨?_, h⟩
  rintro d' t' il' ic' ⟨_, hd, ht', hl', hg'⟩
  cases hd
  obtain rfl := Option.some.inj (ht ▸ ht')
  obtain rfl := Option.some.inj (hl ▸ hl')
  obtain rfl := Option.some.inj (hg ▸ hg')
  exact ⟨vc, hv, by simpa using hve, by simpa using hec,
    fun e he => hsub.subset (List.mem_append_left _ (List.mem_append_right _ he)),
    fun e he => hsub.subset (List.mem_append_right _ he)⟩

/-- The walk of `ingredient_checks`: when a function answers `Ok` it has only appended to the log,
and every resolving edge of its list has been reached. One functional induction over
the pair. `fun_induction` refuses mutually recursive functions, so the generated principle is applied
by hand: its 14 cases are the branches of `ingChecks` (2) and `iLoop` (12) in the order of Model/C20's
text, each with the branch's result in the motive. -/
theorem walk_spec (s : Store) (reds : List Str) (map : List Claim) :
    (∀ fuel c st, (ingChecks s reds map fuel c st).Post st.log (AllReached s reds map (ingAssertions c))) ∧
    ∀ fuel es st, (iLoop s reds map fuel es st).Post st.log (AllReached s reds map es) := by
  refine ingChecks.mutual_induct_unfolding s reds map
    (fun _ c st r => r.Post st.log (AllReached s reds map (ingAssertions c)))
    (fun _ es st r => r.Post st.log (AllReached s reds map es)) ?_ ?_ ?_ ?_ ?_ ?_ ?_ ?_ ?_ ?_ ?_ ?_ ?_ ?_
  -- `ingChecks`: out of fuel; the loop over the claim's ingredient assertions
  · exact fun _ _ => trivial
  · exact fun _ _ _ ih => ih
  -- `iLoop`: end of the list
  · exact fun _ st => ⟨List.prefix_refl _, fun _ hx => nomatch hx⟩
  -- zeroed assertion, skipped
  · intro _ a d _ _ hz ih
    exact ih.mono (List.prefix_refl _) fun _ _ h => h.cons_skip fun _ _ _ _ ⟨hz', _⟩ => by simp [hz] at hz'
  -- the assertion does not parse: `Err`
  · intros; trivial
  -- no target manifest
  · intro _ a _ _ _ d ht _ ih
    exact ih.mono (List.prefix_append _ _) fun _ _ h => h.cons_skip fun _ _ _ _ ⟨_, hd, ht', _⟩ => by
      cases hd; simp [ht] at ht'
  -- `labelFromPath` panics
  · intros; trivial
  -- the target is not in the store
  · intro _ a _ _ _ d t ht _ il hl hg ih
    exact ih.mono (by simp) fun _ _ h => h.cons_skip fun _ _ _ _ ⟨_, hd, ht', hl', hg'⟩ => by
      cases hd
      obtain rfl := Option.some.inj (ht ▸ ht')
      obtain rfl := Option.some.inj (hl ▸ hl')
      simp [hg] at hg'
  -- the edge check answers `Err`
  · intros; trivial
  -- `verify_claim` of the ingredient panics
  · intros; trivial
  -- `verify_claim` of the ingredient answers `Err`
  · intros; trivial
  -- the ingredient was visited before: no descent
  · intro _ a _ st _ d t ht e0 il hl ic hg ec hec vc hv st1 hve _ ih
    exact ih.mono (by simp [st1]) fun _ hlog h => h.cons_resolved ht hl hg hec hv hve hlog
  -- descent into the ingredient answers `Ok`: the loop goes on from its state
  · intro _ a _ st _ d t ht e0 il hl ic hg ec hec vc hv st1 hve _ st2 h2 ih1 ih2
    rw [h2] at ih1
    exact ih2.mono ((by simp [st1] : _ <+: _).trans ih1.1) fun _ hlog h =>
      h.cons_resolved ht hl hg hec hv hve (ih1.1.trans hlog)
  -- descent answers `Err` or panics: that is the answer
  · intro _ _ _ _ _ _ _ _ _ _ _ ic _ _ _ _ _ _ _ _ hno _
    generalize ingChecks s reds map _ ic _ = r at hno
    cases r with
    | ok st2 => exact (hno st2 rfl).elim
    | err | panic => trivial

theorem verifyStore_ok_iff (s : Store) (o : Out) :
    verifyStore s = some o ∧ o.err = false ↔
      ∃ root g bl vc st, s.getLast? = some root ∧ gcrm s (fuelFor s) root [] {} = .ok g ∧
        hbm s (fuelFor s) root [] = some (some bl) ∧
        verifyClaim root g.reds (g.map.filterMap (getClaim s)) false = some vc ∧ vc.err = false ∧
        ingChecks s g.reds (g.map.filterMap (getClaim s)) (fuelFor s) root
          ⟨[root.label], g.log ++ vc.log⟩ = .ok st ∧ o = ⟨st.log, false⟩ := by
  constructor
  · rintro ⟨h, hok⟩
    unfold verifyStore at h
    -- every branch but the last answers `none` or `Err`
    split at h
    · cases h; cases hok
    next root hroot =>
    split at h
    · cases h
    · cases h; cases hok
    next g hg =>
    split at h
    · cases h
    · cases h; cases hok
    next bl hb =>
    simp only [] at h
    split at h
    · cases h
    next vc hv =>
    split at h
    · cases h; cases hok
    next hve =>
    split at h
    · cases h
    · cases h; cases hok
    next st hi =>
    exact ⟨root, g, bl, vc, st, hroot, hg, hb, hv, by simpa using hve, hi, (Option.some.inj h).symm⟩
  · rintro ⟨root, g, bl, vc, st, hroot, hg, hb, hv, hve, hi, rfl⟩
    unfold verifyStore
    simp only [hroot, hg, hb, hv, hve, hi, Bool.false_eq_true, if_false, and_self]

theorem verifyStore_reaches_ingredients (s : Store) (o : Out) (h : verifyStore s = some o)
    (hok : o.err = false) (root : Claim) (hroot : s.getLast? = some root) :
    ∃ g vc, gcrm s (fuelFor s) root [] {} = .ok g ∧
      verifyClaim root g.reds (g.map.filterMap (getClaim s)) false = some vc ∧ vc.err = false ∧
      (∀ e ∈ vc.log, e ∈ o.log) ∧
      ∀ x ∈ ingAssertions root, ∀ d t il ic, Resolves s x d t il ic →
        Reached g.reds (g.map.filterMap (getClaim s)) d t il ic o.log := by
  obtain ⟨root', g, _, vc, st, hroot', hg, _, hv, hve, hi, rfl⟩ := (verifyStore_ok_iff s o).1 ⟨h, hok⟩
  obtain rfl := Option.some.inj (hroot ▸ hroot')
  have hw := (walk_spec s g.reds (g.map.filterMap (getClaim s))).1 (fuelFor s) root
    ⟨[root.label], g.log ++ vc.log⟩
  rw [hi] at hw
  exact ⟨g, vc, hg, hv, hve, fun e he => hw.1.subset (List.mem_append_right _ he), hw.2⟩

end C2pa.C20
