import C2paModel.Lemmas.C18Base
/-
C18 — one postcondition per reader: no panic, positions stay inside the data and advance, structural
invariants of what is returned, and how many bytes were consumed against the written form of what is
returned.
-/
namespace C2pa.C18

theorem readHeader_post (d : Bytes) (pos : Nat) (hp : pos ≤ d.length) :
    (readHeader d pos).Post (fun r => r.2 ≤ d.length ∧
      ((r.2 = pos ∧ r.1.name = 0 ∧ r.1.size = 0) ∨ r.2 = pos + 8 ∨ r.2 = pos + 16)) := by
  unfold readHeader
  refine .ite (fun _ => ⟨hp, .inl ⟨rfl, rfl, rfl⟩⟩) fun _ => .guard fun _ => .ite (fun _ => ?_) fun _ => ?_
  · exact .guard fun _ => ⟨by omega, .inr (.inr rfl)⟩
  · exact ⟨by omega, .inr (.inl rfl)⟩

theorem readToVec_post (d : Bytes) (pos n : Nat) :
    (readToVec d pos n).Post (fun r => r.2 = pos + n ∧ r.2 ≤ d.length ∧ r.1.length = n) := by
  unfold readToVec
  refine .guard fun _ => .guard fun _ => ⟨rfl, by omega, ?_⟩
  rw [slice_length]; omega

/-- in bounds only from a position in bounds: the test `d.length - pos < n` passes for `n = 0` wherever
`pos` is (`readToVec` tests `pos + n > d.length`) -/
theorem readExact_post (d : Bytes) (pos n : Nat) :
    (readExact d pos n).Post (fun r => r.2 = pos + n ∧ r.1.length = n ∧ (pos ≤ d.length → r.2 ≤ d.length)) := by
  unfold readExact
  refine .guard fun _ => ⟨rfl, ?_, fun _ => by omega⟩
  rw [slice_length]; omega

theorem readByte_post (d : Bytes) (pos : Nat) (hp : pos ≤ d.length) :
    (readByte d pos).Post (fun r => r.2 = pos + 1 ∧ r.2 ≤ d.length) := by
  unfold readByte
  split
  · trivial
  · rename_i b r h
    have := avail_of_drop h
    simp at this ⊢
    omega

/-- the "did we start without the header" step -/
theorem reseek_post (c : Bool) (p1 : Nat) (h : 8 ≤ p1) :
    (reseek c p1).Post (fun p2 => p2 = p1 ∨ (c = true ∧ p2 + 8 = p1)) := by
  unfold reseek
  refine .ite (fun hc => ?_) fun _ => .inl rfl
  rw [unread_ok p1 h]
  exact .inr ⟨hc, by omega⟩

/-! ### the content boxes in the loop

The loop reads the header `bh` at `pos`, seeks back 8 bytes and calls the reader of the box type,
which reads a header again: at `pos` (ordinary header: the same header, no seek back) or at
`pos + 8` (large-size header: anything).  `Reread` is what the readers need to know about that:
they go on at `base` or later.  What each of them guarantees is stated as the loop uses it: the box
made of its result is a child with `ChildPost`. -/

def Reread (d : Bytes) (p2 size base : Nat) : Prop :=
  ((readHeader d p2).mapErr .invalidBoxHeader).Post fun r => base ≤ r.2 ∧ r.2 ≤ d.length ∧
    (¬ r.1.size = 0 → (reseek (r.1.size != size) r.2).Post fun q2 => base ≤ q2 ∧ q2 ≤ r.2)

theorem reread_self (d : Bytes) (p2 size : Nat) (hp : p2 ≤ d.length) : Reread d p2 size p2 := by
  refine ((readHeader_post d p2 hp).mono ?_).mapErr _
  rintro ⟨h, q1⟩ ⟨hl, hc⟩
  exact ⟨by omega, hl, fun hs =>
    (reseek_post _ q1 (by omega)).mono fun q2 hq2 => by omega⟩

theorem reread_loop (d : Bytes) (pos : Nat) (bh : Header) (p1 : Nat) (hp : pos ≤ d.length)
    (hh : readHeader d pos = .ok (bh, p1)) (hn : ¬ bh.name = 0) :
    Reread d (p1 - 8) bh.size (pos + 8) := by
  obtain ⟨hl, hc⟩ := (readHeader_post d pos hp).of_eq_ok hh
  dsimp only at hl hc
  obtain rfl | rfl : p1 = pos + 8 ∨ p1 = pos + 16 := by omega
  · unfold Reread
    rw [Nat.add_sub_cancel, hh]
    exact ⟨Nat.le_refl _, hl, fun _ => by simp [reseek]⟩
  · rw [show pos + 16 - 8 = pos + 8 by omega]
    exact reread_self d (pos + 8) bh.size (by omega)

/-- what a child box read from `pos` to `p3` contributes (`depth` is where `b` itself stands): at
least a header was consumed, and the written form is at most 9/8 of the consumed bytes -/
structure ChildPost (d : Bytes) (depth pos : Nat) (b : Box) (p3 : Nat) : Prop where
  valid : b.Valid
  height : b.height + depth ≤ 32
  adv : pos + 8 ≤ p3
  le : p3 ≤ d.length
  size : b.QuirkFree → 8 * b.size + 9 * pos ≤ 9 * p3

/-- bytes skipped before the child only help -/
theorem ChildPost.skip {d : Bytes} {depth pos q : Nat} {b : Box} {p3 : Nat} (h : pos ≤ q)
    (hc : ChildPost d depth q b p3) : ChildPost d depth pos b p3 :=
  ⟨hc.valid, hc.height, Nat.le_trans (Nat.add_le_add_right h 8) hc.adv, hc.le,
    fun hq => by have := hc.size hq; omega⟩

/-- a content box: no nesting, and written with at most one byte more than was consumed, of which
there were at least 8 — this is where 9/8 comes from -/
theorem ChildPost.flat {d : Bytes} {depth pos : Nat} {b : Box} {p3 : Nat} (hd : depth < 32)
    (hv : b.Valid) (hh : b.height = 0) (h1 : pos + 8 ≤ p3) (h2 : p3 ≤ d.length)
    (hs : b.QuirkFree → b.size + pos ≤ p3 + 1) : ChildPost d (depth + 1) pos b p3 :=
  ⟨hv, by omega, h1, h2, fun q => by have := hs q; omega⟩

theorem readData_post {d : Bytes} {depth pos p2 size : Nat} (k : Kind) (hd : depth < 32)
    (H : Reread d p2 size (pos + 8)) :
    (readData d p2 size).Post fun r => ChildPost d (depth + 1) pos (.leaf k r.1) r.2 := by
  unfold readData
  refine Res.Post.bind H ?_
  rintro ⟨h, q1⟩ ⟨hb, hl, hr⟩
  refine .ite (fun _ => .flat hd trivial rfl hb hl fun _ => by simp only [Box.size, List.length_nil]; omega)
    fun hs => ?_
  refine Res.Post.bind (hr hs) fun q2 hq2 => .guard fun _ => ?_
  refine (readToVec_post d q2 _).mono fun r hr => ?_
  exact .flat hd trivial rfl (by omega) hr.2.1 fun _ => by simp only [Box.size]; omega

theorem readUuid_post {d : Bytes} {depth pos p2 size : Nat} (hd : depth < 32)
    (H : Reread d p2 size (pos + 8)) :
    (readUuid d p2 size).Post fun r => ChildPost d (depth + 1) pos (.uuid r.1.1 r.1.2) r.2 := by
  unfold readUuid
  refine Res.Post.bind H ?_
  rintro ⟨h, q1⟩ ⟨hb, hl, hr⟩
  refine .ite (fun _ => .flat hd rfl rfl hb hl fun h => absurd rfl h) fun hs => ?_
  refine Res.Post.bind (hr hs) fun q2 hq2 => ?_
  refine Res.Post.bind (readExact_post d q2 16) ?_
  rintro ⟨u, p3⟩ ⟨h3, hul, h3l⟩
  refine .guard fun _ => Res.Post.bind (readToVec_post d p3 _) ?_
  rintro ⟨buf, p4⟩ ⟨h4, h4l, h5⟩
  dsimp only at h4 h4l h5
  exact .flat hd hul rfl (by omega) h4l fun _ => by simp only [Box.size]; omega

theorem splitMedia_post (togs : UInt8) (buf : Bytes) :
    (splitMedia togs buf).Post (fun r => r.1.length ≤ buf.length) := by
  unfold splitMedia
  split
  · split
    · rename_i p hp
      have : 1 ≤ buf.length := by
        cases buf with
        | nil => simp at hp
        | cons => simp
      rw [usub_ok _ _ this]
      simp only [bind_ok]
      split
      · simp
      · simp [List.length_take]; omega
    · simp
  · split <;> simp

theorem bfdbPayload_length_le (t : UInt8) (m : Bytes) : (bfdbPayload t m).length ≤ m.length + 2 := by
  unfold bfdbPayload
  split <;> simp

/-- a `bfdb` box may be written one byte longer than it was read (the writer terminates the media
type with a NUL the reader did not ask for) -/
theorem readBfdb_post {d : Bytes} {depth pos p2 size : Nat} (hd : depth < 32)
    (H : Reread d p2 size (pos + 8)) :
    (readBfdb d p2 size).Post fun r => ChildPost d (depth + 1) pos (.bfdb r.1.1 r.1.2.1 r.1.2.2) r.2 := by
  unfold readBfdb
  refine .guard fun hsz => Res.Post.bind H ?_
  rintro ⟨h, q1⟩ ⟨hb, hl, hr⟩
  refine .ite (fun _ => .flat hd trivial rfl hb hl fun _ => by simp [Box.size, bfdbPayload, strNonEmpty]; omega)
    fun hs => ?_
  refine Res.Post.bind (hr hs) fun q2 hq2 => ?_
  refine Res.Post.bind (readByte_post d q2 (by omega)) ?_
  rintro ⟨t, p3⟩ ⟨h3, h3l⟩
  rw [usub_ok size 8 (by omega)]
  simp only [Res.bind]
  rw [usub_ok (size - 8) 1 (by omega)]
  simp only [bind_ok]
  refine Res.Post.bind (readToVec_post d p3 _) ?_
  rintro ⟨buf, p4⟩ ⟨h4, h4l, h5⟩
  dsimp only at h4 h4l h5 ⊢
  refine Res.Post.bind (splitMedia_post t buf) ?_
  rintro ⟨mt, fn⟩ hm
  have := bfdbPayload_length_le t mt
  simp only [post_ok] at hm ⊢
  exact .flat hd trivial rfl (by omega) h4l fun _ => by simp only [Box.size]; omega

/-! ### the description box

Each reader of an optional field consumes the written form of what it returns (the salt: when
`bytes_left` ends at 8, which the caller checks). -/

theorem readLabel_post : ∀ (rest : Bytes) (bl : Nat),
    (readLabel rest bl).Post (fun r => (0 : UInt8) ∉ r.1 ∧ r.1.length + 1 ≤ rest.length ∧
      r.2 + r.1.length + 1 = bl ∧ 8 ≤ r.2) := by
  intro rest
  induction rest with
  | nil => intro bl; unfold readLabel; exact .guard fun _ => trivial
  | cons b r ih =>
    intro bl
    unfold readLabel
    refine .guard fun hbl => ?_
    rw [usub_ok bl 1 (by omega)]
    simp only [bind_ok]
    refine .ite (fun _ => ⟨List.not_mem_nil, by simp, by dsimp only [List.length_nil]; omega, by
      omega⟩) fun hb => ?_
    refine Res.Post.bind (ih (bl - 1)) ?_
    rintro ⟨l, x⟩ ⟨h1, h2, h3, h4⟩
    simp only [List.length_cons, List.mem_cons, not_or, post_ok] at h2 h3 h4 ⊢
    exact ⟨⟨fun h => hb h.symm, h1⟩, by omega, by omega, h4⟩

theorem readBoxId_post (d : Bytes) (togs : UInt8) (p bl : Nat) (hp : p ≤ d.length) (hbl : 8 ≤ bl) :
    (readBoxId d togs p bl).Post (fun r => (r.1.isSome = true ↔ togs &&& 0x04 = 0x04) ∧
      (∀ x, r.1 = some x → x < 4294967296) ∧ r.2.2 = p + (idBytes r.1).length ∧ r.2.2 ≤ d.length) := by
  unfold readBoxId
  refine .ite (fun ht => ?_) fun ht => ⟨by simpa using ht, nofun, rfl, hp⟩
  refine Res.Post.bind (readExact_post d p 4) ?_
  rintro ⟨v, p'⟩ ⟨h1, h3, h2⟩
  rw [usub_ok bl 4 (by omega)]
  refine ⟨by simpa using ht, ?_, h1, h2 hp⟩
  intro x hx
  cases hx
  have := be_lt v
  rw [h3] at this
  omega

theorem readSig_post (d : Bytes) (togs : UInt8) (p bl : Nat) (hp : p ≤ d.length) :
    (readSig d togs p bl).Post (fun r => (r.1.isSome = true ↔ togs &&& 0x08 = 0x08) ∧
      (∀ s, r.1 = some s → s.length = 32) ∧ r.2.2 = p + (optBytes r.1).length ∧ r.2.2 ≤ d.length) := by
  unfold readSig
  refine .ite (fun ht => ?_) fun ht => ⟨by simpa using ht, nofun, rfl, hp⟩
  refine Res.Post.bind (readExact_post d p 32) ?_
  rintro ⟨v, p'⟩ ⟨h1, h3, h2⟩
  refine .guard fun _ => ⟨by simpa using ht, fun s hs => by cases hs; exact h3, ?_, h2 hp⟩
  rw [h1, optBytes, h3]

/-- the salt box: when the description box is accepted (`bytes_left` ends at 8) the header re-read
did not seek back, and the salt box was consumed in full -/
theorem readSalt_post (d : Bytes) (togs : UInt8) (p bl : Nat) (hp : p ≤ d.length) :
    (readSalt d togs p bl).Post (fun r => (r.1.isSome = true ↔ togs &&& 0x10 = 0x10) ∧
      r.2.2 ≤ d.length ∧ (r.2.1 = 8 → p + (saltBytes r.1).length ≤ r.2.2)) := by
  unfold readSalt
  refine .ite (fun ht => ?_) fun ht => ⟨by simpa using ht, hp, fun _ => Nat.le_refl _⟩
  refine Res.Post.bind ((readHeader_post d p hp).mapErr _) ?_
  rintro ⟨h, q1⟩ ⟨hl, hc⟩
  dsimp only at hl hc ⊢
  refine .guard fun hs => ?_
  have hq1 : p + 8 ≤ q1 := by omega
  clear hc
  refine Res.Post.bind (reseek_post _ q1 (by omega)) fun q2 hq2 => ?_
  refine .guard fun _ => .guard fun _ => Res.Post.bind (readToVec_post d q2 _) ?_
  rintro ⟨buf, q3⟩ ⟨h4, h4l, h5⟩
  dsimp only at h4 h4l h5 ⊢
  refine .guard fun _ => ⟨by simpa using ht, h4l, fun h8 => ?_⟩
  simp only [saltBytes, serSalt, List.length_append, be32_length]
  dsimp only at h8
  rcases hq2 with rfl | ⟨hback, _⟩
  · omega
  · simp at hback
    omega

theorem readDesc_post (d : Bytes) (pos size : Nat) (hp : pos ≤ d.length) :
    (readDesc d pos size).Post (fun r => r.1.Valid0 ∧ r.2 ≤ d.length ∧
      pos + (descPayload r.1).length ≤ r.2) := by
  unfold readDesc
  refine .guard fun hsz => ?_
  refine .guard fun hk => ?_
  rw [usub_ok size _ (by omega)]
  simp only [bind_ok]
  refine Res.Post.bind (readByte_post d _ (by omega)) ?_
  rintro ⟨t, p1⟩ ⟨h1, h1l⟩
  rw [usub_ok _ 1 (by omega)]
  simp only [bind_ok]
  -- a short read of the UUID ends at the end of the data, where no toggles byte could follow
  have hk16 : min 16 (d.length - pos) = 16 := by omega
  have hu : (slice d pos 16).length = 16 := by rw [slice_length]; exact hk16
  rw [hk16] at h1
  clear hk hk16 hsz
  refine .guard fun ht => Res.Post.bind (readLabel_post (d.drop p1) _) ?_
  rintro ⟨label, bl⟩ ⟨hl0, hll, hlb, hl8⟩
  simp only [List.length_drop] at hll
  dsimp only
  refine Res.Post.bind (readBoxId_post d _ _ bl (by omega) hl8) ?_
  rintro ⟨bxid, bl2, p3⟩ ⟨hi1, hi2, hi3, hi4⟩
  dsimp only at hi1 hi2 hi3 hi4 ⊢
  refine Res.Post.bind (readSig_post d _ p3 bl2 hi4) ?_
  rintro ⟨sig, bl3, p4⟩ ⟨hs1, hs2, hs3, hs4⟩
  dsimp only at hs1 hs2 hs3 hs4 ⊢
  refine Res.Post.bind (readSalt_post d _ p4 bl3 hs4) ?_
  rintro ⟨salt, bl4, p5⟩ ⟨ha1, ha3, ha4⟩
  dsimp only at ha1 ha3 ha4 ⊢
  refine .guard fun h8 => ?_
  have hlen := descPayload_length_le ⟨slice d pos 16, t, label, bxid, sig, salt⟩
  have := ha4 (Decidable.of_not_not h8)
  dsimp only at hlen
  exact ⟨⟨hu, Decidable.of_not_not ht, hl0, hi1, hi2, hs1, hs2, ha1⟩, ha3, by dsimp only; omega⟩

end C2pa.C18
