import C2paModel.Lemmas.C07PngOps
/-
Layer-B lemmas for the byte-exact PNG box map `Png.boxMap` (model of `PngIO::get_box_map`):
where the chunks of an accepted file end, which boxes are flagged C2PA / excluded, and how a chunk's
boxes relate to the box of its layer-A segment.
-/
namespace C2pa.C07.Png
open C2pa.C07

def boxOf (has : Bool) (c : Chunk) : List Box :=
  if c.name == caBX then [⟨"C2PA", c.start, c.length + 12, true, false⟩]
  else
    let bm : Box := ⟨nameStr c.name, c.start, c.length + 12, false, false⟩
    if !has && c.name == IHDR then [bm, ⟨"C2PA", c.fin, 0, true, true⟩] else [bm]

theorem boxMap_eq (b : Bytes) (ps : List Chunk) (hc : chunks b = some ps) :
    boxMap b = some (⟨"PNGh", 0, 8, false, false⟩ ::
      ps.flatMap (boxOf (ps.any (·.name == caBX)))) := by
  unfold boxMap; rw [hc]; rfl

theorem chunks_of_boxMap (b : Bytes) (l : List Box) (h : boxMap b = some l) :
    ∃ ps, chunks b = some ps := by
  unfold boxMap at h
  cases hc : chunks b with
  | none => rw [hc] at h; simp at h
  | some ps => exact ⟨ps, rfl⟩

/-- The chunks of an accepted file end (end of IEND) behind the first chunk and inside the file. -/
theorem chunks_tile {b : Bytes} {ps : List Chunk} (hc : chunks b = some ps) :
    8 + 12 ≤ finOf ps ∧ finOf ps ≤ b.length := by
  obtain ⟨rs, tail, hp, rfl⟩ := parsed_of_chunks hc
  have hl : b.length = 8 + (encAll rs).length + tail.length := by
    rw [hp.eq]; simp only [List.length_append, sig_length]; omega
  rw [hp.finOf_eq]
  refine ⟨?_, by omega⟩
  match rs, hp.stream.ne_nil, hp.stream.all_ok with
  | r :: rest, _, hok =>
    have := enc_length r (hok r List.mem_cons_self)
    rw [encAll_cons, List.length_append]; omega

theorem mem_place_inside : ∀ (rs : List RC) (pos : Nat), (∀ r ∈ rs, r.ok) →
    ∀ c ∈ place pos rs, c.fin ≤ pos + (encAll rs).length
  | [], _, _, c, hc => by cases hc
  | r :: rest, pos, hok, c, hc => by
    have hr := enc_length r (hok r List.mem_cons_self)
    rw [encAll_cons, List.length_append, hr]
    rcases List.mem_cons.1 hc with rfl | hc
    · rw [fin_mk]; omega
    · have := mem_place_inside rest _ (fun x hx => hok x (List.mem_cons_of_mem _ hx)) c hc
      omega

theorem any_caBX_false {ps : List Chunk} (h : ps.any (·.name == caBX) = false) :
    ∀ c ∈ ps, c.name ≠ caBX := by
  intro c hc he
  have : ps.any (·.name == caBX) = true := List.any_eq_true.2 ⟨c, hc, by simp [he]⟩
  rw [h] at this; cases this

theorem any_caBX_true {ps : List Chunk} {c : Chunk} (hc : c ∈ ps) (he : c.name = caBX) :
    ps.any (·.name == caBX) = true := List.any_eq_true.2 ⟨c, hc, by simp [he]⟩

/-- A chunk's own box, named as its layer-A segment, followed — for IHDR in a file without
caBX — by the zero-length excluded placeholder. -/
theorem boxOf_eq (has : Bool) (c : Chunk) :
    boxOf has c = ⟨tagOf c.name, c.start, c.length + 12, c.name == caBX, false⟩ ::
      (if (!(c.name == caBX) && (!has && c.name == IHDR)) = true then [⟨"C2PA", c.fin, 0, true, true⟩]
       else []) := by
  cases h1 : (c.name == caBX) <;> cases h2 : (!has && c.name == IHDR) <;>
    simp [boxOf, tagOf, h1, h2]

theorem boxOf_caBX (has : Bool) (c : Chunk) (h : c.name = caBX) :
    boxOf has c = [⟨"C2PA", c.start, c.length + 12, true, false⟩] := by
  simp [boxOf_eq, tagOf, h]

theorem mem_boxOf_cai {has : Bool} {c : Chunk} {x : Box} (hx : x ∈ boxOf has c)
    (hcai : x.cai = true) :
    (c.name = caBX ∧ x = ⟨"C2PA", c.start, c.length + 12, true, false⟩) ∨
    (has = false ∧ c.name = IHDR ∧ x = ⟨"C2PA", c.fin, 0, true, true⟩) := by
  rw [boxOf_eq] at hx
  rcases List.mem_cons.1 hx with rfl | hx
  · have h : c.name = caBX := beq_iff_eq.1 hcai
    exact Or.inl ⟨h, by simp [tagOf, h]⟩
  · split at hx
    · rename_i h
      simp only [Bool.and_eq_true, Bool.not_eq_true', beq_iff_eq] at h
      exact Or.inr ⟨h.2.1, h.2.2, List.mem_singleton.1 hx⟩
    · cases hx

theorem mem_boxOf_excl {has : Bool} {c : Chunk} {x : Box} (hx : x ∈ boxOf has c)
    (he : x.excl = true) : x.len = 0 ∧ x.cai = true := by
  rw [boxOf_eq] at hx
  rcases List.mem_cons.1 hx with rfl | hx
  · cases he
  · split at hx
    · cases List.mem_singleton.1 hx; exact ⟨rfl, rfl⟩
    · cases hx

theorem filter_boxOf (has : Bool) (c : Chunk) :
    (boxOf has c).filter (fun x => !x.excl) =
      [⟨tagOf c.name, c.start, c.length + 12, c.name == caBX, false⟩] := by
  rw [boxOf_eq]; split <;> rfl

/-- Specification boxes of the chunk segments = implementation boxes without the placeholder. -/
theorem chunkBoxes_spec (has : Bool) : ∀ (rs : List RC) (pos : Nat), (∀ r ∈ rs, r.ok) →
    boxesFrom pos (rs.map rcSeg)
      = ((place pos rs).flatMap (boxOf has)).filter (fun x => !x.excl)
  | [], _, _ => rfl
  | r :: rest, pos, hok => by
    rw [List.map_cons, place, List.flatMap_cons, List.filter_append, filter_boxOf, boxesFrom,
      chunkBoxes_spec has rest _ fun x hx => hok x (List.mem_cons_of_mem _ hx),
      show (rcSeg r).raw.length = r.data.length + 12 from enc_length r (hok r List.mem_cons_self),
      isM_rcSeg]
    rfl

theorem isM_chunkSeg (b : Bytes) (c : Chunk) : isM (chunkSeg b c) = (c.name == caBX) :=
  kindOf_manifest c.name

theorem length_chunkSeg (b : Bytes) (c : Chunk) (h : c.fin ≤ b.length) :
    (chunkSeg b c).raw.length = c.length + 12 := by
  simp only [chunkSeg, slice, List.length_take, List.length_drop, Chunk.fin] at *
  omega

theorem mem_of_find {ps : List Chunk} {c : Chunk} {n : Bytes}
    (h : ps.find? (·.name == n) = some c) : c ∈ ps ∧ c.name = n := by
  have h1 := List.mem_of_find?_eq_some h
  have h2 := List.find?_some h
  exact ⟨h1, by simpa using h2⟩

end C2pa.C07.Png
