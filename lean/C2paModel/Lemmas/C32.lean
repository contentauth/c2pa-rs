import C2paModel.Model.C32
/-
C32 — the invariant and the shape of the runs.

Every primitive of the model preserves `Inv fs0 P` for an arbitrary predicate `P` on locations
(`agree`: locations outside `P` hold what they held before the run; `conf`: every location touched
by an emitted action is in `P`; `explain`: the file system is the initial one with the actions
applied); Props/C32 takes "held nothing before the run" and "is a declared output" for `P`.
Each function of the decision tree is walked once, in its `*_run` lemma, which states
what the function can have done as a relation with one arm per kind of run; invariance, "a refusal
has done nothing" and "`ok` means written" are read off these relations by `cases`. The three loops
have no such relation: their lemmas are inductions over the loop itself.
-/
namespace C2pa.C32

theorem touches_eq_iff {p q : Loc} : (p == q) = true ↔ p = q := by simp

variable {fs0 : FS} {P : Loc → Prop} {cfg : Cfg} {st st' st1 : St} {p q out sc : Loc} {c : Content}
  {path output : RawPath}

structure Inv (fs0 : FS) (P : Loc → Prop) (st : St) : Prop where
  agree : ∀ p, ¬ P p → st.fs p = fs0 p
  conf : ∀ a ∈ st.acts, ∀ p, a.touches p = true → P p
  explain : st.fs = applyAll st.acts fs0

theorem Inv.init (fs0 : FS) (P : Loc → Prop) : Inv fs0 P { fs := fs0, acts := [] } :=
  ⟨fun _ _ => rfl, fun _ h => (nomatch h), rfl⟩

theorem apply_frame (a : Action) (fs : FS) (p : Loc) (h : a.touches p = false) :
    apply a fs p = fs p := by
  cases a <;> simp_all [apply, Action.touches]

theorem applyAll_append (as : List Action) (a : Action) (fs : FS) :
    applyAll (as ++ [a]) fs = apply a (applyAll as fs) := by
  simp [applyAll, List.foldl_append]

theorem Inv.emit (h : Inv fs0 P st) (a : Action)
    (ha : ∀ p, a.touches p = true → P p) : Inv fs0 P (emit a st) := by
  refine ⟨?_, ?_, ?_⟩
  · intro p hp
    have : a.touches p = false := by
      cases ht : a.touches p with
      | false => rfl
      | true => exact absurd (ha p ht) hp
    simp only [C32.emit]
    rw [apply_frame a st.fs p this]
    exact h.agree p hp
  · intro b hb p hbp
    simp only [C32.emit, List.mem_append, List.mem_singleton] at hb
    rcases hb with hb | hb
    · exact h.conf b hb p hbp
    · subst hb; exact ha p hbp
  · simp only [C32.emit]
    rw [applyAll_append, ← h.explain]

theorem Inv.absent_of (h : Inv fs0 P st)
    (hn : fs0 p = .absent → P p) (hs : st.fs p = .absent) : P p := by
  by_cases hp : P p
  · exact hp
  · have := h.agree p hp
    exact hn (by rw [← this]; exact hs)

theorem Inv.emit_at (h : Inv fs0 P st) (hp : P p)
    (a : Action) (ha : ∀ q, a.touches q = (p == q) := by exact fun _ => rfl) :
    Inv fs0 P (C32.emit a st) :=
  h.emit a fun q hq => touches_eq_iff.mp (ha q ▸ hq) ▸ hp

/-- The two ways an `if` takes a value. On the equation `f … = r` of a decision tree each `if` is
taken apart with this and each `match` with `split at`: `split` on an `if` of a term of that size is
slow. -/
theorem ite_cases {α : Sort _} {c : Prop} [Decidable c] {a b r : α}
    (h : (if c then a else b) = r) : c ∧ a = r ∨ ¬ c ∧ b = r := by
  by_cases hc : c
  · exact .inl ⟨hc, (if_pos hc).symm.trans h⟩
  · exact .inr ⟨hc, (if_neg hc).symm.trans h⟩

theorem isFile_iff : isFile st p = true ↔ ∃ c, st.fs p = .file c := by
  unfold isFile
  cases st.fs p <;> simp

theorem removeFile_some (e : removeFile p st = some st') :
    isFile st p = true ∧ st' = emit (.remove p) st := by
  obtain ⟨hf, e⟩ | ⟨_, e⟩ := ite_cases e
  · exact ⟨hf, (Option.some.inj e).symm⟩
  · cases e

theorem writeFile_some (e : writeFile p c st = some st') :
    st' = emit (.overwrite p c) st ∨ st' = emit (.create p c) st := by
  unfold writeFile at e
  split at e
  · cases e
  · exact .inl (Option.some.inj e).symm
  · split at e
    · exact .inr (Option.some.inj e).symm
    · cases e

theorem writeFile_inv (h : Inv fs0 P st) (hp : P p) (e : writeFile p c st = some st') : Inv fs0 P st' := by
  rcases writeFile_some e with rfl | rfl <;> exact h.emit_at hp _

theorem writeFile_post (e : writeFile p c st = some st') :
    st'.fs p = .file c := by
  rcases writeFile_some e with rfl | rfl <;> exact if_pos (beq_self_eq_true p)

theorem writeFile_frame (e : writeFile p c st = some st')
    (hq : q ≠ p) : st'.fs q = st.fs q := by
  have hq' : ¬ (p == q) = true := fun h => hq (beq_iff_eq.mp h).symm
  rcases writeFile_some e with rfl | rfl <;> exact if_neg hq'

theorem createNew_inv (h : Inv fs0 P st) (hn : fs0 p = .absent → P p)
    (e : createNew p c st = some st') : Inv fs0 P st' := by
  unfold createNew at e
  split at e
  · rename_i hc
    split at e
    · cases e
      exact h.emit_at (h.absent_of hn hc) _
    · cases e
  · cases e

theorem mkdirEach_inv (qs : List Loc) :
    ∀ (st : St), Inv fs0 P st → (∀ q ∈ qs, fs0 q = .absent → P q) → Inv fs0 P (mkdirEach qs st) := by
  induction qs with
  | nil => intro st h _; exact h
  | cons q qs ih =>
    intro st h hq
    unfold mkdirEach
    apply ih
    · split
      · rename_i hc
        have hc' : st.fs q = .absent := by simpa using hc
        exact h.emit_at (h.absent_of (hq _ List.mem_cons_self) hc') _
      · exact h
    · intro r hr; exact hq r (List.mem_cons_of_mem _ hr)

theorem mkdirAll_inv (h : Inv fs0 P st) (hq : ∀ q ∈ prefixes p, fs0 q = .absent → P q)
    (e : mkdirAll p st = some st') : Inv fs0 P st' := by
  unfold mkdirAll at e
  split at e
  · cases e
  · cases e
    exact mkdirEach_inv _ _ h hq

theorem rmTree_inv (h : Inv fs0 P st) (hp : ∀ q, p <+: q → P q) (e : rmTree p st = some st') : Inv fs0 P st' := by
  unfold rmTree at e
  split at e
  · cases e
    exact h.emit _ fun q hq => hp q (List.isPrefixOf_iff_prefix.mp hq)
  · cases e

/-- `st1` is `st` with the missing directories down to `p` created — or `st` itself, where the
code does not call `create_dir_all` because `p` exists -/
abbrev Made (p : Loc) (st st1 : St) : Prop := st1 = st ∨ mkdirAll p st = some st1

/-- A step that is taken only on one side of an `if` and has led to `st1`: nothing happened, or the
step succeeded (the model writes these as `if c then f st else some st`, either way round). -/
theorem step_of_ite {c : Prop} [Decidable c] {f : Option St}
    (e : (if c then f else some st) = some st1) : st1 = st ∨ f = some st1 :=
  (ite_cases e).elim (fun h => .inr h.2) fun h => .inl (Option.some.inj h.2).symm

theorem step_of_ite_else {c : Prop} [Decidable c] {f : Option St}
    (e : (if c then some st else f) = some st1) : st1 = st ∨ f = some st1 :=
  (ite_cases e).elim (fun h => .inl (Option.some.inj h.2).symm) fun h => .inr h.2

theorem Made.inv (e : Made p st st') (h : Inv fs0 P st)
    (hq : ∀ q ∈ prefixes p, fs0 q = .absent → P q) : Inv fs0 P st' := by
  rcases e with rfl | e
  · exact h
  · exact mkdirAll_inv h hq e

theorem prefixes_prefix : ∀ (p q : Loc), q ∈ prefixes p → q <+: p := by
  intro p
  induction p with
  | nil => intro q h; simp [prefixes] at h
  | cons x xs ih =>
    intro q h
    simp only [prefixes, List.mem_cons, List.mem_map] at h
    rcases h with h | ⟨r, hr, rfl⟩
    · subst h; exact ⟨xs, rfl⟩
    · obtain ⟨t, ht⟩ := ih r hr
      exact ⟨t, by simp [← ht]⟩

/-! ### the signing arm -/

/-- What both arms of `signStep` do: create the missing parents of `out` (or nothing), then
write `out` at most once; `ok` is reported only after `c` has been written there. -/
inductive SignRun (out : Loc) (c : Content) (st : St) : Outcome × St → Prop
  | stopped {st1 : St} : Made out.dropLast st st1 → SignRun out c st (.fail, st1)
  | failed {st1 st2 : St} {c' : Content} :
      Made out.dropLast st st1 → writeFile out c' st1 = some st2 → SignRun out c st (.fail, st2)
  | signed {st1 st2 : St} :
      Made out.dropLast st st1 → writeFile out c st1 = some st2 → SignRun out c st (.ok, st2)

theorem signFile_run {src out : Loc} {r : Outcome × St}
    (hr : signFile cfg src out c st = r) : SignRun out c st r := by
  subst hr
  -- the cases of `signFile` in source order; `e1`: `mkdirAll` succeeded, `e2`: `writeFile` did,
  -- `hs`: `cfg.signOk`; the blanks are the `if` conditions that let the run go on
  fun_cases signFile cfg src out c st with
  | case1 | case2 => exact .stopped (.inl rfl)
  | case3 _ _ e1 | case4 _ _ e1 | case5 _ _ e1 => exact .stopped (.inr e1)
  | case6 _ _ e1 _ _ _ e2 hs => exact .signed (.inr e1) (if_pos hs (t := c) (e := .junk) ▸ e2)
  | case7 _ _ e1 _ _ _ e2 => exact .failed (.inr e1) e2

theorem signInPlace_run {src out : Loc} {r : Outcome × St}
    (hr : signInPlace cfg src out c st = r) : SignRun out c st r := by
  subst hr
  -- `e1`: the parents of `out` exist or were made, `e2`: `writeFile` succeeded
  fun_cases signInPlace cfg src out c st with
  | case1 | case2 | case3 | case4 => exact .stopped (.inl rfl)
  | case5 _ _ _ _ e1 => exact .stopped (step_of_ite_else e1)
  | case6 _ _ _ _ e1 _ e2 => exact .signed (step_of_ite_else e1) e2

theorem signStep_run {r : Outcome × St}
    (hr : signStep cfg path output st = r) :
    SignRun (cfg.rho output) (signContent cfg) st r := by
  obtain ⟨_, hr⟩ | ⟨_, hr⟩ := ite_cases hr
  · exact signFile_run hr
  · exact signInPlace_run hr

theorem SignRun.inv {r : Outcome × St} (hr : SignRun out c st r) (h : Inv fs0 P st) (hO : P out)
    (hA : ∀ q ∈ prefixes out.dropLast, fs0 q = .absent → P q) : Inv fs0 P r.2 := by
  cases hr with
  | stopped e1 => exact e1.inv h hA
  | failed e1 e2 => exact writeFile_inv (e1.inv h hA) hO e2
  | signed e1 e2 => exact writeFile_inv (e1.inv h hA) hO e2

theorem SignRun.ok {r : Outcome × St}
    (hr : SignRun out c st r) (hok : r.1 = .ok) : r.2.fs out = .file c := by
  cases hr with
  | stopped _ => cases hok
  | failed _ _ => cases hok
  | signed _ e2 => exact writeFile_post e2

/-- What `outputCheck` lets through: the state as it was (output absent, or `--force` with the
output spelled like PATH), or the forced removal of the existing output file. -/
inductive Checked (cfg : Cfg) (path output : RawPath) (st : St) : St → Prop
  | kept : cfg.force = true ∨ st.fs (cfg.rho output) = .absent → Checked cfg path output st st
  | removed : cfg.force = true → pathEq output path = false → isFile st (cfg.rho output) = true →
      Checked cfg path output st (emit (.remove (cfg.rho output)) st)

theorem outputCheck_some (e : outputCheck cfg path output st = some (some st1)) :
    Checked cfg path output st st1 := by
  obtain ⟨_, e⟩ | ⟨hne, e⟩ := ite_cases e
  · obtain ⟨hf, e⟩ | ⟨_, e⟩ := ite_cases e
    · simp only [Bool.and_eq_true, Bool.not_eq_true'] at hf
      split at e
      · rename_i s e'
        cases e
        obtain ⟨hfile, rfl⟩ := removeFile_some e'
        exact .removed hf.1 hf.2 hfile
      · cases e
    · obtain ⟨_, e⟩ | ⟨hnf, e⟩ := ite_cases e
      · cases e
      · cases e
        exact .kept (.inl (by simpa using hnf))
  · cases e
    exact .kept (.inr (by simpa [pExists, locExists] using hne))

theorem Checked.inv (hc : Checked cfg path output st st1) (h : Inv fs0 P st)
    (h1 : (cfg.force = true ∨ st.fs (cfg.rho output) = .absent) → P (cfg.rho output)) :
    (cfg.force = true ∨ st.fs (cfg.rho output) = .absent) ∧ Inv fs0 P st1 := by
  cases hc with
  | kept hfo => exact ⟨hfo, h⟩
  | removed hf => exact ⟨.inl hf, h.emit_at (h1 (.inl hf)) _⟩

/-- What `signTail` does with the result `r0` of the signing step: a failed step is handed on; after
an `ok` step the sidecar is written when asked for (a failing write leaves the state), then the
closing report decides between `ok` and `fail`. -/
inductive TailRun (cfg : Cfg) (sc : Loc) (r0 : Outcome × St) : Res → Prop
  | handed : r0.1 ≠ .ok → TailRun cfg sc r0 ⟨r0.1, r0.2⟩
  | unwritten : r0.1 = .ok → TailRun cfg sc r0 ⟨.fail, r0.2⟩
  | closed {st3 : St} {o : Outcome} : r0.1 = .ok →
      (cfg.sidecar = true ∧ writeFile sc .c2pa r0.2 = some st3 ∨ ¬ cfg.sidecar = true ∧ st3 = r0.2) →
      (o = .ok ∨ o = .fail) → TailRun cfg sc r0 ⟨o, st3⟩

theorem signTail_run {r0 : Outcome × St} {r : Res} (hr : signTail cfg sc r0 = r) :
    TailRun cfg sc r0 r := by
  obtain ⟨h0, rfl⟩ | ⟨h0, hr⟩ := ite_cases hr
  · exact .handed (by simpa using h0)
  have h0 : r0.1 = .ok := by simpa using h0
  split at hr
  · exact hr ▸ .unwritten h0
  rename_i st3 e3
  have e3 : cfg.sidecar = true ∧ writeFile sc .c2pa r0.2 = some st3
      ∨ ¬ cfg.sidecar = true ∧ st3 = r0.2 :=
    (ite_cases e3).imp id (.imp_right fun e => (Option.some.inj e).symm)
  obtain ⟨_, rfl⟩ | ⟨_, rfl⟩ := ite_cases hr
  · exact .closed h0 e3 (.inl rfl)
  · exact .closed h0 e3 (.inr rfl)

theorem TailRun.inv {r0 : Outcome × St} {r : Res} (hr : TailRun cfg sc r0 r)
    (h : Inv fs0 P r0.2) (hS : cfg.sidecar = true → P sc) : Inv fs0 P r.st := by
  cases hr with
  | handed | unwritten => exact h
  | closed _ e3 =>
    rcases e3 with ⟨hs, e3⟩ | ⟨_, rfl⟩
    · exact writeFile_inv h (hS hs) e3
    · exact h

/-- What the signing arm does: it stops with the state untouched; or it passes `outputCheck` and
then either refuses for a missing file name / extension or signs (`signStep`, `signTail`); when it
signs with `--sidecar` and without `--force`, the sidecar location was absent on entry. -/
inductive SignBranchRun (cfg : Cfg) (path output : RawPath) (st : St) : Res → Prop
  | stopped {o : Outcome} : o ≠ .ok → SignBranchRun cfg path output st ⟨o, st⟩
  | unnamed {o : Outcome} {st1 : St} : Checked cfg path output st st1 →
      (o = .noFilename ∨ o = .noExtension) → SignBranchRun cfg path output st ⟨o, st1⟩
  | signed {st1 : St} : Checked cfg path output st st1 →
      (cfg.sidecar = true →
        cfg.force = true ∨ st.fs (cfg.rho (withExtension output "c2pa")) = .absent) →
      SignBranchRun cfg path output st
        (signTail cfg (cfg.rho (withExtension output "c2pa")) (signStep cfg path output st1))

theorem signBranch_run {r : Res} (hr : signBranch cfg path output st = r) :
    SignBranchRun cfg path output st r := by
  subst hr
  -- `e`: `outputCheck` let `st1` through, `hsc`: the test on an existing sidecar
  fun_cases signBranch cfg path output st with
  | case1 | case2 | case3 => exact .stopped nofun
  | case4 _ _ _ e hsc =>
    -- an existing sidecar without `--force`: nothing was removed
    simp only [Bool.and_eq_true, Bool.not_eq_true'] at hsc
    cases outputCheck_some e with
    | kept => exact .stopped nofun
    | removed hf => rw [hf] at hsc; cases hsc.1.2
  | case5 _ _ _ e => exact .unnamed (outputCheck_some e) (.inl rfl)
  | case6 _ _ _ e => exact .unnamed (outputCheck_some e) (.inr rfl)
  | case7 _ _ _ e hsc =>
    refine .signed (outputCheck_some e) fun hside => ?_
    cases hf : cfg.force with
    | true => exact .inl rfl
    | false =>
      cases outputCheck_some e with
      | kept => exact .inr (by simpa [hside, hf, locExists] using hsc)
      | removed hf' => rw [hf] at hf'; cases hf'

theorem SignBranchRun.inv {r : Res} (hr : SignBranchRun cfg path output st r) (h : Inv fs0 P st)
    (h1 : (cfg.force = true ∨ st.fs (cfg.rho output) = .absent) → P (cfg.rho output))
    (h2 : cfg.sidecar = true →
      (cfg.force = true ∨ st.fs (cfg.rho (withExtension output "c2pa")) = .absent) →
      P (cfg.rho (withExtension output "c2pa")))
    (h3 : ∀ q ∈ prefixes (cfg.rho output).dropLast, fs0 q = .absent → P q) :
    Inv fs0 P r.st := by
  cases hr with
  | stopped => exact h
  | unnamed hc => exact (hc.inv h h1).2
  | signed hc hsc =>
    obtain ⟨hfo, hi1⟩ := hc.inv h h1
    exact (signTail_run rfl).inv ((signStep_run rfl).inv hi1 (h1 hfo) h3) fun hs => h2 hs (hsc hs)

/-! ### the fragment arm -/

theorem writeFrags_inv {d : Loc} (fs : List String) :
    ∀ st, Inv fs0 P st → (∀ f, fs0 (d ++ [f]) = .absent → P (d ++ [f])) →
      Inv fs0 P (writeFrags cfg d fs st).2 := by
  intro st
  fun_induction writeFrags cfg d fs st with
  | case1 | case2 | case3 => exact fun h _ => h
  | case4 f _ _ _ _ e ih => exact fun h hN => ih (createNew_inv h (hN f) e) hN

theorem fragLoop_inv (rs : List Rend) :
    ∀ st, Inv fs0 P st → (∀ q, (q <+: out ∨ out <+: q) → fs0 q = .absent → P q) →
      Inv fs0 P (fragLoop cfg out rs st).2 := by
  induction rs with
  | nil => intro st h _; exact h
  | cons x rs ih =>
    intro st h hN
    generalize hr : fragLoop cfg out (x :: rs) st = r
    unfold fragLoop at hr
    obtain ⟨_, rfl⟩ | ⟨_, hr⟩ := ite_cases hr
    · exact h
    split at hr
    · subst hr; exact h
    rename_i dn _
    dsimp only at hr
    obtain ⟨_, rfl⟩ | ⟨_, hr⟩ := ite_cases hr
    · exact h
    split at hr
    · subst hr; exact h
    rename_i st1 e1
    have h1 : Inv fs0 P st1 := by
      obtain ⟨_, e1⟩ | ⟨_, e1⟩ := ite_cases e1
      · exact mkdirAll_inv h (fun q hq => hN q
          (List.prefix_or_prefix_of_prefix (prefixes_prefix _ _ hq) ⟨[dn], rfl⟩)) e1
      · obtain ⟨_, e1⟩ | ⟨_, e1⟩ := ite_cases e1
        · cases e1; exact h
        · cases e1
    have h2 : Inv fs0 P (writeFrags cfg (out ++ [dn]) x.frags st1).2 :=
      writeFrags_inv _ _ h1 (fun f => hN _ (.inr ⟨[dn, f], by simp⟩))
    split at hr
    · rename_i st2 e2
      rw [e2] at h2; exact hr ▸ h2
    · rename_i st2 e2
      rw [e2] at h2; exact hr ▸ ih st2 h2 hN

theorem initLoop_inv (rs : List Rend) :
    ∀ st, Inv fs0 P st → (∀ r ∈ rs, ∀ d, initDest out r = some d → P d) →
      Inv fs0 P (initLoop out rs st).2 := by
  intro st
  fun_induction initLoop out rs st with
  | case1 | case2 | case3 => exact fun h _ => h
  | case4 r _ _ d hd _ e1 ih =>
    exact fun h hD => ih (writeFile_inv h (hD r List.mem_cons_self d hd) e1)
      fun r' hr' => hD r' (List.mem_cons_of_mem _ hr')

/-- no init destination holds anything, unless `--force` is given -/
abbrev InitsFree (cfg : Cfg) (out : Loc) (rends : List Rend) (st : St) : Prop :=
  cfg.force = true ∨ ∀ x ∈ rends, ∀ d, initDest out x = some d → st.fs d = .absent

/-- What the fragment arm does: it stops with the state untouched (`ok` then means there was
nothing to do); or — no init destination existing unless `--force` — it creates the output folder if
missing and runs the fragment loop, which fails (`copied`) or is followed by the init loop
(`placed`); `ok` needs both loops to succeed. -/
inductive FragRun (cfg : Cfg) (out : Loc) (rends : List Rend) (st : St) : Res → Prop
  | stopped {o : Outcome} : (o = .ok → rends = []) → FragRun cfg out rends st ⟨o, st⟩
  | copied {st1 st2 : St} {b : Bool} :
      InitsFree cfg out rends st →
      Made out st st1 → fragLoop cfg out rends st1 = (b, st2) → FragRun cfg out rends st ⟨.fail, st2⟩
  | placed {st1 st2 st3 : St} {b : Bool} {o : Outcome} :
      InitsFree cfg out rends st →
      Made out st st1 → fragLoop cfg out rends st1 = (true, st2) →
      initLoop out rends st2 = (b, st3) → (o = .fail ∨ o = .ok ∧ b = true) →
      FragRun cfg out rends st ⟨o, st3⟩

theorem fragBranch_run {glob : Bool} {rends : List Rend} {r : Res}
    (hr : fragBranch cfg output glob rends st = r) : FragRun cfg (cfg.rho output) rends st r := by
  have free (h : ¬ (!cfg.force && rends.any fun r => match initDest (cfg.rho output) r with
        | some d => locExists st d | none => false) = true) :
      InitsFree cfg (cfg.rho output) rends st :=
    (Bool.eq_false_or_eq_true cfg.force).imp id fun hf x hx d hd => by
      simp only [hf, Bool.not_false, Bool.true_and, Bool.not_eq_true, List.any_eq_false] at h
      simpa [hd, locExists] using h x hx
  subst hr
  -- the ten leaves of `fragBranch` in source order; named are `hchk` the test on the init
  -- destinations, `e1` the folder made, `e2`, `e3` the results of the two loops
  fun_cases fragBranch cfg output glob rends st with
  | case1 | case2 | case3 | case5 | case6 => exact .stopped nofun
  | case4 _ _ _ _ hemp => exact .stopped fun _ => List.isEmpty_iff.mp hemp
  | case7 _ _ _ hchk _ _ _ e1 _ e2 => exact .copied (free hchk) (step_of_ite e1) e2
  | case8 _ _ _ hchk _ _ _ e1 _ e2 _ e3 | case10 _ _ _ hchk _ _ _ e1 _ e2 _ e3 =>
    exact .placed (free hchk) (step_of_ite e1) e2 e3 (.inl rfl)
  | case9 _ _ _ hchk _ _ _ e1 _ e2 _ e3 => exact .placed (free hchk) (step_of_ite e1) e2 e3 (.inr ⟨rfl, rfl⟩)

theorem FragRun.inv {rends : List Rend} {r : Res} (hr : FragRun cfg out rends st r)
    (h : Inv fs0 P st)
    (hN : ∀ q, (q <+: out ∨ out <+: q) → fs0 q = .absent → P q)
    (hD : ∀ r ∈ rends, ∀ d, initDest out r = some d → (cfg.force = true ∨ st.fs d = .absent) → P d) :
    Inv fs0 P r.st := by
  have copied {st1 st2 : St} {b : Bool} (e1 : Made out st st1)
      (e2 : fragLoop cfg out rends st1 = (b, st2)) : Inv fs0 P st2 := by
    have := fragLoop_inv (cfg := cfg) rends st1
      (e1.inv h fun q hq => hN q (.inl (prefixes_prefix _ _ hq))) hN
    rwa [e2] at this
  cases hr with
  | stopped => exact h
  | copied _ e1 e2 => exact copied e1 e2
  | placed hchk e1 e2 e3 =>
    have := initLoop_inv rends _ (copied e1 e2) fun x hx d hd =>
      hD x hx d hd (hchk.imp id fun hh => hh x hx d hd)
    rwa [e3] at this

/-! ### the report-folder arm -/

/-- zero or more successful steps in the output folder: `create_dir_all out`, or the write of an
entry directly below `out` -/
inductive Fill (out : Loc) : St → St → Prop
  | nil (s : St) : Fill out s s
  | mkdir {s s1 s2 : St} : Fill out s s1 → mkdirAll out s1 = some s2 → Fill out s s2
  | write {s s1 s2 : St} {n : String} {c : Content} :
      Fill out s s1 → writeFile (out ++ [n]) c s1 = some s2 → Fill out s s2

theorem Fill.inv {s s' : St} (hf : Fill out s s') (h : Inv fs0 P s)
    (hN : ∀ q ∈ prefixes out, fs0 q = .absent → P q) (hC : ∀ n, P (out ++ [n])) :
    Inv fs0 P s' := by
  induction hf with
  | nil => exact h
  | mkdir _ e ih => exact mkdirAll_inv ih hN e
  | write _ e ih => exact writeFile_inv ih (hC _) e

/-- the existence check of the folder arm is passed: the output is absent, or its tree was removed
under `--force` -/
inductive Cleared (cfg : Cfg) (out : Loc) (st : St) : St → Prop
  | absent : st.fs out = .absent → Cleared cfg out st st
  | forced {st1 : St} : cfg.force = true → rmTree out st = some st1 → Cleared cfg out st st1

/-- What the folder arm does: it stops with the state untouched; or it passes the existence check
and works inside the output folder until a step fails; `ok` is reported right after the report file
has been written. -/
inductive FolderRun (cfg : Cfg) (out : Loc) (st : St) : Res → Prop
  | stopped {o : Outcome} : o ≠ .ok → FolderRun cfg out st ⟨o, st⟩
  | failed {st1 s : St} : Cleared cfg out st st1 → Fill out st1 s → FolderRun cfg out st ⟨.fail, s⟩
  | reported {st1 s s' : St} : Cleared cfg out st st1 → Fill out st1 s →
      writeFile (out ++ [if cfg.ingredient = true then "ingredient.json" else "manifest_store.json"])
        .report s = some s' → FolderRun cfg out st ⟨.ok, s'⟩

theorem folderBranch_run {r : Res} (hr : folderBranch cfg path output st = r) :
    FolderRun cfg (cfg.rho output) st r := by
  -- the inner `chk` of `folderBranch`
  have cleared {st1 : St} (e : (if pExists cfg st output then
        if cfg.force then (match rmTree (cfg.rho output) st with
          | some s => some (some s) | none => some none)
        else none
      else some (some st)) = some (some st1)) : Cleared cfg (cfg.rho output) st st1 := by
    obtain ⟨_, e⟩ | ⟨hne, e⟩ := ite_cases e
    · obtain ⟨hf, e⟩ | ⟨_, e⟩ := ite_cases e
      · split at e
        · next s e' => cases e; exact .forced hf e'
        · cases e
      · cases e
    · cases e; exact .absent (by simpa [pExists, locExists] using hne)
  have detailed {s s1 s2 : St} (hf : Fill (cfg.rho output) s s1)
      (e : s2 = s1 ∨ writeFile (cfg.rho output ++ ["detailed.json"]) .report s1 = some s2) :
      Fill (cfg.rho output) s s2 := e.elim (· ▸ hf) (.write hf)
  subst hr
  -- the sixteen leaves of `folderBranch` in source order (5–10 `--ingredient`, 11–16 the report);
  -- of a leaf's hypotheses the successful steps are named: `hchk` the existence check, `e2` the
  -- `mkdirAll`, `e3`, `e4`, `e5` the writes in turn, `hing` whether `cfg.ingredient`; the blanks are
  -- `out`, `chk`, the intermediate states and the conditions passed
  fun_cases folderBranch cfg path output st with
  | case1 | case2 | case3 => exact .stopped nofun
  | case4 _ _ _ _ hchk => exact .failed (cleared hchk) (.nil _)
  | case5 _ _ _ _ hchk _ e2 | case6 _ _ _ _ hchk _ e2 | case7 _ _ _ _ hchk _ e2
  | case8 _ _ _ _ hchk _ e2 | case11 _ _ _ _ hchk _ e2 | case12 _ _ _ _ hchk _ e2
  | case13 _ _ _ _ hchk _ e2 => exact .failed (cleared hchk) (.mkdir (.nil _) e2)
  | case9 _ _ _ _ hchk _ e2 _ _ _ _ _ e3 | case14 _ _ _ _ hchk _ e2 _ _ _ _ e3 =>
    exact .failed (cleared hchk) (.write (.mkdir (.nil _) e2) e3)
  | case10 _ _ _ _ hchk _ e2 hing _ _ _ _ e3 _ e4 =>
    exact .reported (cleared hchk) (.write (.mkdir (.nil _) e2) e3) ((if_pos hing).symm ▸ e4)
  | case15 _ _ _ _ hchk _ e2 _ _ _ _ e3 _ _ e4 =>
    exact .failed (cleared hchk) (detailed (.write (.mkdir (.nil _) e2) e3) (step_of_ite e4))
  | case16 _ _ _ _ hchk _ e2 hing _ _ _ e3 _ _ e4 _ e5 =>
    exact .reported (cleared hchk) (detailed (.write (.mkdir (.nil _) e2) e3) (step_of_ite e4))
      ((if_neg hing).symm ▸ e5)

theorem FolderRun.inv {r : Res} (hr : FolderRun cfg out st r) (h : Inv fs0 P st)
    (hN : ∀ q, (q <+: out ∨ out <+: q) → fs0 q = .absent → P q)
    (hR : cfg.force = true → ∀ q, out <+: q → P q)
    (hC : ∀ n, (cfg.force = true ∨ st.fs out = .absent) → P (out ++ [n])) : Inv fs0 P r.st := by
  have cleared {st1 : St} (e : Cleared cfg out st st1) :
      Inv fs0 P st1 ∧ (cfg.force = true ∨ st.fs out = .absent) := by
    cases e with
    | absent ha => exact ⟨h, .inr ha⟩
    | forced hf e => exact ⟨rmTree_inv h (hR hf) e, .inl hf⟩
  have filled {st1 s : St} (e : Cleared cfg out st st1) (hf : Fill out st1 s) : Inv fs0 P s :=
    hf.inv (cleared e).1 (fun q hq => hN q (.inl (prefixes_prefix _ _ hq))) fun n => hC n (cleared e).2
  cases hr with
  | stopped => exact h
  | failed e hf => exact filled e hf
  | reported e hf ew => exact writeFile_inv (filled e hf) (hC _ (cleared e).2) ew

/-- The dispatcher: the state is untouched, or PATH and `-o` are given and the run is that of one
of the three arms. -/
theorem runSt_run {r : Res} (hr : runSt cfg st = r) :
    r.st = st
    ∨ ∃ path output, cfg.path = some path ∧ cfg.output = some output ∧
      ((cfg.msrc ≠ .none ∧
          ((∃ g rs, cfg.cmd = .fragment g rs ∧ r = fragBranch cfg output g rs st)
           ∨ r = signBranch cfg path output st))
       ∨ (cfg.msrc = .none ∧ r = folderBranch cfg path output st)) := by
  subst hr
  -- cases 6, 7, 9 are the three arms; `hp`, `ho`: PATH and `-o` are given, `hm`: the test on
  -- `cfg.msrc`, `hc`: the `fragment` sub-command
  fun_cases runSt cfg st with
  | case1 | case2 | case3 | case4 | case5 | case8 | case10 => exact .inl rfl
  | case6 _ path hp _ hm _ output ho g rs hc =>
    exact .inr ⟨path, output, hp, ho, .inl ⟨bne_iff_ne.mp hm, .inl ⟨g, rs, hc, rfl⟩⟩⟩
  | case7 _ path hp _ hm _ output ho =>
    exact .inr ⟨path, output, hp, ho, .inl ⟨bne_iff_ne.mp hm, .inr rfl⟩⟩
  | case9 _ path hp _ hm _ output ho =>
    exact .inr ⟨path, output, hp, ho, .inr ⟨bne_eq_false_iff_eq.mp (Bool.eq_false_iff.mpr hm), rfl⟩⟩

end C2pa.C32
