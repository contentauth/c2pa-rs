import C2paModel.Lemmas.C29Create
/-! C29 — write side, glue: from what `resolve_within_root_for_write` checked to the setting of
`Lemmas/C29Create`; at the end, the shape of `base.join(names)`. -/
namespace C2pa.C29

/-- One turn of the ancestor loop that ends well. Its `restNormal` test is left out: the callers
know from `sanitize` that the names below the ancestor are plain. -/
theorem checkAncestors_cons {fs : FS} {env : Env} {root joined a : Segs} {rest : List Segs} {R : PPath}
    (hroot : canon fs env root = some R)
    (h : checkAncestors fs env root joined (a :: rest) = .ok ()) :
    (∃ c, canon fs env a = some c ∧ R <+: c) ∨
    (canon fs env a = none ∧ isSymlinkP fs env a = false ∧
      checkAncestors fs env root joined rest = .ok ()) := by
  rw [checkAncestors, hroot] at h
  cases hc : canon fs env a with
  | some c =>
    rw [hc] at h
    dsimp only at h
    split at h
    · exact .inl ⟨c, rfl, List.isPrefixOf_iff_prefix.1 ‹_›⟩
    · cases h
  | none =>
    rw [hc] at h
    dsimp only at h
    split at h
    · cases h
    · exact .inr ⟨rfl, Bool.eq_false_iff.2 ‹_›, h⟩

theorem canon_eq_some {fs : FS} {env : Env} {a : Segs} {c : PPath} (h : canon fs env a = some c) :
    ∃ k g, walkP fs env true a = .found c k g := by
  revert h
  fun_cases canon fs env a
  case case1 q k g hw => intro h; cases h; exact ⟨k, g, hw⟩
  case case2 => exact nofun

section check
variable {fs : FS} {env : Env} {Q root : Segs} {R Bp : PPath} {kQ : Kind} {gQ : Nat}

/-- Why the ancestor loop of `resolve_within_root_for_write` let `base/rn` pass (names in reverse
order, `rem` the names below it already seen not to resolve): some ancestor `base/done`
resolves to a location below the real root, and the next name below it does not resolve and
is not a symbolic link. `n` is the fuel of `ancF`; `joined` is free because `restNormal` is not
looked at. With no name left (`rn = []`) `base` itself resolves and the loop's answer is not
needed: the parent of `base/r` depends on how `base` ends and is never computed. -/
theorem checkAncestors_ok_split (hQ0 : Q ≠ []) (hQ : walkS fs env true Q = .found Bp kQ gQ)
    (hroot : canon fs env root = some R) (hin : R <+: Bp) (joined : Segs) :
    ∀ (rn rem : List Str) (n : Nat), rn.length ≤ n → (∀ x ∈ rn, NormalName x) →
    (rn ≠ [] → checkAncestors fs env root joined (ancF n (Q ++ rn.reverse)) = .ok ()) →
    (∀ r1, rem.head? = some r1 → canon fs env (Q ++ rn.reverse ++ [r1]) = none ∧
      isSymlinkP fs env (Q ++ rn.reverse ++ [r1]) = false) →
    ∃ done rem' P kP g, rn.reverse ++ rem = done ++ rem' ∧
      walkS fs env true (Q ++ done) = .found P kP g ∧ R <+: P ∧
      (∀ r1, rem'.head? = some r1 → canon fs env (Q ++ done ++ [r1]) = none ∧
        isSymlinkP fs env (Q ++ done ++ [r1]) = false)
  | [], rem, _, _, _, _, hun =>
    ⟨[], rem, Bp, kQ, gQ, rfl, by rw [List.append_nil]; exact hQ, hin, hun⟩
  | r :: rn, rem, n + 1, hn, hN, h, hun => by
    have h := h (List.cons_ne_nil _ _)
    rw [ancF] at h
    rcases checkAncestors_cons hroot h with ⟨c, hc, hR⟩ | ⟨hc, hs, hrest⟩
    · obtain ⟨k, g, hw⟩ := canon_eq_some hc
      rw [walkP_eq_walkS _ _ _ (emptyPath_append hQ0 (by simp))] at hw
      exact ⟨_, rem, c, k, g, rfl, hw, hR, hun⟩
    · rw [List.reverse_cons, ← List.append_assoc] at hc hs
      obtain ⟨done, rem', P, kP, g, h1, h2⟩ :=
        checkAncestors_ok_split hQ0 hQ hroot hin joined rn (r :: rem) n (Nat.le_of_succ_le_succ hn)
          (fun x hx => hN x (List.mem_cons_of_mem _ hx))
          (fun hne => by
            -- the parent of `base/…/a/r` is `base/…/a`
            obtain ⟨a, rn', rfl⟩ := List.exists_cons_of_ne_nil hne
            rw [List.reverse_cons, List.reverse_cons, List.append_assoc, ← List.append_assoc,
              List.singleton_append,
              parentSegs_snoc2 _ a r (by simp [hQ0]) (hN a (by simp)) (hN r (by simp))] at hrest
            rwa [List.reverse_cons, ← List.append_assoc])
          (fun r1 h1 => by cases h1; exact ⟨hc, hs⟩)
      exact ⟨done, rem', P, kP, g, by rw [List.reverse_cons, List.append_assoc]; exact h1, h2⟩

/-- Core of `write_confined`. With the base path resolving to a location really
inside the root, and the ancestor loop of `resolve_within_root_for_write` passed for
`base/n₁/…/nₖ`, `create_dir_all(parent)` + `write` change nothing outside the real root. -/
theorem createAndWrite_confined_of_checked (hwf : fs.WF) (hQ0 : Q ≠ [])
    (hQ : walkS fs env true Q = .found Bp kQ gQ) (hroot : canon fs env root = some R)
    (hin : R <+: Bp) (names : List Str) (hne : names ≠ []) (hN : ∀ n ∈ names, NormalName n)
    (hchk : checkAncestors fs env root (Q ++ names) (ancestors (Q ++ names)) = .ok ())
    (data : Str) :
    ∀ p, (createAndWrite fs env (Q ++ names) data).2.look p ≠ fs.look p → R <+: p := by
  obtain ⟨done, rem, P, kP, g, hsplit, hX, hR, hun⟩ :=
    checkAncestors_ok_split hQ0 hQ hroot hin (Q ++ names) names.reverse [] ((Q ++ names).length + 2)
      (by rw [List.length_reverse, List.length_append]; omega)
      (fun x hx => hN x (List.mem_reverse.1 hx))
      (fun _ => by rw [List.reverse_reverse]; exact hchk) nofun
  rw [List.reverse_reverse, List.append_nil] at hsplit
  let S : Setting :=
    { fs := fs, env := env, X := Q ++ done, rem := rem, P := P, kP := kP, g := g, hwf := hwf
      hX0 := by simp [hQ0], hX := hX, hun := hun
      hne := by rw [List.append_assoc, ← hsplit]; exact emptyPath_append hQ0 hne
      hrem := fun n hn => hN n (by rw [hsplit]; simp [hn]) }
  rw [hsplit, ← List.append_assoc]
  exact fun p hp => hR.trans (S.createAndWrite_confined data p hp)

end check

theorem pathJoin_rel {base p : Segs} (hp : rooted p = false) (hb : emptyPath base = false) :
    pathJoin base p = (if base.getLast? = some [] then base.dropLast else base) ++ p := by
  unfold pathJoin
  rw [hp, hb, if_neg Bool.false_ne_true, if_neg Bool.false_ne_true]
  split <;> rfl

theorem walkP_found_cons {fs : FS} {env : Env} {fl : Bool} {A : Segs} {Bp : PPath} {k : Kind}
    {g : Nat} (hA : walkP fs env fl A = .found Bp k g) :
    A ≠ [] ∧ emptyPath A = false ∧ walkS fs env fl A = .found Bp k g := by
  have hbe : emptyPath A = false := by
    cases he : emptyPath A with
    | false => rfl
    | true => rw [walkP, he, if_pos rfl] at hA; cases hA
  exact ⟨fun h => absurd (h ▸ hbe) (by decide), hbe, walkP_eq_walkS _ _ _ hbe ▸ hA⟩

/-- `base.join(names)` for a base `A/m₁/…/mₖ` whose part `A` resolves: the
segments of `A` (without a trailing separator), the `mᵢ`, the names -/
theorem pathJoin_resolved_base (fs : FS) (env : Env) (A M : Segs) (names : List Str) (Bp : PPath) (k : Kind)
    (g : Nat) (hA : walkP fs env true A = .found Bp k g) (hM : ∀ m ∈ M, NormalName m)
    (hnr : rooted names = false) :
    ∃ Q gQ, Q ≠ [] ∧ pathJoin (A ++ M) names = Q ++ (M ++ names) ∧
      walkS fs env true Q = .found Bp k gQ := by
  obtain ⟨hA0, hbe, hA⟩ := walkP_found_cons hA
  rcases List.eq_nil_or_concat M with rfl | ⟨Mi, ml, rfl⟩
  · simp only [List.append_nil, List.nil_append]
    have hj := pathJoin_rel hnr hbe
    by_cases hlast : A.getLast? = some []
    · -- `join` drops the trailing separator of `A`, the walk skips it
      rw [if_pos hlast] at hj
      obtain ⟨init, l, rfl⟩ := (List.eq_nil_or_concat A).resolve_left hA0
      rw [List.concat_eq_append] at hlast hbe hj hA ⊢
      obtain rfl : l = [] := by simpa using hlast
      have hi : init ≠ [] := fun h => absurd (h ▸ hbe) (by decide)
      rw [List.dropLast_concat] at hj
      rw [walkS, frontStart_append env hi] at hA
      obtain ⟨p', g', h1, h2⟩ := walk_append_found (by simp) hA
      have h3 := walk_skips fs true [[]] g' p' (by simp [isSkip])
      rw [h2] at h3
      split at h3
      · cases h3
        exact ⟨init, g', hi, hj, h1⟩
      · cases h3
    · rw [if_neg hlast] at hj
      exact ⟨A, g, hA0, hj, hA⟩
  · -- the last `mᵢ` is a name, so `join` adds a separator after it
    rw [List.concat_eq_append] at hM ⊢
    have hml : NormalName ml := hM ml (by simp)
    have he : emptyPath (A ++ (Mi ++ [ml])) = false := emptyPath_append hA0 (by simp)
    have hl : (A ++ (Mi ++ [ml])).getLast? ≠ some [] := by
      rw [← List.append_assoc, List.getLast?_concat]
      exact fun h => hml.1 (Option.some.inj h)
    exact ⟨A, g, hA0, by rw [pathJoin_rel hnr he, if_neg hl, List.append_assoc], hA⟩

end C2pa.C29
