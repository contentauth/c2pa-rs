import C2paModel.Model.C11
/-
C11 — which signature wins does not depend on the rule order.

`sig0 pdf buf flac` are the offset-0 tests of `rulesB` (everything except "ftyp at offset 4"),
the ID3 branch written as two exclusive tests. At most one of them holds
(`offset0_signatures_exclusive`): the first two bytes of the buffer, with `flac`, single out the one
row that can (`rowOfKey`, `sig0_class`). So any signature that holds *is* the result, unless the ftyp
rule also holds and comes first (`detect_eq_of_signature`).
-/
namespace C2pa.C11

def sig0 (pdf : Bool) (buf : List UInt8) (flac : Bool) : List (Bool × Fmt) :=
  [ (sliceEq buf 0 [0xff, 0xd8, 0xff], lJpg),
    (sliceEq buf 0 [0x89, 0x50, 0x4e, 0x47, 0x0d, 0x0a, 0x1a, 0x0a], lPng),
    (sliceEq buf 0 mGIF87a || sliceEq buf 0 mGIF89a, lGif),
    (sliceEq buf 0 [0x49, 0x49, 0x2A, 0x00] || sliceEq buf 0 [0x4D, 0x4D, 0x00, 0x2A]
      || sliceEq buf 0 [0x49, 0x49, 0x2B, 0x00] || sliceEq buf 0 [0x4D, 0x4D, 0x00, 0x2B], lTif),
    (sliceEq buf 0 [0x00, 0x00, 0x00, 0x0c, 0x4a, 0x58, 0x4c, 0x20, 0x0d, 0x0a, 0x87, 0x0a], lJxl),
    (sliceEq buf 0 mRIFF, lAvi),
    (sliceEq buf 0 mFLaC, lFlac),
    (isId3 buf && flac, lFlac),
    (isId3 buf && !flac, lMp3),
    (buf.getD 0 0 == 0xff && (buf.getD 1 0).toNat / 32 == 7, lMp3),
    (pdf && sliceEq buf 0 mPDF, lPdf) ]

/-- the 2-byte key of a buffer: its first two bytes, 0 where it has none -/
def leadingPair (buf : List UInt8) : Nat × Nat := ((buf.getD 0 0).toNat, (buf.getD 1 0).toNat)

theorem leadingPair_of_sliceEq0 (buf : List UInt8) (x y : UInt8) (rest : List UInt8)
    (h : sliceEq buf 0 (x :: y :: rest) = true) : leadingPair buf = (x.toNat, y.toNat) := by
  unfold sliceEq at h
  match buf, h with
  | [], h => simp at h
  | [_], h => simp at h
  | u :: v :: tl, h =>
    simp only [List.drop_zero, List.length_cons, List.take_succ_cons] at h
    have h' := eq_of_beq h
    injection h' with h1 h2
    injection h2 with h2 _
    simp [leadingPair, h1, h2]

/-- the one row of `sig0` that a buffer with the 2-byte key `k` can satisfy (`none` = no signature);
the two ID3 rows share their key and are told apart by `flac` -/
def rowOfKey (flac : Bool) (k : Nat × Nat) : Option Nat :=
  if k = (0xff, 0xd8) then some 0
  else if k = (0x89, 0x50) then some 1
  else if k = (0x47, 0x49) then some 2
  else if k = (0x49, 0x49) ∨ k = (0x4d, 0x4d) then some 3
  else if k = (0x00, 0x00) then some 4
  else if k = (0x52, 0x49) then some 5
  else if k = (0x66, 0x4c) then some 6
  else if k = (0x49, 0x44) then some (if flac then 7 else 8)
  else if k.1 = 0xff ∧ k.2 / 32 = 7 then some 9
  else if k = (0x25, 0x50) then some 10
  else none

theorem rowOfKey_mpeg : ∀ f n, n < 256 → n / 32 = 7 → rowOfKey f (255, n) = some 9 := by decide +kernel

theorem class_of_sliceEq0 {buf : List UInt8} {x y : UInt8} {rest : List UInt8} {n : Nat} {flac : Bool}
    (h : sliceEq buf 0 (x :: y :: rest) = true) (hc : ∀ f, rowOfKey f (x.toNat, y.toNat) = some n) :
    rowOfKey flac (leadingPair buf) = some n := by
  rw [leadingPair_of_sliceEq0 buf x y rest h]; exact hc flac

theorem sig0_class (pdf : Bool) (buf : List UInt8) (flac : Bool) (i : Nat)
    (hi : i < (sig0 pdf buf flac).length) (h : ((sig0 pdf buf flac)[i]).1 = true) :
    rowOfKey flac (leadingPair buf) = some i := by
  have hi' : i < 11 := hi
  -- `h` is, by unfolding, the `i`-th test of `sig0`; a row with `&&` is stated by `have`, so that
  -- `simp only` can take it apart with `sig0` still folded
  rcases i with _ | _ | _ | _ | _ | _ | _ | _ | _ | _ | _ | i
  · exact class_of_sliceEq0 h (by decide +kernel)
  · exact class_of_sliceEq0 h (by decide +kernel)
  · rcases (Bool.or_eq_true _ _).mp h with h | h <;> exact class_of_sliceEq0 h (by decide +kernel)
  · rcases (Bool.or_eq_true _ _).mp h with h | h
    · rcases (Bool.or_eq_true _ _).mp h with h | h
      · rcases (Bool.or_eq_true _ _).mp h with h | h <;>
          exact class_of_sliceEq0 h (by decide +kernel)
      · exact class_of_sliceEq0 h (by decide +kernel)
    · exact class_of_sliceEq0 h (by decide +kernel)
  · exact class_of_sliceEq0 h (by decide +kernel)
  · exact class_of_sliceEq0 h (by decide +kernel)
  · exact class_of_sliceEq0 h (by decide +kernel)
  · have h' : ((decide (buf.length ≥ 10) && sliceEq buf 0 mID3) && flac) = true := h
    simp only [Bool.and_eq_true] at h'
    rw [leadingPair_of_sliceEq0 buf _ _ _ h'.1.2, h'.2]; decide +kernel
  · have h' : ((decide (buf.length ≥ 10) && sliceEq buf 0 mID3) && !flac) = true := h
    simp only [Bool.and_eq_true, Bool.not_eq_true'] at h'
    rw [leadingPair_of_sliceEq0 buf _ _ _ h'.1.2, h'.2]; decide +kernel
  · have h' : (buf.getD 0 0 == 0xff && (buf.getD 1 0).toNat / 32 == 7) = true := h
    simp only [Bool.and_eq_true, beq_iff_eq] at h'
    have e0 : (buf.getD 0 0).toNat = 255 := by rw [h'.1]; rfl
    unfold leadingPair
    rw [e0]
    exact rowOfKey_mpeg _ _ (buf.getD 1 0).toNat_lt h'.2
  · have h' : (pdf && sliceEq buf 0 mPDF) = true := h
    simp only [Bool.and_eq_true] at h'
    exact class_of_sliceEq0 h'.2 (by decide +kernel)
  · omega

/-- **Offset-0 signatures are mutually exclusive**: two different tests of `sig0` never hold
together, for any buffer (so their relative order in `container_from_stream` is immaterial). -/
theorem offset0_signatures_exclusive (pdf : Bool) (buf : List UInt8) (flac : Bool) (i j : Nat)
    (hi : i < (sig0 pdf buf flac).length) (hj : j < (sig0 pdf buf flac).length)
    (h₁ : ((sig0 pdf buf flac)[i]).1 = true) (h₂ : ((sig0 pdf buf flac)[j]).1 = true) : i = j :=
  Option.some.inj ((sig0_class pdf buf flac i hi h₁).symm.trans (sig0_class pdf buf flac j hj h₂))

theorem firstMatch_eq_find? (rs : List (Bool × Fmt)) :
    firstMatch rs = (rs.find? (·.1)).map (·.2) := by
  induction rs with
  | nil => rfl
  | cons r rs ih =>
    obtain ⟨c, d⟩ := r
    cases c with
    | true => rfl
    | false => exact ih

theorem firstMatch_of_exclusive (rs : List (Bool × Fmt)) (i : Nat) (hi : i < rs.length)
    (h : (rs[i]).1 = true)
    (hex : ∀ j (hj : j < rs.length), (rs[j]).1 = true → j = i) :
    firstMatch rs = some (rs[i]).2 := by
  rw [firstMatch_eq_find?, List.find?_eq_some_iff_getElem.2 ⟨h, i, hi, rfl, fun j hj => ?_⟩]; rfl
  cases hb : (rs[j]'(Nat.lt_trans hj hi)).1 with
  | false => rfl
  | true => exact absurd (hex j _ hb) (Nat.ne_of_lt hj)

theorem firstMatch_none {rs : List (Bool × Fmt)} (h : firstMatch rs = none) (i : Nat)
    (hi : i < rs.length) : (rs[i]).1 = false := by
  rw [firstMatch_eq_find?, Option.map_eq_none_iff, List.find?_eq_none] at h
  exact Bool.eq_false_iff.2 (h _ (List.getElem_mem hi))

theorem firstMatch_append (xs ys : List (Bool × Fmt)) :
    firstMatch (xs ++ ys) = (firstMatch xs).or (firstMatch ys) := by
  rw [firstMatch_eq_find?, firstMatch_eq_find?, firstMatch_eq_find?, List.find?_append, Option.map_or]

theorem firstMatch_code_tail_eq_sig0_tail (a i f m pdf p : Bool) :
    firstMatch ([(a, lFlac), (i && f, lFlac), (i, lMp3), (m, lMp3)] ++ (if pdf then [(p, lPdf)] else []))
      = firstMatch [(a, lFlac), (i && f, lFlac), (i && !f, lMp3), (m, lMp3), (pdf && p, lPdf)] := by
  cases a with
  | true => rfl
  | false =>
    cases i with
    | true => cases f <;> rfl
    | false =>
      cases m with
      | true => rfl
      | false => cases pdf <;> cases p <;> rfl

theorem rulesB_eq_sig0_with_ftyp (pdf : Bool) (buf : List UInt8) (flac : Bool) :
    rulesB pdf buf flac = (sig0 pdf buf flac).take 6 ++ (sliceEq buf 4 mFtyp, lAvif) ::
      ([(sliceEq buf 0 mFLaC, lFlac), (isId3 buf && flac, lFlac), (isId3 buf, lMp3),
        (buf.getD 0 0 == 0xff && (buf.getD 1 0).toNat / 32 == 7, lMp3)]
        ++ (if pdf then [(sliceEq buf 0 mPDF, lPdf)] else [])) := by
  cases pdf <;> rfl

/-- the probe outcome enters the rule list through the two ID3 rules only -/
theorem rulesB_flac_irrelevant (pdf : Bool) (buf : List UInt8) (f₁ f₂ : Bool)
    (h : isId3 buf = false) : rulesB pdf buf f₁ = rulesB pdf buf f₂ := by
  unfold rulesB; simp [h]

/-- the rule list of the code is `sig0` with the ftyp rule inserted after the sixth test (and the
second ID3 test not repeating `¬flac`): same first match -/
theorem firstMatch_rulesB (pdf : Bool) (buf : List UInt8) (flac : Bool) :
    firstMatch (rulesB pdf buf flac) =
      (firstMatch ((sig0 pdf buf flac).take 6)).or
        (if sliceEq buf 4 mFtyp then some lAvif else firstMatch ((sig0 pdf buf flac).drop 6)) := by
  rw [rulesB_eq_sig0_with_ftyp, firstMatch_append]
  congr 1
  rw [firstMatch]
  split
  · rfl
  · rw [firstMatch_code_tail_eq_sig0_tail]; rfl

/-- **Order-free reading of the rule list**: if the offset-0 signature number `i` is present in
a buffer of at least two bytes, the stream is detected as that signature's container — except
that a simultaneous "ftyp" at offset 4 takes precedence over the signatures listed after it
(fLaC, ID3, MPEG sync, %PDF). No other pair of rules can interact. -/
theorem detect_eq_of_signature (pdf : Bool) (s : List UInt8) (i : Nat)
    (hlen : 2 ≤ (s.take 16).length)
    (hi : i < (sig0 pdf (s.take 16) (sliceEq s (10 + id3Size (s.take 16)) mFLaC)).length)
    (h : ((sig0 pdf (s.take 16) (sliceEq s (10 + id3Size (s.take 16)) mFLaC))[i]).1 = true)
    (hftyp : i < 6 ∨ sliceEq (s.take 16) 4 mFtyp = false) :
    detect pdf s
      = some ((sig0 pdf (s.take 16) (sliceEq s (10 + id3Size (s.take 16)) mFLaC))[i]).2 := by
  unfold detect detectB
  rw [if_neg (by omega), firstMatch_rulesB]
  generalize sliceEq s (10 + id3Size (s.take 16)) mFLaC = flac at *
  generalize s.take 16 = buf at *
  have hall := firstMatch_of_exclusive (sig0 pdf buf flac) i hi h
    (fun j hj hjt => offset0_signatures_exclusive pdf buf flac j i hj hi hjt h)
  -- the same, cut where `firstMatch_rulesB` cuts
  have hall' : firstMatch ((sig0 pdf buf flac).take 6 ++ (sig0 pdf buf flac).drop 6)
      = some ((sig0 pdf buf flac)[i]).2 := by
    rw [List.take_append_drop]; exact hall
  rw [firstMatch_append] at hall'
  cases hfm : firstMatch ((sig0 pdf buf flac).take 6) with
  | some d =>
    -- `some_or` / `none_or` by `rw`: unification would unfold both rule lists
    rw [hfm, Option.some_or] at hall'
    rw [Option.some_or]; exact hall'
  | none =>
    rw [hfm, Option.none_or] at hall'
    rw [Option.none_or]
    rcases hftyp with hlt | hf
    · -- a signature among the first six holds, so `firstMatch (take 6)` cannot be `none`
      have hi6 : i < ((sig0 pdf buf flac).take 6).length := by
        rw [List.length_take]; exact Nat.lt_min.2 ⟨hlt, hi⟩
      have := firstMatch_none hfm i hi6
      rw [List.getElem_take, h] at this
      cases this
    · rw [hf, if_neg Bool.false_ne_true]; exact hall'

end C2pa.C11
