import C2paModel.Lemmas.C18At
/-
C18 — reading back what the writer wrote: `superBox` / `loop` evaluated on `ser` of a valid,
quirk-free tree by mutual structural induction over the tree. The result is the tree up to `norm`,
which changes nothing the writer looks at (size, written bytes) and keeps a tree quirk-free.
-/
namespace C2pa.C18

/-- fourcc written in the header of a box (reducible, so that `if_pos rfl` closes `(Box.super d cs).tag = JUMB`
in `loop_step`) -/
@[reducible] def Box.tag : Box → Nat
  | .super _ _ => JUMB
  | .leaf k _ => k.fourcc
  | .uuid _ _ => UUID
  | .bfdb _ _ _ => BFDB

/-- what follows the 8-byte header -/
def Box.body : Box → Bytes
  | .super d cs => serDesc d ++ serList cs
  | .leaf _ data => data
  | .uuid u data => uuidPayload u data
  | .bfdb t m _ => bfdbPayload t m

theorem Box.ser_eq (b : Box) : b.ser = be32 b.size ++ (be32 b.tag ++ b.body) := by
  cases b <;> simp [Box.ser, Box.size, Box.tag, Box.body]

theorem Box.size_ge (b : Box) : 8 ≤ b.size := by
  cases b <;> simp [Box.size] <;> omega

theorem sizeList_pos : ∀ (cs : List Box), cs ≠ [] → 8 ≤ sizeList cs
  | [], h => absurd rfl h
  | b :: bs, _ => by
    have := b.size_ge
    simp [sizeList]; omega

mutual
theorem Box.ser_length : (b : Box) → b.Valid → b.QuirkFree → b.ser.length = b.size
  | .super d cs, hv, h => by
    have := serList_length cs hv.2 h.2
    simp [Box.ser, Box.size, serDesc, this]; omega
  | .leaf _ _, _, _ => by simp [Box.ser, Box.size]; omega
  | .uuid u data, hv, h => by
    have h1 : data ≠ [] := h
    have h2 : u.length = 16 := hv
    simp [Box.ser, Box.size, uuidPayload, h1, h2]; omega
  | .bfdb _ _ _, _, _ => by simp [Box.ser, Box.size]; omega
theorem serList_length : (cs : List Box) → ValidList cs → QuirkFreeList cs →
    (serList cs).length = sizeList cs
  | [], _, _ => rfl
  | b :: bs, hv, h => by
    simp [serList, sizeList, b.ser_length hv.1 h.1, serList_length bs hv.2 h.2]
end

theorem kindOf_ne_zero {n : Nat} {k : Kind} (h : kindOf? n = some k) : n ≠ 0 := by
  intro h0; subst h0; simp [kindOf?] at h
theorem kind_fourcc_lt (k : Kind) : k.fourcc < 4294967296 := by cases k <;> decide
theorem kindOf_fourcc (k : Kind) : kindOf? k.fourcc = some k := by cases k <;> decide
theorem kind_ne (k : Kind) : k.fourcc ≠ 0 ∧ k.fourcc ≠ JUMB ∧ k.fourcc ≠ UUID ∧ k.fourcc ≠ BFDB := by
  cases k <;> decide

theorem tag_lt (b : Box) : b.tag < 4294967296 := by
  cases b <;> simp [Box.tag, kind_fourcc_lt] <;> decide

theorem tag_ne_zero (b : Box) : b.tag ≠ 0 := by
  cases b with
  | leaf k _ => exact (kind_ne k).1
  | _ => simp [Box.tag] <;> decide

theorem afterChild_last (p : Nat) : afterChild p p = .ok false := by
  unfold afterChild; simp
theorem afterChild_more {dest p : Nat} (h : p < dest) : afterChild dest p = .ok true := by
  unfold afterChild
  rw [if_neg (by omega), if_neg (by omega)]

theorem addChild_eval (dest p3 : Nat) (b' : Box) (rest : List Box) (k : Unit → Res (List Box × Nat))
    (hdest : dest = p3 + sizeList rest)
    (hk : rest ≠ [] → k () = .ok (normList rest, dest)) :
    addChild dest b' p3 k = .ok (b' :: normList rest, dest) := by
  unfold addChild
  cases rest with
  | nil =>
    simp [sizeList] at hdest
    subst hdest
    simp [afterChild_last, normList]
  | cons c cs =>
    have := sizeList_pos (c :: cs) (by simp)
    rw [afterChild_more (by omega)]
    simp only [bind_ok, if_true, hk (by simp)]

/-- the conditions on data and position under which `superBox` is evaluated on a written tree, as a
record; `SuperOK` and `LoopOK` below state them as separate hypotheses and do not use it -/
structure Ctx (d : Bytes) (pos : Nat) (written post : Bytes) (size fuel : Nat) : Prop where
  at_ : d.drop pos = written ++ post
  le : pos ≤ d.length
  small : d.length < 2 ^ 64
  size32 : size < 4294967296

/-- a written super box, followed by any bytes, is read back (as its `norm`) by `superBox` with enough
fuel, and the reader stops at its end; `True` of a leaf, because the structural recursion of
`superOK` / `loopOK` runs over every `Box` -/
def SuperOK (b : Box) : Prop :=
  match b with
  | .super desc cs => ∀ (fuel : Nat) (d : Bytes) (depth pos : Nat) (post : Bytes),
      At d pos ((Box.super desc cs).ser ++ post) → d.length < 2 ^ 64 →
      (Box.super desc cs).size < 4294967296 → depth + (Box.super desc cs).height ≤ 32 →
      (Box.super desc cs).size < 8 * fuel →
      superBox fuel d depth pos = .ok ((Box.super desc cs).norm, pos + (Box.super desc cs).size)
  | _ => True

def LoopOK (cs : List Box) : Prop :=
  cs ≠ [] → ∀ (fuel : Nat) (d : Bytes) (depth pos : Nat) (post : Bytes),
    d.drop pos = serList cs ++ post → pos ≤ d.length → d.length < 2 ^ 64 →
    sizeList cs < 4294967296 → depth + 1 + heightList cs ≤ 32 →
    sizeList cs + 8 < 8 * fuel →
    loop fuel d depth (pos + sizeList cs) pos = .ok (normList cs, pos + sizeList cs)

theorem super_step (desc : Desc) (cs : List Box) (hv : desc.Valid) (hne : cs ≠ [])
    (hvl : ValidList cs) (hql : QuirkFreeList cs) (hloop : LoopOK cs) : SuperOK (.super desc cs) := by
  intro fuel d depth pos post hat hsmall hsz hdepth hfuel
  have hcs := sizeList_pos cs hne
  rw [Box.ser_eq] at hat
  simp only [Box.tag, Box.body, serDesc, List.append_assoc] at hat
  -- the size is a variable `n` in every rewrite below; `hn` tells `omega` what it is
  generalize hn : (Box.super desc cs).size = n at *
  simp only [Box.size] at hn
  simp only [Box.height] at hdepth
  cases fuel with
  | zero => omega
  | succ f =>
    have h16 := hat.header.header
    have h3 := h16.skip (descPayload desc) rfl
    have htot := h3.length
    rw [List.length_append, serList_length cs hvl hql] at htot
    have hl := hloop hne f d depth _ post h3.drop h3.le hsmall (by omega) (by omega) (by omega)
    rw [show pos + 8 + 8 + (descPayload desc).length + sizeList cs = pos + n by omega] at hl
    unfold superBox
    rw [if_neg (by simp only [MAX_JUMB_DEPTH]; omega), readHeader_at hat hsz (by decide) (by omega)]
    simp only [mapErr_ok, bind_ok]
    rw [if_neg (by decide), if_neg (by simp), if_neg (by omega),
      readHeader_at hat.header (by omega) (by decide) (by omega)]
    simp only [mapErr_ok, bind_ok]
    rw [if_neg (by simp), readDesc_at hv h16 hsmall (by omega)]
    simp only [mapErr_ok, bind_ok]
    rw [if_neg (by simp [hv.2]), hl]
    rfl

theorem loop_step (b : Box) (rest : List Box) (hvb : b.Valid) (hqb : b.QuirkFree)
    (hb : SuperOK b) (hr : LoopOK rest) : LoopOK (b :: rest) := by
  intro _ fuel d depth pos post hdrop hle hsmall hsz hdepth hfuel
  simp only [sizeList, heightList] at hsz hdepth hfuel ⊢
  have hb8 := b.size_ge
  cases fuel with
  | zero => omega
  | succ f =>
    have hat0 : At d pos (b.ser ++ (serList rest ++ post)) :=
      ⟨hle, by rw [hdrop, serList, List.append_assoc]⟩
    have hat : At d pos (be32 b.size ++ (be32 b.tag ++ (b.body ++ (serList rest ++ post)))) := by
      have := hat0
      rwa [Box.ser_eq, List.append_assoc, List.append_assoc] at this
    have hat3 := hat0.skip b.ser (b.ser_length hvb hqb).symm
    -- whichever child `b'` the reader of the box type returns at `pos + b.size`: the loop goes on
    -- with `rest`, or stops there when `rest` is empty
    have hadd : ∀ b' : Box, addChild (pos + (b.size + sizeList rest)) b' (pos + b.size)
        (fun _ => loop f d depth (pos + (b.size + sizeList rest)) (pos + b.size)) =
        .ok (b' :: normList rest, pos + (b.size + sizeList rest)) :=
      fun b' => addChild_eval _ _ b' rest _ (by omega) fun hne => by
        have := hr hne f d depth (pos + b.size) post hat3.drop hat3.le hsmall (by omega) (by omega)
          (by omega)
        rwa [Nat.add_assoc] at this
    unfold loop
    rw [readHeader_at hat (by omega) (tag_lt b) (by omega)]
    simp only [mapErr_ok, bind_ok]
    rw [if_neg (tag_ne_zero b), unread_ok _ (Nat.le_add_left ..), Nat.add_sub_cancel]
    simp only [bind_ok]
    cases b with
    | super desc cs =>
      rw [if_pos rfl,
        hb f d (depth + 1) pos (serList rest ++ post) hat0 hsmall (by omega) (by omega) (by omega)]
      simp only [bind_ok]
      rw [hadd]
      rfl
    | leaf k data =>
      rw [if_neg (kind_ne k).2.1, if_neg (kind_ne k).2.2.1, if_neg (kind_ne k).2.2.2]
      simp only [Box.size, Box.tag, Box.body] at hat hadd hsz ⊢
      simp only [kindOf_fourcc k, readData_at hat hsmall (by omega) (kind_fourcc_lt k),
        mapErr_ok, bind_ok]
      rw [hadd]
      rfl
    | uuid u data =>
      have hne : data ≠ [] := hqb
      rw [if_neg (by decide : UUID ≠ JUMB), if_pos rfl]
      simp only [Box.size, Box.tag, Box.body, uuidPayload, List.isEmpty_iff, hne, if_false,
        List.append_assoc] at hat hadd hsz ⊢
      simp only [readUuid_at hat hvb hsmall (by omega), mapErr_ok, bind_ok]
      rw [hadd]
      rfl
    | bfdb t m fn =>
      rw [if_neg (by decide : BFDB ≠ JUMB), if_neg (by decide : BFDB ≠ UUID), if_pos rfl]
      simp only [Box.size, Box.tag, Box.body] at hat hadd hsz ⊢
      simp only [readBfdb_at hat hqb hsmall (by omega), mapErr_ok, bind_ok]
      rw [hadd, normList, Box.norm, normBfdb_eq]

mutual
theorem superOK : (b : Box) → b.Valid → b.QuirkFree → SuperOK b
  | .super desc cs, hv, hq => super_step desc cs hv.1 hq.1 hv.2 hq.2 (loopOK cs hv.2 hq.2)
  | .leaf _ _, _, _ => trivial
  | .uuid _ _, _, _ => trivial
  | .bfdb _ _ _, _, _ => trivial
theorem loopOK : (cs : List Box) → ValidList cs → QuirkFreeList cs → LoopOK cs
  | [], _, _ => fun h => absurd rfl h
  | b :: rest, hv, hq => loop_step b rest hv.1 hq.1 (superOK b hv.1 hq.1) (loopOK rest hv.2 hq.2)
end

/-! ### `norm` changes nothing the writer looks at -/

mutual
theorem Box.norm_size : (b : Box) → b.norm.size = b.size
  | .super d cs => by simp [Box.norm, Box.size, normList_size cs]
  | .leaf _ _ => rfl
  | .uuid _ _ => rfl
  | .bfdb t m _ => by simp only [Box.norm, normBfdb_eq, Box.size, bfdbPayload_normMt]
theorem normList_size : (cs : List Box) → sizeList (normList cs) = sizeList cs
  | [] => rfl
  | b :: bs => by simp [normList, sizeList, b.norm_size, normList_size bs]
end

mutual
theorem Box.norm_ser : (b : Box) → b.norm.ser = b.ser
  | .super d cs => by simp [Box.norm, Box.ser, normList_size cs, normList_ser cs]
  | .leaf _ _ => rfl
  | .uuid _ _ => rfl
  | .bfdb t m _ => by simp only [Box.norm, normBfdb_eq, Box.ser, bfdbPayload_normMt]
theorem normList_ser : (cs : List Box) → serList (normList cs) = serList cs
  | [] => rfl
  | b :: bs => by simp [normList, serList, b.norm_ser, normList_ser bs]
end

theorem normBfdb_quirkFree (t : UInt8) (m : Bytes)
    (h : ¬ (t = 1 ∧ (0 : UInt8) ∈ m ∧ utf8Valid m = true)) : (normBfdb t m).QuirkFree := by
  rw [normBfdb_eq, normMt]
  split
  · exact h
  · simp [Box.QuirkFree]

mutual
/-- the result of reading a written quirk-free tree is again in the domain of the round-trip theorem -/
theorem Box.norm_quirkFree : (b : Box) → b.QuirkFree → b.norm.QuirkFree
  | .super _ cs, h => by
    refine ⟨?_, normList_quirkFree cs h.2⟩
    cases cs with
    | nil => exact absurd rfl h.1
    | cons c rest => simp [normList]
  | .leaf _ _, _ => trivial
  | .uuid _ _, h => h
  | .bfdb t m _, h => normBfdb_quirkFree t m h
theorem normList_quirkFree : (cs : List Box) → QuirkFreeList cs → QuirkFreeList (normList cs)
  | [], _ => trivial
  | b :: bs, h => ⟨b.norm_quirkFree h.1, normList_quirkFree bs h.2⟩
end

end C2pa.C18
