import C2paModel.Lemmas.C01Data
/-
C01 — the update-manifest re-basing of data-hash exclusions (`rebase`, Model/C01.lean) is sound
and complete: on an asset whose manifest store grew from `M` to `M'` (update manifest appended
to the store) the re-based exclusion list selects exactly the bytes the signed list selected on
the original asset.
-/
namespace C2pa.C01
open C2pa.C13

/-- the per-entry effect of the fix-up loop -/
def shiftOne (s adj : Nat) (x : HashRange) : HashRange :=
  if x.start > s then { x with start := x.start + adj } else x

theorem shiftOne_start (s adj : Nat) (x : HashRange) :
    (shiftOne s adj x).start = if x.start > s then x.start + adj else x.start := by
  unfold shiftOne; split <;> rfl

theorem shiftOne_length (s adj : Nat) (x : HashRange) : (shiftOne s adj x).length = x.length := by
  unfold shiftOne; split <;> rfl

theorem shiftOne_off (s adj : Nat) (x : HashRange) : (shiftOne s adj x).off = x.off := by
  unfold shiftOne; split <;> rfl

theorem shiftAfter_eq (s adj : Nat) : ∀ (l : List HashRange),
    (∀ r ∈ l, r.start > s → r.start + adj ≤ u64Max) →
    shiftAfter s adj l = some (l.map (shiftOne s adj)) := by
  intro l
  induction l with
  | nil => intro _; rfl
  | cons x xs ih =>
    intro h
    have hx := h x (List.mem_cons_self ..)
    unfold shiftAfter
    rw [ih (fun r hr => h r (List.mem_cons_of_mem _ hr))]
    by_cases c : x.start > s
    · have : ¬ x.start + adj > u64Max := by have := hx c; omega
      simp [shiftOne, c, this]
    · simp [shiftOne, c]

theorem shiftAfter_some (s adj : Nat) (l : List HashRange) : ∀ l', shiftAfter s adj l = some l' →
    l' = l.map (shiftOne s adj) := by
  fun_induction shiftAfter s adj l with
  | case1 => intro l' h; cases h; rfl
  | case2 x xs hr => intro l' h; cases h
  | case3 x xs ys hr hgt hov ih => intro l' h; cases h
  | case4 x xs ys hr hgt hov ih =>
    intro l' h; cases h
    rw [List.map_cons, ← ih ys hr, shiftOne, if_pos hgt]
  | case5 x xs ys hr hgt ih =>
    intro l' h; cases h
    rw [List.map_cons, ← ih ys hr, shiftOne, if_neg hgt]

theorem split_at {α : Type} : ∀ (l : List α) (i : Nat) (r : α), l[i]? = some r →
    l = l.take i ++ r :: l.drop (i + 1) ∧ (l.take i).length = i := by
  intro l i r h
  obtain ⟨hi, rfl⟩ := List.getElem?_eq_some_iff.1 h
  exact ⟨by rw [← List.drop_eq_getElem_cons hi, List.take_append_drop],
    List.length_take_of_le (Nat.le_of_lt hi)⟩

/-- `exclusions[pos] = range` is `List.set` -/
theorem setAt_eq_set (r : HashRange) : ∀ (i : Nat) (l : List HashRange), setAt r i l = l.set i r
  | 0, [] => rfl
  | _ + 1, [] => rfl
  | 0, _ :: _ => rfl
  | n + 1, x :: xs => congrArg (x :: ·) (setAt_eq_set r n xs)

theorem setAt_length (r : HashRange) (n : Nat) (l : List HashRange) :
    (setAt r n l).length = l.length := by
  rw [setAt_eq_set, List.length_set]

theorem setAt_split (rg x : HashRange) (l1 l2 : List HashRange) :
    setAt rg l1.length (l1 ++ x :: l2) = l1 ++ rg :: l2 := by
  rw [setAt_eq_set, List.set_append_right _ _ (Nat.le_refl _), Nat.sub_self, List.set_cons_zero]

theorem mem_setAt (rg : HashRange) (i : Nat) (l : List HashRange) (r : HashRange)
    (h : r ∈ setAt rg i l) : r = rg ∨ r ∈ l := by
  rw [setAt_eq_set] at h
  exact (List.mem_or_eq_of_mem_set h).symm

theorem rebase_length {ex ex' : List HashRange} {range : Option HashRange}
    (h : rebase ex range = some ex') : ex'.length = ex.length := by
  unfold rebase at h
  cases range with
  | none => cases h; rfl
  | some rg =>
    simp only at h
    cases hf : findStart rg.start ex with
    | none => simp [hf] at h; rw [← h]
    | some pos =>
      simp only [hf] at h
      split at h
      · rw [shiftAfter_some _ _ _ _ h, List.length_map, setAt_length]
      · cases h; rw [setAt_length]

/-! ### the re-based list in closed form; it stays marker-free and inside the grown asset -/

theorem rebase_explicit (p m m' : Nat) (ex : List HashRange) (hpre : 0 < p) (i : Nat)
    (hfind : findStart p ex = some i) (hi : ex[i]? = some ⟨p, m, none⟩)
    (hfit : ∀ r ∈ ex, r.start + (m' - m) ≤ u64Max) :
    rebase ex (some ⟨p, m', none⟩) =
      some ((setAt ⟨p, m', none⟩ i ex).map (shiftOne p (m' - m))) := by
  unfold rebase
  simp only [hfind, hi, Option.map_some, Option.getD_some]
  rw [if_pos hpre]
  apply shiftAfter_eq
  intro r hr hgt
  rcases mem_setAt _ i ex r hr with h | h
  · subst h; simp at hgt
  · exact hfit r h

theorem rebased_plain (p m' adj : Nat) (i : Nat) (ex : List HashRange) (hp : Plain ex) :
    Plain ((setAt ⟨p, m', none⟩ i ex).map (shiftOne p adj)) := by
  intro r hr
  obtain ⟨r0, hr0, rfl⟩ := List.mem_map.1 hr
  rw [shiftOne_off]
  rcases mem_setAt _ i ex r0 hr0 with h | h
  · subst h; rfl
  · exact hp r0 h

theorem rebased_within (p m m' n n' : Nat) (i : Nat) (ex : List HashRange) (hm : m ≤ m')
    (hn : n + (m' - m) ≤ n') (hin : (⟨p, m, none⟩ : HashRange) ∈ ex) (hw : Within ex n) :
    Within ((setAt ⟨p, m', none⟩ i ex).map (shiftOne p (m' - m))) n' := by
  intro r hr
  obtain ⟨r0, hr0, rfl⟩ := List.mem_map.1 hr
  have hst := hw _ hin
  simp only at hst
  rw [shiftOne_start, shiftOne_length]
  rcases mem_setAt _ i ex r0 hr0 with h | h
  · subst h
    rw [if_neg (Nat.lt_irrefl p)]
    show p + m' ≤ n'
    omega
  · have := hw r0 h
    split <;> omega

/-! ### which positions the re-based entries cover -/

/-- one entry covers position `x` -/
def cov (h : HashRange) (x : Nat) : Bool :=
  h.off.isNone && h.length != 0 && decide (h.start ≤ x) && decide (x < h.start + h.length)

theorem excluded_eq_any (l : List HashRange) (x : Nat) : excluded l x = l.any (cov · x) := rfl

theorem cov_iff (h : HashRange) (x : Nat) :
    cov h x = true ↔ h.off = none ∧ h.length ≠ 0 ∧ h.start ≤ x ∧ x < h.start + h.length := by
  simp [cov, and_assoc]

theorem cov_store_before (p m x : Nat) (hx : x < p) : cov ⟨p, m, none⟩ x = false :=
  Bool.eq_false_iff.2 fun h => Nat.not_le_of_lt hx ((cov_iff _ _).1 h).2.2.1

theorem cov_store_in (p m k : Nat) (hk : k < m) : cov ⟨p, m, none⟩ (p + k) = true :=
  (cov_iff _ _).2 ⟨rfl, Nat.ne_of_gt (Nat.zero_lt_of_lt hk), Nat.le_add_right p k,
    Nat.add_lt_add_left hk p⟩

theorem cov_store_after (p m k : Nat) : cov ⟨p, m, none⟩ (p + m + k) = false :=
  Bool.eq_false_iff.2 fun h =>
    Nat.not_lt_of_le (Nat.le_add_right (p + m) k) ((cov_iff _ _).1 h).2.2.2

/-- `excluded` looks at the list as a multiset: one entry apart from the others -/
theorem excluded_split (l1 l2 : List HashRange) (r : HashRange) (x : Nat) :
    excluded (l1 ++ r :: l2) x = (cov r x || excluded (l1 ++ l2) x) :=
  List.perm_middle.any_eq

theorem excluded_congr (l : List HashRange) (f : HashRange → HashRange) (x x' : Nat)
    (h : ∀ r ∈ l, cov (f r) x' = cov r x) : excluded (l.map f) x' = excluded l x := by
  induction l with
  | nil => rfl
  | cons a as ih =>
    simp only [excluded_eq_any, List.map_cons, List.any_cons] at *
    rw [h a (List.mem_cons_self ..), ih (fun r hr => h r (List.mem_cons_of_mem _ hr))]

/-- a shifted entry starts behind the store -/
theorem cov_shift_low (p adj : Nat) (r : HashRange) (x : Nat) (hx : x < p) :
    cov (shiftOne p adj r) x = cov r x := by
  rw [Bool.eq_iff_iff, cov_iff, cov_iff, shiftOne_off, shiftOne_length, shiftOne_start]
  refine and_congr_right fun _ => ?_
  split <;> omega

theorem cov_shift_high (p m m' : Nat) (r : HashRange) (k : Nat) (hm0 : 0 < m) (hm : m ≤ m')
    (ht : r.length = 0 ∨ r.start + r.length ≤ p ∨ p + m ≤ r.start) :
    cov (shiftOne p (m' - m) r) (p + m' + k) = cov r (p + m + k) := by
  rw [Bool.eq_iff_iff, cov_iff, cov_iff, shiftOne_off, shiftOne_length, shiftOne_start]
  refine and_congr_right fun _ => ?_
  split <;> omega

/-- The selection half of `rebase_sound_complete`, on the closed form of the re-based list: it
needs neither the position of the store in the file (`0 < |pre|`) nor the `u64` bound. -/
theorem rebased_selects (pre M M' post : List UInt8) (ex : List HashRange) (hp : Plain ex)
    (hM0 : 0 < M.length) (hM : M.length ≤ M'.length) (i : Nat)
    (hi : ex[i]? = some ⟨pre.length, M.length, none⟩)
    (hother : ∀ j r, ex[j]? = some r → j ≠ i →
      r.length = 0 ∨ r.start + r.length ≤ pre.length ∨ pre.length + M.length ≤ r.start) :
    exclSpec (pre ++ M' ++ post) ((setAt ⟨pre.length, M'.length, none⟩ i ex).map
        (shiftOne pre.length (M'.length - M.length))) = exclSpec (pre ++ M ++ post) ex := by
  rw [exclSpec_plain _ _ (rebased_plain pre.length M'.length _ i ex hp), exclSpec_plain _ _ hp]
  -- `ex` is the store range and the others (`ex.eraseIdx i`), none of which straddles the store
  have hoth : ∀ r ∈ ex.take i ++ ex.drop (i + 1),
      r.length = 0 ∨ r.start + r.length ≤ pre.length ∨ pre.length + M.length ≤ r.start := by
    intro r hr
    rw [← List.eraseIdx_eq_take_drop_succ, List.mem_eraseIdx_iff_getElem?] at hr
    obtain ⟨j, hj, hr⟩ := hr
    exact hother j r hr hj
  obtain ⟨hsplit, hlen1⟩ := split_at ex i _ hi
  -- from here on `ex` is `l1 ++ ⟨|pre|, |M|, none⟩ :: l2` and `i` is `l1.length`
  generalize ex.take i = l1 at hsplit hlen1 hoth
  generalize ex.drop (i + 1) = l2 at hsplit hoth
  subst hlen1 hsplit
  have hrg : shiftOne pre.length (M'.length - M.length) ⟨pre.length, M'.length, none⟩ =
      ⟨pre.length, M'.length, none⟩ := by rw [shiftOne, if_neg (Nat.lt_irrefl _)]
  rw [setAt_split, List.map_append, List.map_cons, hrg]
  -- the store is excluded on both sides; before it nothing changed; behind it the entries
  -- moved with the bytes
  exact Data.selBy_splice _ _ pre M M' post
    (fun x hx => by
      rw [excluded_split, excluded_split, ← List.map_append,
        excluded_congr _ _ x x (fun r _ => cov_shift_low _ _ r x hx),
        cov_store_before _ _ x hx, cov_store_before _ _ x hx])
    (fun k hk => by rw [excluded_split, cov_store_in _ _ k hk, Bool.true_or])
    (fun k hk => by rw [excluded_split, cov_store_in _ _ k hk, Bool.true_or])
    (fun k _ => by
      rw [excluded_split, excluded_split, ← List.map_append,
        excluded_congr _ _ (pre.length + M.length + k) (pre.length + M'.length + k)
          (fun r hr => cov_shift_high _ _ _ r k hM0 hM (hoth r hr)),
        cov_store_after, cov_store_after])

/-- The signed exclusion list `ex` contains the store range `(|pre|, |M|)` (the first entry that
starts at `|pre|`); every other non-empty entry lies entirely before the store or entirely after
it; the store does not sit at offset 0 (the code only shifts when `start_offset > 0`) and is not
empty; no `u64` overflow when shifting. Then re-basing with the store range found in the
validated asset, `(|pre|, |M'|)` with `|M'| ≥ |M|`, succeeds and the selection on
`pre ++ M' ++ post` equals the signed selection on `pre ++ M ++ post`. -/
theorem rebase_sound_complete (pre M M' post : List UInt8) (ex : List HashRange) (hp : Plain ex)
    (hpre : 0 < pre.length) (hM0 : 0 < M.length) (hM : M.length ≤ M'.length)
    (i : Nat) (hfind : findStart pre.length ex = some i)
    (hi : ex[i]? = some ⟨pre.length, M.length, none⟩)
    (hother : ∀ j r, ex[j]? = some r → j ≠ i →
      r.length = 0 ∨ r.start + r.length ≤ pre.length ∨ pre.length + M.length ≤ r.start)
    (hfit : ∀ r ∈ ex, r.start + (M'.length - M.length) ≤ u64Max) :
    ∃ ex', rebase ex (some ⟨pre.length, M'.length, none⟩) = some ex' ∧
      exclSpec (pre ++ M' ++ post) ex' = exclSpec (pre ++ M ++ post) ex :=
  ⟨_, rebase_explicit pre.length M.length M'.length ex hpre i hfind hi hfit,
    rebased_selects pre M M' post ex hp hM0 hM i hi hother⟩

end C2pa.C01
