import C2paModel.Model.C03
/-
C03 — the claim store `Builder::to_claim` builds: which assertions, in which order, with which
instance numbers (`Claim::add_assertion` → `make_assertion_instance_label` → `next_instance`,
which filters the store by *substring*).
-/
namespace C2pa.C03
open C2pa

/-- for every position of a label list: how many earlier positions hold the same label -/
def occGo : List String → List String → List Nat
  | _, [] => []
  | seen, l :: t => seen.count l :: occGo (seen ++ [l]) t

def occBefore (ls : List String) : List Nat := occGo [] ls

/-- no label is a *proper* substring of another (substring-related labels are equal) -/
def NoProperInfix (L : List String) : Prop :=
  ∀ l ∈ L, ∀ l' ∈ L, infixOf l.toList l'.toList = true → l = l'

theorem infixOf_refl (p : List Char) : infixOf p p = true := by
  cases p with
  | nil => rfl
  | cons c cs => simp [infixOf]

theorem foldl_max_succ_range (k : Nat) : ((List.range k).map Nat.succ).foldl max 0 = k := by
  induction k with
  | zero => rfl
  | succ k ih =>
    rw [List.range_succ, List.map_append, List.foldl_append, ih]
    simp

/-- the instance numbers stored for each label are 0, 1, …, (occurrences − 1), in order -/
def Numbered (store : List CAsn) : Prop :=
  ∀ l : String, (store.filter (fun x => x.asn.label == l)).map (·.inst) =
    List.range ((store.map (·.asn.label)).count l)

theorem nextInstance_eq (store : List CAsn) (l : String) (hnum : Numbered store)
    (h : ∀ x ∈ store, infixOf l.toList x.asn.label.toList = true → x.asn.label = l) :
    nextInstance store l = (store.map (·.asn.label)).count l := by
  unfold nextInstance
  have hf : store.filter (fun x => infixOf l.toList x.asn.label.toList) =
      store.filter (fun x => x.asn.label == l) := by
    apply List.filter_congr
    intro x hx
    cases hi : infixOf l.toList x.asn.label.toList with
    | true => simp [h x hx hi]
    | false =>
      cases hb : (x.asn.label == l) with
      | false => rfl
      | true =>
        have : x.asn.label = l := by simpa using hb
        rw [this, infixOf_refl] at hi
        cases hi
  rw [hf, hnum l]
  cases hc : (store.map (·.asn.label)).count l with
  | zero => rfl
  | succ k =>
    rw [List.range_succ_eq_map]
    show (List.map Nat.succ (List.range k)).foldl max 0 + 1 = k + 1
    rw [foldl_max_succ_range]

theorem numbered_snoc (store : List CAsn) (a : Asn) (hnum : Numbered store) :
    Numbered (store ++ [⟨a, (store.map (·.asn.label)).count a.label⟩]) := by
  intro l
  rw [List.filter_append, List.map_append, List.map_append, List.count_append, hnum l]
  by_cases hl : a.label = l
  · subst hl
    simp [List.range_succ]
  · have hb : (a.label == l) = false := by simpa using hl
    simp [hb, hl]

theorem foldl_addAssertion_asn (l : List Asn) (acc : List CAsn) :
    (l.foldl addAssertion acc).map (·.asn) = acc.map (·.asn) ++ l := by
  induction l generalizing acc with
  | nil => simp
  | cons a t ih =>
    simp only [List.foldl_cons]
    rw [ih]
    simp [addAssertion]

theorem foldl_addAssertion_spec {L : List String} (hnp : NoProperInfix L) (as : List Asn) :
    ∀ store : List CAsn, Numbered store → (∀ x ∈ store, x.asn.label ∈ L) →
    (∀ a ∈ as, a.label ∈ L) →
    (as.foldl addAssertion store).map (·.inst) =
      store.map (·.inst) ++ occGo (store.map (·.asn.label)) (as.map (·.label)) ∧
    Numbered (as.foldl addAssertion store) := by
  induction as with
  | nil => intro store hnum _ _; simp [occGo, hnum]
  | cons a t ih =>
    intro store hnum hs has
    have ha := has a (List.mem_cons_self ..)
    have hstep : addAssertion store a = store ++ [⟨a, (store.map (·.asn.label)).count a.label⟩] := by
      unfold addAssertion
      rw [nextInstance_eq store a.label hnum fun x hx hi => (hnp _ ha _ (hs x hx) hi).symm]
    obtain ⟨h2, h3⟩ := ih _ (numbered_snoc store a hnum)
      (fun x hx => by
        rcases List.mem_append.1 hx with h | h
        · exact hs x h
        · rw [List.mem_singleton.1 h]; exact ha)
      (fun b hb => has b (List.mem_cons_of_mem _ hb))
    rw [List.foldl_cons, hstep]
    exact ⟨by rw [h2]; simp [occGo], h3⟩

/-- everything the claim stores, in order -/
def allAsns (d : Definition) : List Asn :=
  (preLabels d).map (fun l => ⟨l, "", false⟩) ++
    d.assertions.map (fun a => { a with label := normLabel a.label }) ++ [⟨"c2pa.hash.data", "", false⟩]

theorem allAsns_labels (d : Definition) : (allAsns d).map (·.label) = allLabels d := by
  simp [allAsns, allLabels, List.map_map, Function.comp_def]

theorem toClaim_store (d : Definition) : (toClaim d).store = (allAsns d).foldl addAssertion [] := by
  unfold toClaim allAsns addAssertion
  simp only [List.foldl_append, List.foldl_map, List.foldl_cons, List.foldl_nil]

theorem store_asns (d : Definition) : (toClaim d).store.map (·.asn) = allAsns d := by
  rw [toClaim_store, foldl_addAssertion_asn]
  rfl

/-- The claim stores exactly the thumbnail, the ingredients, the supplied
assertions (re-labelled by `normLabel`) and the hard binding, in this order, and the instance
number of each is the number of earlier stored assertions with the same label — for every
definition in which no stored label is a proper substring of another stored label. -/
theorem claim_store_spec (d : Definition) (hnp : NoProperInfix (allLabels d)) :
    (toClaim d).store.map (·.asn) = allAsns d ∧
    (toClaim d).store.map (·.inst) = occBefore (allLabels d) := by
  obtain ⟨h2, _⟩ := foldl_addAssertion_spec hnp (allAsns d) [] (fun _ => rfl) nofun
    (fun a ha => by rw [← allAsns_labels]; exact List.mem_map_of_mem ha)
  refine ⟨store_asns d, ?_⟩
  rw [toClaim_store, h2, allAsns_labels]
  rfl

theorem zip_asn_inst (S : List CAsn) : S = List.zipWith CAsn.mk (S.map (·.asn)) (S.map (·.inst)) := by
  induction S with
  | nil => rfl
  | cons x t ih => simp only [List.map_cons, List.zipWith_cons_cons]; rw [← ih]

theorem claim_store_eq (d : Definition) (hnp : NoProperInfix (allLabels d)) :
    (toClaim d).store = List.zipWith CAsn.mk (allAsns d) (occBefore (allLabels d)) := by
  obtain ⟨h1, h2⟩ := claim_store_spec d hnp
  rw [← h1, ← h2]
  exact zip_asn_inst _

theorem occGo_nodup (seen ls : List String) (h : (seen ++ ls).Nodup) :
    occGo seen ls = List.replicate ls.length 0 := by
  induction ls generalizing seen with
  | nil => rfl
  | cons l t ih =>
    have hl : l ∉ seen := by
      intro hm
      rw [List.nodup_append] at h
      exact h.2.2 l hm l (List.mem_cons_self ..) rfl
    have : (seen ++ [l] ++ t).Nodup := by simpa using h
    simp only [occGo, List.length_cons, List.replicate_succ, ih _ this, List.count_eq_zero.2 hl]

theorem claim_instances_zero (d : Definition) (hnp : NoProperInfix (allLabels d))
    (hnd : (allLabels d).Nodup) : ∀ x ∈ (toClaim d).store, x.inst = 0 := by
  intro x hx
  have h := (claim_store_spec d hnp).2
  have hz : occBefore (allLabels d) = List.replicate (allLabels d).length 0 :=
    occGo_nodup [] _ (by simpa using hnd)
  have : x.inst ∈ (toClaim d).store.map (·.inst) := List.mem_map_of_mem hx
  rw [h, hz] at this
  exact (List.mem_replicate.1 this).2

end C2pa.C03
