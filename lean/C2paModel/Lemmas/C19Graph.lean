import C2paModel.Model.C19
/-
C19 — the graph a store stands for: ingredient references as edges, dangling references,
reachability with and without an edge count, cycles, topological orders. Nothing here mentions
the walkers.
-/
namespace C2pa.C19

/-- `u → v`: claim `u` has an ingredient assertion naming the existing claim `v`. -/
def Edge (s : Store) (u v : Nat) : Prop :=
  ∃ c, s[u]? = some c ∧ ∃ i ∈ c.ings, i.target = some v ∧ v < s.length

/-- claim `u` has an ingredient assertion naming a manifest `v` that is not in the store -/
def Dangling (s : Store) (u v : Nat) : Prop :=
  ∃ c, s[u]? = some c ∧ ∃ i ∈ c.ings, i.target = some v ∧ s.length ≤ v

inductive Reach (s : Store) (a : Nat) : Nat → Prop
  | refl : Reach s a a
  | step {b c : Nat} : Reach s a b → Edge s b c → Reach s a c

/-- `v` lies on a directed cycle (self references included) -/
def OnCycle (s : Store) (v : Nat) : Prop := ∃ w, Edge s v w ∧ Reach s w v

/-- `ReachIn s a k b`: there is a path of exactly `k` edges from `a` to `b`. -/
inductive ReachIn (s : Store) (a : Nat) : Nat → Nat → Prop
  | refl : ReachIn s a 0 a
  | step {k b c : Nat} : ReachIn s a k b → Edge s b c → ReachIn s a (k + 1) c

theorem ReachIn.reach {s : Store} {a k b : Nat} (h : ReachIn s a k b) : Reach s a b := by
  induction h with
  | refl => exact .refl
  | step _ he ih => exact .step ih he

theorem Reach.reachIn {s : Store} {a b : Nat} (h : Reach s a b) : ∃ k, ReachIn s a k b := by
  induction h with
  | refl => exact ⟨0, .refl⟩
  | step _ he ih => obtain ⟨k, hk⟩ := ih; exact ⟨k + 1, .step hk he⟩

theorem Reach.trans {s : Store} {a b c : Nat} (h₁ : Reach s a b) (h₂ : Reach s b c) :
    Reach s a c := by
  induction h₂ with
  | refl => exact h₁
  | step _ he ih => exact .step ih he

theorem reach_lt {s : Store} {root v : Nat} (hr : root < s.length) (h : Reach s root v) :
    v < s.length := by
  cases h with
  | refl => exact hr
  | step _ he => obtain ⟨_, _, _, _, _, hv⟩ := he; exact hv

theorem ReachIn.trans {s : Store} {a b c k m : Nat} (h₁ : ReachIn s a k b) (h₂ : ReachIn s b m c) :
    ReachIn s a (k + m) c := by
  induction h₂ with
  | refl => exact h₁
  | step _ he ih => exact .step ih he

/-- A cycle through `v` makes the walks to `v` arbitrarily long; so a bound on the length of all
walks from the root excludes reachable cycles (`WF.acyclic`). -/
theorem cycle_long {s : Store} {a v k c : Nat} (h : ReachIn s a k v)
    (hc : ReachIn s v (c + 1) v) (j : Nat) : ∃ k', j ≤ k' ∧ ReachIn s a k' v := by
  induction j with
  | zero => exact ⟨k, Nat.zero_le _, h⟩
  | succ j ih =>
    obtain ⟨k', hk, hr⟩ := ih
    exact ⟨k' + (c + 1), Nat.add_le_add hk (Nat.succ_pos c), hr.trans hc⟩

/-- `l` (most recently finished first) is a topological order: every successor of a member
was finished strictly earlier. -/
def Topo (s : Store) : List Nat → Prop
  | [] => True
  | u :: l => (∀ v, Edge s u v → v ∈ l) ∧ Topo s l

theorem Topo.closed_edge {s : Store} : ∀ {l : List Nat}, Topo s l → ∀ {u v}, u ∈ l → Edge s u v → v ∈ l
  | [], _, _, _, hu, _ => by cases hu
  | x :: l, ⟨h1, h2⟩, u, v, hu, he => by
    rcases List.mem_cons.1 hu with rfl | hu
    · exact List.mem_cons_of_mem _ (h1 v he)
    · exact List.mem_cons_of_mem _ (Topo.closed_edge h2 hu he)

theorem Topo.closed {s : Store} {l : List Nat} (h : Topo s l) {u v : Nat} (hu : u ∈ l)
    (hr : Reach s u v) : v ∈ l := by
  induction hr with
  | refl => exact hu
  | step _ he ih => exact h.closed_edge ih he

theorem Topo.acyclic {s : Store} : ∀ {l : List Nat}, Topo s l → l.Nodup → ∀ u ∈ l, ¬ OnCycle s u
  | [], _, _, u, hu => by cases hu
  | x :: l, ⟨h1, h2⟩, hnd, u, hu => by
    rcases List.mem_cons.1 hu with rfl | hu
    · rintro ⟨w, he, hr⟩
      have hw : w ∈ l := h1 w he
      have : u ∈ l := h2.closed hw hr
      exact (List.nodup_cons.1 hnd).1 this
    · exact Topo.acyclic h2 (List.nodup_cons.1 hnd).2 u hu

end C2pa.C19
