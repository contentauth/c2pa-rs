import C2paModel.Model.C19
/-
C19 — the branches of `gLoop` and `gcrm` as equations; the scheme of the fuel arguments
(`stable_of_succ`); out-degrees (`deg`, `degSum`, `edgeCount`) with the weighted pigeonhole bound
`degSum_le_edgeCount` behind the `|E|` bounds.
-/
namespace C2pa.C19

theorem gLoop_nil (rec : Nat → GSt → Out × GSt) (s : Store) (stop : Bool) (u : Nat) (st : GSt) :
    gLoop rec s stop u [] st = (.ok, st) := rfl

section
variable {rec : Nat → GSt → Out × GSt} {s : Store} {stop : Bool} {u v : Nat} {i : Ing}
  {is : List Ing} {st : GSt}

/-! The branches of one iteration of the ingredient loop (`claim_label_path.contains` as `∈`). -/

theorem gLoop_skip (ht : i.target = none) :
    gLoop rec s stop u (i :: is) st = gLoop rec s stop u is (gSkip st) := by
  simp [gLoop, ht]

theorem gLoop_cyc (ht : i.target = some v) (hv : v < s.length) (hc : v ∈ st.path) :
    gLoop rec s stop u (i :: is) st = (.cyclic, gCyc st u) := by
  simp [gLoop, ht, hv, hc]

theorem gLoop_call (ht : i.target = some v) (hv : v < s.length) (hc : v ∉ st.path) :
    gLoop rec s stop u (i :: is) st =
      if (rec v (gPre st u v)).1 = .ok then gLoop rec s stop u is (rec v (gPre st u v)).2
      else rec v (gPre st u v) := by
  simp [gLoop, ht, hv, hc]

theorem gLoop_miss (ht : i.target = some v) (hv : ¬ v < s.length) :
    gLoop rec s stop u (i :: is) st =
      if stop then (.missing, gMiss st v) else gLoop rec s stop u is (gMiss st v) := by
  simp [gLoop, ht, hv]

end

theorem gcrm_zero (lim : Nat) (s : Store) (stop : Bool) (u : Nat) (st : GSt) :
    gcrm lim s stop 0 u st = (.outOfFuel, st) := rfl

/-- The depth test comes first: an arrival with `lim` claims on the path is the depth error,
whether or not the claim is already in the memo map. -/
theorem gcrm_arrival_too_deep (lim : Nat) (s : Store) (stop : Bool) (n u : Nat) (st : GSt)
    (h : lim ≤ st.path.length) : gcrm lim s stop (n + 1) u st = (.tooDeep, st) := by
  simp [gcrm, h]

section
variable {lim : Nat} {s : Store} {stop : Bool} {n u : Nat} {st : GSt} {c : Claim}

theorem gcrm_memo (hl : ¬ lim ≤ st.path.length) (hm : u ∈ st.map) :
    gcrm lim s stop (n + 1) u st = (.ok, st) := by
  simp [gcrm, hl, hm]

theorem gcrm_no_claim (hl : ¬ lim ≤ st.path.length) (hm : u ∉ st.map) (hs : s[u]? = none) :
    gcrm lim s stop (n + 1) u st = (.noClaim, st) := by
  simp [gcrm, hl, hm, hs]

theorem gcrm_expand (hl : ¬ lim ≤ st.path.length) (hm : u ∉ st.map) (hs : s[u]? = some c) :
    gcrm lim s stop (n + 1) u st =
      if (gLoop (gcrm lim s stop n) s stop u c.ings (gPush st u)).1 = .ok
      then (.ok, gPop (gLoop (gcrm lim s stop n) s stop u c.ings (gPush st u)).2 u)
      else gLoop (gcrm lim s stop n) s stop u c.ings (gPush st u) := by
  simp [gcrm, hl, hm, hs]

end

/-- The shape of the fuel arguments: if one more unit of fuel never changes a result that is not
`bad` (out of fuel), no amount of further fuel does. -/
theorem stable_of_succ {α : Type} (f : Nat → α) (bad : α → Prop)
    (hs : ∀ n, ¬ bad (f n) → f (n + 1) = f n) (n : Nat) (h : ¬ bad (f n)) :
    ∀ k, f (n + k) = f n := by
  intro k
  induction k with
  | zero => rfl
  | succ k ih => rw [← Nat.add_assoc, hs (n + k) (ih ▸ h), ih]

theorem sum_map_erase (f : Nat → Nat) (a : Nat) :
    ∀ l : List Nat, a ∈ l → (l.map f).sum = f a + ((l.erase a).map f).sum
  | [], h => by cases h
  | x :: l, h => by
    by_cases hx : x = a
    · subst hx; simp
    · have ha : a ∈ l := (List.mem_cons.1 h).resolve_left (fun e => hx e.symm)
      have hb : ¬ (x == a) = true := by simpa using hx
      rw [List.erase_cons_tail hb]
      simp only [List.map_cons, List.sum_cons]
      rw [sum_map_erase f a l ha]
      omega

/-- Weighted pigeonhole: a duplicate-free list of numbers below `n` weighs at most as much as `0 … n-1`. -/
theorem sum_le_range (f : Nat → Nat) :
    ∀ (n : Nat) (l : List Nat), l.Nodup → (∀ x ∈ l, x < n) →
      (l.map f).sum ≤ ((List.range n).map f).sum
  | 0, l, _, hlt => by
    cases l with
    | nil => simp
    | cons x l => exact absurd (hlt x (List.mem_cons_self ..)) (Nat.not_lt_zero _)
  | n + 1, l, hnd, hlt => by
    rw [List.range_succ, List.map_append, List.sum_append]
    simp only [List.map_cons, List.map_nil, List.sum_cons, List.sum_nil, Nat.add_zero]
    by_cases hn : n ∈ l
    · rw [sum_map_erase f n l hn]
      have hnd' : (l.erase n).Nodup := hnd.erase n
      have hlt' : ∀ x ∈ l.erase n, x < n := by
        intro x hx
        have hx' := (List.Nodup.mem_erase_iff hnd).1 hx
        have := hlt x hx'.2
        have hne : x ≠ n := hx'.1
        omega
      have := sum_le_range f n (l.erase n) hnd' hlt'
      omega
    · have hlt' : ∀ x ∈ l, x < n := by
        intro x hx
        have := hlt x hx
        have hne : x ≠ n := fun e => hn (e ▸ hx)
        omega
      have := sum_le_range f n l hnd hlt'
      omega

theorem nodup_length_le (n : Nat) (l : List Nat) (hnd : l.Nodup) (hlt : ∀ x ∈ l, x < n) :
    l.length ≤ n := by
  have := hnd.length_le_of_subset fun x hx => List.mem_range.2 (hlt x hx)
  rwa [List.length_range] at this

/-- out-degree (number of ingredient assertions) of the claim labelled `x` -/
def deg (s : Store) (x : Nat) : Nat :=
  match s[x]? with
  | some c => c.ings.length
  | none => 0

def degSum (s : Store) (l : List Nat) : Nat := (l.map (deg s)).sum

/-- number of ingredient assertions in the whole store, `|E|` -/
def edgeCount (s : Store) : Nat := (s.map fun c => c.ings.length).sum

theorem degSum_cons (s : Store) (x : Nat) (l : List Nat) :
    degSum s (x :: l) = deg s x + degSum s l := by simp [degSum]

theorem degSum_append (s : Store) (l₁ l₂ : List Nat) :
    degSum s (l₁ ++ l₂) = degSum s l₁ + degSum s l₂ := by simp [degSum]

theorem deg_of_get (s : Store) (x : Nat) (c : Claim) (h : s[x]? = some c) :
    deg s x = c.ings.length := by simp [deg, h]

theorem range_map_deg (s : Store) :
    (List.range s.length).map (deg s) = s.map fun c => c.ings.length := by
  apply List.ext_getElem
  · simp
  · intro i h1 h2
    simp only [List.getElem_map, List.getElem_range]
    have hi : i < s.length := by simpa using h2
    simp [deg, List.getElem?_eq_getElem hi]

theorem degSum_le_edgeCount (s : Store) (l : List Nat) (hnd : l.Nodup)
    (hlt : ∀ x ∈ l, x < s.length) : degSum s l ≤ edgeCount s := by
  have := sum_le_range (deg s) s.length l hnd hlt
  rw [range_map_deg] at this
  exact this

end C2pa.C19
