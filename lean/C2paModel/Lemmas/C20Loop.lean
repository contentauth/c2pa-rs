import C2paModel.Model.C20
import C2paModel.Props.C04
/-
C20 helper lemmas: the assertion loop of `verify_internal` and with it `verify_claim` in closed form
(`assertionLoop_eq`, `verifyClaim_iff`), the position erasure of `redact_assertion` and what a successful
`redact_assertion` has gone through (`redactAssertion_ok`). At the end `report`, a validation log
folded into the C04 results with the `from_store` filter left abstract: no theorem of C20 / C21 goes
through it; they use `reportS` and `failure_invalid` of Lemmas/C20Filter, where the filter is the coded one.
-/
namespace C2pa.C20
open C2pa.C34

def Ev.isFailure (e : Ev) : Bool := e.kind == .failure

theorem fail_isFailure (c : String) (i : Bool) : (fail c i).isFailure = true := rfl
theorem succ_not_failure (c : String) (i : Bool) : (succ c i).isFailure = false := rfl
theorem info_not_failure (c : String) (i : Bool) : (info c i).isFailure = false := rfl

/-! Facts about the code of `fail c i` over a variable `c`: comparing `(fail "…" i).code` with a
code constant directly makes the unifier evaluate the string literal. -/

theorem fail_code (c : String) (i : Bool) : (fail c i).code = c.toList := rfl

theorem fail_not_tolerated {c : String} (i : Bool) (h : C04.tolerated c.toList = false) :
    C04.tolerated (fail c i).code = false := h

/-- the condition under which one hashed URI of the claim produces no failure in the assertion loop:
it points into this manifest, and is covered by a redaction of the hierarchy or resolves to an
assertion whose hash matches -/
def RefClean (c : Claim) (keys : List RedKey) (r : Ref) : Prop :=
  (r.manifest = none ∨ r.manifest = some c.label) ∧
  (isRedacted keys c.label r.label r.inst = true ∨
    ∃ ca, findCA c r.label r.inst = some ca ∧ ca.hash = r.hu.hash)

theorem outside_clean_iff (c : Claim) (ing : Bool) (r : Ref) :
    (∀ e ∈ outsideEvents c ing r, e.isFailure = false) ↔
      (r.manifest = none ∨ r.manifest = some c.label) := by
  unfold outsideEvents
  cases hm : r.manifest with
  | none => simp
  | some m => by_cases h : m = c.label <;> simp [h, fail_isFailure]

/-- the events one hashed URI adds to the log of the assertion loop: they do not depend on the
tracking list -/
def refEvents (c : Claim) (keys : List RedKey) (ing : Bool) (r : Ref) : List Ev :=
  (assertionStep c keys ing [] r).1

/-- the tracking list after the assertion loop over `refs` -/
def track (refs : List Ref) (t : List CA) : List CA :=
  refs.foldl (fun t r => eraseKey r.label r.inst t) t

theorem assertionStep_eq (c : Claim) (keys : List RedKey) (ing : Bool) (t : List CA) (r : Ref) :
    assertionStep c keys ing t r = (refEvents c keys ing r, eraseKey r.label r.inst t) := by
  unfold refEvents assertionStep
  simp only []
  split
  · rfl
  · split
    · split <;> rfl
    · rfl

theorem assertionLoop_eq (c : Claim) (keys : List RedKey) (ing : Bool) :
    ∀ (refs : List Ref) (t : List CA),
      assertionLoop c keys ing refs t = (refs.flatMap (refEvents c keys ing), track refs t)
  | [], _ => rfl
  | r :: rs, t => by
    simp only [assertionLoop, assertionStep_eq, assertionLoop_eq c keys ing rs, List.flatMap_cons, track,
      List.foldl_cons]

theorem refEvents_clean_iff (c : Claim) (keys : List RedKey) (ing : Bool) (r : Ref) :
    (∀ e ∈ refEvents c keys ing r, e.isFailure = false) ↔ RefClean c keys r := by
  unfold refEvents assertionStep RefClean
  rw [← outside_clean_iff c ing r]
  cases hred : isRedacted keys c.label r.label r.inst
  · simp only [Bool.false_eq_true, if_false, false_or]
    cases hf : findCA c r.label r.inst with
    | none =>
      simp only [List.forall_mem_append, List.forall_mem_singleton]
      exact and_congr_right fun _ => by simp [fail_isFailure]
    | some ca =>
      by_cases hh : ca.hash = r.hu.hash
      · simp only [hh, bne_self_eq_false, Bool.false_eq_true, if_false, List.forall_mem_append,
          List.forall_mem_singleton]
        exact and_congr_right fun _ => by simp [succ_not_failure, hh]
      · have hne : (ca.hash != r.hu.hash) = true := by simpa using hh
        simp only [hne, if_true, List.forall_mem_append, List.forall_mem_singleton]
        exact and_congr_right fun _ => by simp [fail_isFailure, hh]
  · simp

theorem refs_clean_iff (c : Claim) (keys : List RedKey) (ing : Bool) (refs : List Ref) :
    (∀ e ∈ refs.flatMap (refEvents c keys ing), e.isFailure = false) ↔
      ∀ r ∈ refs, RefClean c keys r := by
  simp only [List.mem_flatMap, forall_exists_index, and_imp, ← refEvents_clean_iff c keys ing]
  exact ⟨fun h r hr e he => h e r hr he, fun h e r hr he => h r hr e he⟩

theorem refEvents_missing (c : Claim) (keys : List RedKey) (ing : Bool) (r : Ref)
    (hred : isRedacted keys c.label r.label r.inst = false) (hf : findCA c r.label r.inst = none) :
    fail "assertion.missing" ing ∈ refEvents c keys ing r := by
  unfold refEvents assertionStep
  simp [hred, hf]

theorem refEvents_mismatch (c : Claim) (keys : List RedKey) (ing : Bool) (r : Ref) (ca : CA)
    (hred : isRedacted keys c.label r.label r.inst = false) (hf : findCA c r.label r.inst = some ca)
    (hh : ca.hash ≠ r.hu.hash) :
    fail "assertion.hashedURI.mismatch" ing ∈ refEvents c keys ing r := by
  unfold refEvents assertionStep
  have hne : (ca.hash != r.hu.hash) = true := by simpa using hh
  simp [hred, hf, hne]

def headEvents (c : Claim) (ing : Bool) : List Ev :=
  sigEvents c ing ++ redactionRules c ing ++ manifestRules c ing

/-- `verify_claim` in closed form: it answers `Err` iff the assertion loop leaves undeclared
assertions in its tracking list; otherwise the tail of the log is what rule 2.d of `verify_actions`
logs -/
theorem verifyClaim_iff (c : Claim) (reds : List Str) (map : List Claim) (ing : Bool) (o : Out) :
    verifyClaim c reds map ing = some o ↔
      ∃ keys refs, parseRedactions reds = some keys ∧ parseRefs c.assertions = some refs ∧
        if track refs c.store = [] then
          ∃ av, actionsFor c map ing = some av ∧
            o = ⟨headEvents c ing ++ refs.flatMap (refEvents c keys ing) ++ av, false⟩
        else o = ⟨headEvents c ing ++ refs.flatMap (refEvents c keys ing) ++
          (track refs c.store).map (fun _ => fail "assertion.undeclared" ing), true⟩ := by
  unfold verifyClaim
  simp only [Option.bind_eq_bind, Option.bind_eq_some_iff, assertionLoop_eq, headEvents, exists_and_left]
  refine exists_congr fun keys => and_congr_right fun _ => exists_congr fun refs =>
    and_congr_right fun _ => ?_
  cases track refs c.store with
  | nil => cases actionsFor c map ing <;> simp [eq_comm]
  | cons t ts => simp [eq_comm]

theorem verifyClaim_log (c : Claim) (reds : List Str) (map : List Claim) (ing : Bool) (o : Out)
    (h : verifyClaim c reds map ing = some o) :
    ∃ keys refs tail, parseRedactions reds = some keys ∧ parseRefs c.assertions = some refs ∧
      o.log = headEvents c ing ++ refs.flatMap (refEvents c keys ing) ++ tail := by
  obtain ⟨keys, refs, hk, hr, h⟩ := (verifyClaim_iff c reds map ing o).1 h
  split at h
  · obtain ⟨av, _, rfl⟩ := h
    exact ⟨keys, refs, av, hk, hr, rfl⟩
  · exact ⟨keys, refs, _, hk, hr, congrArg Out.log h⟩

theorem head_sub_log (c : Claim) (reds : List Str) (map : List Claim) (ing : Bool) (o : Out)
    (h : verifyClaim c reds map ing = some o) : ∀ e ∈ headEvents c ing, e ∈ o.log := by
  obtain ⟨_, _, _, _, _, hlog⟩ := verifyClaim_log c reds map ing o h
  exact fun e he => hlog ▸ List.mem_append_left _ (List.mem_append_left _ he)

theorem refEvents_sub_log (c : Claim) (reds : List Str) (map : List Claim) (ing : Bool)
    (o : Out) (h : verifyClaim c reds map ing = some o) (keys : List RedKey) (refs : List Ref)
    (hk : parseRedactions reds = some keys) (hrefs : parseRefs c.assertions = some refs)
    (r : Ref) (hr : r ∈ refs) : ∀ e ∈ refEvents c keys ing r, e ∈ o.log := by
  obtain ⟨keys', refs', _, hk', hr', hlog⟩ := verifyClaim_log c reds map ing o h
  obtain rfl := Option.some.inj (hk ▸ hk')
  obtain rfl := Option.some.inj (hrefs ▸ hr')
  exact fun e he => hlog ▸ List.mem_append_left _ (List.mem_append_right _ (List.mem_flatMap.2 ⟨r, hr, he⟩))

theorem erasePos_spec (target : Str) :
    ∀ (l : List CA) (o : Option (List CA)), erasePos target l = some o →
      match o with
      | some l' => ∃ pre a post, l = pre ++ a :: post ∧ l' = pre ++ post ∧
          labelWithInstance a.label a.inst = some target ∧
          ∀ b ∈ pre, labelWithInstance b.label b.inst ≠ some target
      | none => ∀ a ∈ l, labelWithInstance a.label a.inst ≠ some target := by
  intro l
  induction l with
  | nil =>
    intro o h
    cases h
    intro a ha; cases ha
  | cons a as ih =>
    intro o h
    unfold erasePos at h
    obtain ⟨k, hk, h⟩ := Option.bind_eq_some_iff.1 h
    by_cases he : k = target
    · simp only [he, beq_self_eq_true, if_true] at h
      cases h
      exact ⟨[], a, as, rfl, rfl, by rw [hk, he], by intro b hb; cases hb⟩
    · have hne : labelWithInstance a.label a.inst ≠ some target := by
        rw [hk]; exact fun hc => he (Option.some.inj hc)
      rw [if_neg (by simpa using he)] at h
      obtain ⟨o', hr, h⟩ := Option.bind_eq_some_iff.1 h
      have hrest := ih o' hr
      cases o' with
      | some r =>
        cases h
        obtain ⟨pre, x, post, h1, h2, h3, h4⟩ := hrest
        exact ⟨a :: pre, x, post, by rw [h1]; rfl, by rw [h2]; rfl, h3,
          List.forall_mem_cons.2 ⟨hne, h4⟩⟩
      | none =>
        cases h
        exact List.forall_mem_cons.2 ⟨hne, hrest⟩

theorem erasePos_none (target : Str) :
    ∀ (l : List CA), erasePos target l = some none →
      ∀ a ∈ l, labelWithInstance a.label a.inst ≠ some target :=
  fun l h => erasePos_spec target l none h

/-- the data-box twin of `erasePos_spec`, for a hit only: `redactDatabox` answers `notFound` on a
miss and no theorem speaks of that answer -/
theorem eraseBox_some (target : Str) :
    ∀ (l l' : List (Str × Str)), eraseBox target l = some (some l') →
      ∃ pre b post, l = pre ++ b :: post ∧ l' = pre ++ post ∧
        toNormalizedUri b.1 = some target ∧
        ∀ x ∈ pre, toNormalizedUri x.1 ≠ some target := by
  intro l
  induction l with
  | nil => intro l' h; cases h
  | cons a as ih =>
    intro l' h
    unfold eraseBox at h
    obtain ⟨k, hk, h⟩ := Option.bind_eq_some_iff.1 h
    by_cases he : k = target
    · simp only [he, beq_self_eq_true, if_true] at h
      cases h
      exact ⟨[], a, as, rfl, rfl, by rw [hk, he], by intro b hb; cases hb⟩
    · rw [if_neg (by simpa using he)] at h
      obtain ⟨o', hr, h⟩ := Option.bind_eq_some_iff.1 h
      cases o' with
      | none => cases h
      | some r =>
        cases h
        obtain ⟨pre, x, post, h1, h2, h3, h4⟩ := ih r hr
        refine ⟨a :: pre, x, post, by rw [h1]; rfl, by rw [h2]; rfl, h3, List.forall_mem_cons.2 ⟨?_, h4⟩⟩
        rw [hk]; exact fun hc => he (Option.some.inj hc)

theorem guard_ok {α ε : Type} {b : Bool} {e : ε} {t : P (Except ε α)} {a : α}
    (h : (if b = true then pure (.error e) else t) = some (.ok a)) :
    b = false ∧ t = some (.ok a) := by
  cases b
  · exact ⟨rfl, h⟩
  · simp at h

theorem redactAssertion_ok (c c' : Claim) (uri : Str) (h : redactAssertion c uri = some (.ok c')) :
    ∃ l i, assertionLabelFromLink uri = some (l, i) ∧
      cActions.isPrefixOf l = false ∧ cHashPrefix.isPrefixOf l = false ∧
      if containsSub cAssertions uri = true then
        ∃ target st, labelWithInstance l i = some target ∧
          erasePos target c.store = some (some st) ∧ c' = { c with store := st }
      else containsSub cDataboxes uri = true ∧ redactDatabox c uri = some (.ok c') := by
  unfold redactAssertion at h
  obtain ⟨⟨l, i⟩, hl, h⟩ := Option.bind_eq_some_iff.1 h
  obtain ⟨hp, h⟩ := guard_ok h
  obtain ⟨hp1, hp2⟩ := Bool.or_eq_false_iff.1 hp
  refine ⟨l, i, hl, hp1, hp2, ?_⟩
  obtain ⟨m, _, h⟩ := Option.bind_eq_some_iff.1 h
  obtain ⟨_, h⟩ := guard_ok h
  split at h
  next hs =>
    rw [if_pos hs]
    obtain ⟨target, ht, h⟩ := Option.bind_eq_some_iff.1 h
    obtain ⟨o, he, h⟩ := Option.bind_eq_some_iff.1 h
    cases o with
    | none => cases h
    | some st => cases h; exact ⟨target, st, ht, he, rfl⟩
  next hs =>
    rw [if_neg hs]
    split at h
    next hd => exact ⟨hd, h⟩
    · cases h

/-- `ValidationStatus` of a logged item; `uriOf` gives the ingredient URI of an ingredient-scoped
item -/
def toStatus (uriOf : Ev → List Char) (e : Ev) : C04.Status :=
  { code := e.code,
    kind := match e.kind with
      | .success => .success | .info => .informational | .failure => .failure,
    uri := if e.ing then some (uriOf e) else none }

/-- `ValidationResults::from_store` with the "already recorded in an ingredient assertion" filter
left abstract (`keep`, a predicate on events): the statuses that survive it, added in log order to `r0` -/
def report (keep : Ev → Bool) (uriOf : Ev → List Char) (r0 : C04.Results) (log : List Ev) : C04.Results :=
  ((log.filter keep).map (toStatus uriOf)).foldl C04.addStatus r0

theorem report_invalid (keep : Ev → Bool) (uriOf : Ev → List Char) (r0 : C04.Results)
    (log : List Ev) (e : Ev) (he : e ∈ log) (hk : keep e = true) (hf : e.isFailure = true)
    (ht : C04.tolerated e.code = false) :
    C04.state (report keep uriOf r0 log) = .invalid := by
  unfold report
  refine C04.nontolerated_failure_in_sequence_invalid r0 _ (toStatus uriOf e) ?_ ?_ ht
  · exact List.mem_map.2 ⟨e, List.mem_filter.2 ⟨he, hk⟩, rfl⟩
  · have : e.kind = .failure := by
      unfold Ev.isFailure at hf; simpa using hf
    simp [toStatus, this]

end C2pa.C20
