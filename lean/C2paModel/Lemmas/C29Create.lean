import C2paModel.Lemmas.C29Walk
import C2paModel.Lemmas.C29Parent
/-! C29 — write side, core. `create_dir_all` changes the tree only by `mkdir` on ancestors of its
argument, and an ancestor is the segments cut short. Once the nearest ancestor `X` of the target
that resolves is known to resolve to `P`, and the next name is not there: `mkdir` at or above `X`
creates nothing, `mkdir` below it creates a directory below `P`; so `create_dir_all` + `write` only
touch locations below `P`. -/
namespace C2pa.C29

theorem look_set (fs : FS) (p q : PPath) (k : Kind) :
    (fs.set p k).look q = if q = p then some k else fs.look q := by
  unfold FS.set FS.look
  rw [List.lookup_cons]
  by_cases h : q = p
  · rw [if_pos h, beq_iff_eq.2 h]
  · rw [if_neg h, beq_eq_false_iff_ne.2 h]

theorem mkdir_ok {fs : FS} {env : Env} {a : Segs} {fs' : FS} (h : mkdir fs env a = .ok fs') :
    ∃ d n tr g, walkP fs env false a = .absent d n tr g ∧ fs' = fs.set (d ++ [n]) .dir := by
  revert h
  fun_cases mkdir fs env a
  case case1 d n tr g hw => intro h; cases h; exact ⟨d, n, tr, g, hw, rfl⟩
  all_goals exact nofun

/-- what `create_dir_all` asks of an invariant `I` -/
def Keeps (env : Env) (I : FS → Prop) (l : List Segs) : Prop :=
  ∀ a ∈ l, ∀ fs fs', I fs → mkdir fs env a = .ok fs' → I fs'

theorem cdaPhase2_keeps {env : Env} {I : FS → Prop} : ∀ (ds : List Segs) (fs : FS),
    Keeps env I ds → I fs → I (cdaPhase2 env fs ds).2 := by
  intro ds fs
  fun_induction cdaPhase2 env fs ds
  case case1 => exact fun _ h => h
  case case2 fs d ds fs' hm ih =>
    exact fun hk h => ih (fun a ha => hk a (by simp [ha])) (hk d (by simp) fs fs' h hm)
  case case3 ih => exact fun hk h => ih (fun a ha => hk a (by simp [ha])) h
  case case4 => exact fun _ h => h

theorem cdaPhase1_keeps {env : Env} {I : FS → Prop} : ∀ (l unc : List Segs) (fs : FS),
    Keeps env I (l ++ unc) → I fs → I (cdaPhase1 env fs l unc).2 := by
  intro l unc fs
  fun_induction cdaPhase1 env fs l unc
  case case1 => exact cdaPhase2_keeps _ _
  case case2 => exact fun hk => cdaPhase2_keeps _ _ fun a ha => hk a (by simp [ha])
  case case3 fs a rest unc _ fs' hm =>
    exact fun hk h => cdaPhase2_keeps _ _ (fun a ha => hk a (by simp [ha])) (hk a (by simp) fs fs' h hm)
  case case4 ih => exact fun hk => ih fun a ha => hk a (by simpa [or_left_comm] using ha)
  case case5 => exact fun hk => cdaPhase2_keeps _ _ fun a ha => hk a (by simp [ha])
  case case6 => exact fun _ h => h

theorem createDirAll_keeps {env : Env} {I : FS → Prop} {p : Segs} {fs : FS}
    (hk : Keeps env I (ancestors p)) (h : I fs) : I (createDirAll fs env p).2 := by
  unfold createDirAll
  split
  · exact h
  · exact cdaPhase1_keeps _ [] fs (by rwa [List.append_nil]) h

theorem mkdir_fails_of_resolves {fs : FS} {env : Env} {a Z : Segs} {p : PPath} {k : Kind} {g : Nat}
    (ha : a ≠ []) (h : walkS fs env true (a ++ Z) = .found p k g) (fs' : FS) :
    mkdir fs env a ≠ .ok fs' := by
  intro hm
  obtain ⟨d, n, tr, g', hw, _⟩ := mkdir_ok hm
  by_cases he : emptyPath a = true
  · rw [walkP, if_pos he] at hw; cases hw
  · rw [walkP_eq_walkS _ _ _ (Bool.eq_false_iff.2 he)] at hw
    rw [walkS, frontStart_append env ha] at h
    obtain ⟨q, k', g'', h1⟩ := walk_nofollow_front_found h
    cases hw.symm.trans h1

theorem mkdir_fails_of_skips {fs : FS} {env : Env} {a : Segs} (h : ∀ s ∈ a, isSkip s = true) (fs' : FS) :
    mkdir fs env a ≠ .ok fs' := by
  intro hm
  obtain ⟨d, n, tr, g', hw, _⟩ := mkdir_ok hm
  rw [walkP] at hw
  split at hw
  · cases hw
  · rw [walk_skips _ _ _ _ _ h] at hw
    split at hw <;> cases hw

theorem prefix_append_cases {a X r : Segs} (h : a <+: X ++ r) :
    (∃ Z, X = a ++ Z) ∨ ∃ r', r' ≠ [] ∧ r' <+: r ∧ a = X ++ r' := by
  rcases List.prefix_or_prefix_of_prefix h (List.prefix_append X r) with ⟨Z, hZ⟩ | ⟨r', rfl⟩
  · exact .inl ⟨Z, hZ.symm⟩
  · by_cases hr : r' = []
    · exact .inl ⟨[], by simp [hr]⟩
    · exact .inr ⟨r', hr, (List.prefix_append_right_inj X).1 h, rfl⟩

/-! ### the tree below the first missing location -/

/-- every node has a directory as its parent -/
def FS.WF (fs : FS) : Prop := ∀ p n, fs.look (p ++ [n]) ≠ none → fs.look p = some .dir

theorem absent_below {fs : FS} (hwf : fs.WF) :
    ∀ (q E : PPath), fs.look E = none → fs.look (E ++ q) = none
  | [], E, hE => by rwa [List.append_nil]
  | a :: q, E, hE => by
    rw [List.append_cons]
    refine absent_below hwf q (E ++ [a]) ?_
    cases h : fs.look (E ++ [a]) with
    | none => rfl
    | some k => exact absurd (hwf E a (by rw [h]; nofun)) (by rw [hE]; nofun)

/-- `fs'` is `fs` plus directories at or below `E`, at locations where `fs` holds nothing -/
def Grown (fs : FS) (E : PPath) (fs' : FS) : Prop :=
  ∀ p, fs'.look p = fs.look p ∨ E <+: p ∧ fs.look p = none ∧ fs'.look p = some .dir

theorem Grown.le {fs fs' : FS} {E : PPath} (h : Grown fs E fs') : fs.le fs' :=
  fun p _ hp => (h p).elim (·.trans hp) fun h' => nomatch h'.2.1.symm.trans hp

theorem Grown.mkdir {fs fs' : FS} {E q : PPath} (h : Grown fs E fs') (hq : E <+: q)
    (hn : fs'.look q = none) : Grown fs E (fs'.set q .dir) := by
  intro p
  rw [look_set]
  by_cases hp : p = q
  · rw [if_pos hp]
    exact .inr ⟨hp ▸ hq, (h p).elim (fun e => e ▸ hp ▸ hn) (·.2.1), rfl⟩
  · rw [if_neg hp]; exact h p

/-- What a walk of plain names can answer in a tree grown below `E`: a directory, or that its last name is
missing at or below `E`; never a file or a link. -/
def Res.DirOrMissingBelow (fs : FS) (E : PPath) : Res → Prop
  | .found _ k _ => k = .dir
  | .absent d n tr _ => tr = false ∧ E <+: d ++ [n] ∧ fs.look (d ++ [n]) = none
  | .err _ => True

/-- Walking plain names in a tree grown below the missing location `E`, when the next step leads to
`E` or below it: below a missing location a well-formed tree holds nothing. -/
theorem walk_grown {fs fs' : FS} {E : PPath} (hwf : fs.WF) (hE : fs.look E = none)
    (hg : Grown fs E fs') (fl : Bool) :
    ∀ (names : List Str) (f : Nat) (cur : PPath), (∀ n ∈ names, NormalName n) →
      (∀ n, names.head? = some n → E <+: cur ++ [n]) →
      (walk fs' fl f cur names).DirOrMissingBelow fs' E := by
  intro names
  induction names with
  | nil => intro f cur _ _; rw [walk_nil]; exact rfl
  | cons s rest ih =>
    intro f cur hN hE'
    cases f with
    | zero => trivial
    | succ f =>
      obtain ⟨hs, hrest⟩ := List.forall_mem_cons.1 hN
      obtain ⟨q, hq⟩ := hE' s rfl
      rcases hg (cur ++ [s]) with hl | ⟨_, _, hl⟩
      · replace hl := hl.trans (hq ▸ absent_below hwf q E hE)
        rw [walk_none (not_skip_of_normal hs) hs.2.2.1 hl]
        cases rest with
        | nil => exact ⟨rfl, ⟨q, hq⟩, hl⟩
        | cons r rs =>
          rw [if_neg (by simp [(hrest r (by simp)).1])]
          trivial
      · rw [walk_dir (not_skip_of_normal hs) hs.2.2.1 hl]
        exact ih f (cur ++ [s]) hrest fun n _ =>
          hq ▸ (List.prefix_append E q).trans (List.prefix_append _ [n])

/-- The situation after `resolve_within_root_for_write` succeeded: where the nearest ancestor that
resolves really is. What the loop saw of the next name is kept as it saw it, on paths (`hun`);
`look_E_none` says what that means for the tree. -/
structure Setting where
  fs : FS
  env : Env
  /-- the segments of the nearest ancestor of the target that resolves -/
  X : Segs
  /-- the names below it, down to the target -/
  rem : List Str
  P : PPath
  kP : Kind
  g : Nat
  hwf : fs.WF
  hX0 : X ≠ []
  hne : emptyPath (X ++ rem) = false
  hrem : ∀ n ∈ rem, NormalName n
  hX : walkS fs env true X = .found P kP g
  /-- the first name below `X` does not resolve and is not a symbolic link -/
  hun : ∀ r1, rem.head? = some r1 →
    canon fs env (X ++ [r1]) = none ∧ isSymlinkP fs env (X ++ [r1]) = false

namespace Setting
variable (S : Setting)

/-- The location of the first name below `P` (`P` itself when the target resolves). Where a walk
can go on below `P`, nothing is there yet (`look_E_none`). -/
def E : PPath := S.P ++ S.rem.take 1

abbrev Inv : FS → Prop := Grown S.fs S.E

/-- `hk`, `hg`: if `X` resolves to something other than a directory, or with no fuel left, the two
walks of `hun` fail whatever the tree holds at `E`; then every walk below `X` fails too
(`walk_fresh`), and nothing about `E` is needed. -/
theorem look_E_none {r1 : Str} {rs : List Str} (hr : S.rem = r1 :: rs) {g' : Nat}
    (hk : S.kP = .dir) (hg : S.g = g' + 1) : S.fs.look S.E = none := by
  obtain ⟨h1, h2⟩ := S.hun r1 (hr ▸ rfl)
  have hN : NormalName r1 := S.hrem r1 (hr ▸ List.mem_cons_self)
  have hs := not_skip_of_normal hN
  have hw : ∀ fl, walkP S.fs S.env fl (S.X ++ [r1]) = walk S.fs fl (g' + 1) S.P [r1] :=
    fun fl => by rw [walkP_below _ _ _ S.hX0 (by simp), S.hX, hk, hg]; rfl
  unfold canon at h1
  unfold isSymlinkP at h2
  rw [hw] at h1 h2
  show S.fs.look (S.P ++ S.rem.take 1) = none
  rw [hr, List.take_succ_cons, List.take_zero]
  -- whatever the tree held at `P/r1`, one of the two walks would have found it
  cases hl : S.fs.look (S.P ++ [r1]) with
  | none => rfl
  | some k =>
    cases k with
    | dir => rw [walk_dir hs hN.2.2.1 hl, walk_nil] at h1; cases h1
    | file c => rw [walk_file hs hN.2.2.1 hl, if_pos rfl] at h1; cases h1
    | link t => rw [walk_link hs hN.2.2.1 hl, if_pos ⟨rfl, rfl⟩] at h2; cases h2

theorem walk_fresh (fs' : FS) (hinv : S.Inv fs') (fl : Bool) (r' : List Str) (hne : r' ≠ [])
    (hpre : r' <+: S.rem) : (walkP fs' S.env fl (S.X ++ r')).DirOrMissingBelow fs' S.E := by
  rw [walkP_below _ _ _ S.hX0 hne, walkS, walk_mono hinv.le S.hX]
  obtain ⟨r1, rs, rfl⟩ := List.exists_cons_of_ne_nil hne
  obtain ⟨t, ht⟩ := hpre
  cases hk : S.kP with
  | file c => trivial
  | link t => trivial
  | dir =>
    cases hg : S.g with
    | zero => trivial
    | succ g' =>
      exact walk_grown S.hwf (S.look_E_none ht.symm hk hg) hinv fl (r1 :: rs) (g' + 1) S.P
        (fun n hn => S.hrem n (ht ▸ List.mem_append_left t hn))
        (fun n hn => by cases hn; rw [E, ← ht]; exact List.prefix_refl _)

theorem mkdir_keeps : Keeps S.env S.Inv (ancestors ((parentSegs (S.X ++ S.rem)).getD [[]])) := by
  intro a ha fs' fs'' hinv h
  have hab : Above a (S.X ++ S.rem) := by
    refine (mem_ancF _ _ a ha).trans ?_
    cases hp : parentSegs (S.X ++ S.rem) with
    | none => exact .inr (by simp [isSkip])
    | some q => exact parentSegs_above hp
  rcases hab with ⟨hne, hpre⟩ | hsk
  · rcases prefix_append_cases hpre with ⟨Z, hZ⟩ | ⟨r', hne', hpre', rfl⟩
    · -- at or above `X`: it resolves, in the grown tree too
      exact absurd h (mkdir_fails_of_resolves hne (walk_mono hinv.le (hZ ▸ S.hX)) fs'')
    · -- strictly below `X`: what is missing is missing below `E`
      obtain ⟨d, n, tr, g, hwp, rfl⟩ := mkdir_ok h
      have hw := S.walk_fresh fs' hinv false r' hne' hpre'
      rw [hwp] at hw
      exact hinv.mkdir hw.2.1 hw.2.2
  · exact absurd h (mkdir_fails_of_skips hsk fs'')

theorem changed_below_P_of_inv (fs' : FS) (hinv : S.Inv fs') : ∀ p, fs'.look p ≠ S.fs.look p → S.P <+: p := by
  intro p hp
  exact (List.prefix_append S.P _).trans ((hinv p).resolve_left hp).1

theorem changed_below_P_set {fs' : FS} (hinv : S.Inv fs') {q : PPath} (hq : S.P <+: q) (k : Kind) :
    ∀ p, (fs'.set q k).look p ≠ S.fs.look p → S.P <+: p := by
  intro p hp
  rw [look_set] at hp
  by_cases h : p = q
  · exact h ▸ hq
  · rw [if_neg h] at hp; exact S.changed_below_P_of_inv fs' hinv p hp

theorem writeFile_confined (fs' : FS) (hinv : S.Inv fs') (data : Str) (fs'' : FS)
    (h : writeFile fs' S.env (S.X ++ S.rem) data = .ok fs'') :
    ∀ p, fs''.look p ≠ S.fs.look p → S.P <+: p := by
  unfold writeFile at h
  by_cases hrem : S.rem = []
  · -- the target itself exists
    have hw : walkP fs' S.env true (S.X ++ S.rem) = .found S.P S.kP S.g := by
      rw [walkP_eq_walkS _ _ _ S.hne, hrem, List.append_nil]
      exact walk_mono hinv.le S.hX
    rw [hw] at h
    cases hk : S.kP with
    | dir => rw [hk] at h; cases h
    | link t => rw [hk] at h; cases h
    | file c =>
      rw [hk] at h
      cases h
      exact S.changed_below_P_set hinv (List.prefix_refl _) _
  · have hw := S.walk_fresh fs' hinv true S.rem hrem (List.prefix_refl _)
    revert h hw
    cases walkP fs' S.env true (S.X ++ S.rem) with
    | err e => intro h; cases h
    | found p k g =>
      intro h hw
      cases (hw : k = .dir)
      cases h
    | absent d n tr g =>
      intro h hw
      obtain ⟨htr, hE, _⟩ := hw
      subst htr
      cases h
      exact S.changed_below_P_set hinv ((List.prefix_append S.P _).trans hE) _

theorem createAndWrite_confined (data : Str) :
    ∀ p, (createAndWrite S.fs S.env (S.X ++ S.rem) data).2.look p ≠ S.fs.look p → S.P <+: p := by
  have hcda := createDirAll_keeps S.mkdir_keeps fun _ => .inl rfl
  unfold createAndWrite
  revert hcda
  cases createDirAll S.fs S.env ((parentSegs (S.X ++ S.rem)).getD [[]]) with
  | mk r fs1 =>
    intro hcda
    cases r with
    | error e => exact S.changed_below_P_of_inv fs1 hcda
    | ok u =>
      dsimp only
      cases hw : writeFile fs1 S.env (S.X ++ S.rem) data with
      | error e => exact S.changed_below_P_of_inv fs1 hcda
      | ok fs2 => exact S.writeFile_confined fs1 hcda data fs2 hw

end Setting
end C2pa.C29
