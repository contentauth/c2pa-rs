import C2paModel.Lemmas.C18Post
/-
C18 — the reader is total: with the fuel `parse` supplies it never runs out of fuel and never
reaches an unchecked overflow, every accepted tree is `Valid`, nests at most 32 deep, and (when
quirk-free) is written with at most 9/8 of the bytes that were consumed to read it.

Fuel argument: one unit of fuel is spent per loop iteration / recursive super box, and each of
them consumes at least 8 bytes (a header) before the next unit is spent; `superBox f` has enough when
fewer than `8 f` bytes remain (`SuperFuelEnough`), `loop f` when fewer than `8 f - 8` remain (`LoopFuelEnough`).
-/
namespace C2pa.C18

/-- what `superBox` returns: a child that is a super box -/
def SuperPost (d : Bytes) (depth pos : Nat) (r : Box × Nat) : Prop :=
  r.1.isSuper ∧ ChildPost d depth pos r.1 r.2

/-- the children that the loop of a super box standing at `depth` reads from `pos` on (they stand at
`depth + 1`, hence the `+ 1`) -/
structure LoopPost (d : Bytes) (depth pos : Nat) (cs : List Box) (p : Nat) : Prop where
  valid : ValidList cs
  height : heightList cs + depth + 1 ≤ 32
  adv : pos ≤ p
  le : p ≤ d.length
  size : QuirkFreeList cs → 8 * sizeList cs + 9 * pos ≤ 9 * p

/-- a super box: two headers and the description box, consumed in full, then the children -/
theorem ChildPost.super {d : Bytes} {depth pos p3 p4 : Nat} {desc : Desc} {cs : List Box} (hv : desc.Valid)
    (h : pos + 16 + (descPayload desc).length ≤ p3) (hr : LoopPost d depth p3 cs p4) :
    ChildPost d depth pos (.super desc cs) p4 := by
  have := hr.height
  have := hr.adv
  refine ⟨⟨hv, hr.valid⟩, by simp only [Box.height]; omega, by omega, hr.le, ?_⟩
  rintro ⟨_, hq⟩
  have := hr.size hq
  simp only [Box.size]
  omega

theorem LoopPost.nil {d : Bytes} {depth pos p : Nat} (hd : depth < 32) (h1 : pos ≤ p) (h2 : p ≤ d.length) :
    LoopPost d depth pos [] p :=
  ⟨trivial, by simp only [heightList]; omega, h1, h2, fun _ => by simp only [sizeList]; omega⟩

theorem LoopPost.cons {d : Bytes} {depth pos p3 p4 : Nat} {b : Box} {cs : List Box}
    (hb : ChildPost d (depth + 1) pos b p3) (hr : LoopPost d depth p3 cs p4) :
    LoopPost d depth pos (b :: cs) p4 := by
  have := hb.height
  have := hb.adv
  have := hr.height
  have := hr.adv
  refine ⟨⟨hb.valid, hr.valid⟩, by simp only [heightList]; omega, by omega, hr.le, ?_⟩
  rintro ⟨q1, q2⟩
  have := hb.size q1
  have := hr.size q2
  simp only [sizeList]
  omega

/-- bytes skipped before the children (an unknown box) only help -/
theorem LoopPost.skip {d : Bytes} {depth pos q p : Nat} {cs : List Box} (h : pos ≤ q)
    (hr : LoopPost d depth q cs p) : LoopPost d depth pos cs p :=
  ⟨hr.valid, hr.height, Nat.le_trans h hr.adv, hr.le, fun hq => by have := hr.size hq; omega⟩

/-- the position test behind a child never panics (nothing more is needed of it) -/
theorem afterChild_post (dest p : Nat) : (afterChild dest p).Post (fun _ => True) := by
  unfold afterChild
  exact .ite (fun _ => trivial) fun _ => .guard fun _ => trivial

/-- a child read by `x`, added, and the loop going on behind it: what every branch of the loop that
yields a child does -/
theorem thenAdd_post {α : Type} {d : Bytes} {depth dest pos : Nat} {x : Res (α × Nat)} {mk : α × Nat → Box}
    {rest : Nat → Res (List Box × Nat)} (hd : depth < 32)
    (hx : x.Post fun r => ChildPost d (depth + 1) pos (mk r) r.2)
    (hrest : ∀ p3, pos + 8 ≤ p3 → p3 ≤ d.length → (rest p3).Post fun r => LoopPost d depth p3 r.1 r.2) :
    (x >>= fun r => addChild dest (mk r) r.2 fun _ => rest r.2).Post fun r => LoopPost d depth pos r.1 r.2 := by
  refine Res.Post.bind hx fun r hb => ?_
  unfold addChild
  refine Res.Post.bind (afterChild_post dest r.2) fun more _ => .ite (fun _ => ?_) fun _ =>
    .cons hb (.nil hd (Nat.le_refl _) hb.le)
  exact Res.Post.bind (hrest r.2 hb.adv hb.le) fun r hr => .cons hb hr

def SuperFuelEnough (d : Bytes) (f : Nat) : Prop :=
  ∀ depth pos, pos ≤ d.length → d.length < pos + 8 * f → (superBox f d depth pos).Post (SuperPost d depth pos)

def LoopFuelEnough (d : Bytes) (f : Nat) : Prop :=
  ∀ depth dest pos, depth < 32 → pos ≤ d.length → d.length + 8 < pos + 8 * f →
    (loop f d depth dest pos).Post fun r => LoopPost d depth pos r.1 r.2

theorem superBox_fuelEnough_step {d : Bytes} {f : Nat} (ihL : LoopFuelEnough d f) : SuperFuelEnough d (f + 1) := by
  intro depth pos hp hf
  unfold superBox
  refine .guard fun hdepth => ?_
  simp only [MAX_JUMB_DEPTH, ge_iff_le, Nat.not_le] at hdepth
  refine Res.Post.bind ((readHeader_post d pos hp).mapErr _) ?_
  rintro ⟨jh, p1⟩ ⟨h1l, h1c⟩
  dsimp only at h1l h1c ⊢
  refine .guard fun hn0 => .guard fun _ => .guard fun _ => ?_
  have hp1 : pos + 8 ≤ p1 := by omega
  clear h1c
  refine Res.Post.bind ((readHeader_post d p1 h1l).mapErr _) ?_
  rintro ⟨dh, p2⟩ ⟨h2l, h2c⟩
  dsimp only at h2l h2c ⊢
  refine .guard fun hjumd => ?_
  have hp2 : p1 + 8 ≤ p2 := by
    have : ¬ dh.name = 0 := fun h0 => hjumd (by rw [h0]; decide)
    omega
  clear h2c
  refine Res.Post.bind ((readDesc_post d p2 dh.size h2l).mapErr _) ?_
  rintro ⟨desc, p3⟩ ⟨hv0, h3l, h3s⟩
  refine .guard fun hlabel => Res.Post.bind (ihL depth _ p3 hdepth h3l (by omega)) ?_
  rintro ⟨cs, p4⟩ hr
  exact ⟨trivial, .super ⟨hv0, by simpa using hlabel⟩ (by omega) hr⟩

theorem loop_fuelEnough_step {d : Bytes} {f : Nat} (ihS : SuperFuelEnough d f) (ihL : LoopFuelEnough d f) :
    LoopFuelEnough d (f + 1) := by
  intro depth dest pos hdepth hp hf
  unfold loop
  refine Res.Post.bind_eq ((readHeader_post d pos hp).mapErr _) ?_
  rintro ⟨bh, p1⟩ heq ⟨h1l, h1c⟩
  dsimp only at h1l h1c ⊢
  refine .ite (fun _ => .guard fun _ => ?_) fun hn0 => ?_
  · exact .nil hdepth (by omega) h1l
  have hre := reread_loop d pos bh p1 hp (mapErr_eq_ok heq) hn0
  have hp1 : pos + 8 ≤ p1 := by omega
  clear h1c
  rw [unread_ok p1 (by omega)]
  simp only [bind_ok]
  have next : ∀ p3, pos + 8 ≤ p3 → p3 ≤ d.length →
      (loop f d depth dest p3).Post fun r => LoopPost d depth p3 r.1 r.2 :=
    fun p3 h3 h3l => ihL depth dest p3 hdepth h3l (by omega)
  refine .ite (fun _ => ?_) fun _ => .ite (fun _ => ?_) fun _ => .ite (fun _ => ?_) fun _ => ?_
  · exact thenAdd_post hdepth
      ((ihS (depth + 1) (p1 - 8) (by omega) (by omega)).mono fun r hr => hr.2.skip (by omega)) next
  · exact thenAdd_post hdepth ((readUuid_post hdepth hre).mapErr _) next
  · exact thenAdd_post hdepth ((readBfdb_post hdepth hre).mapErr _) next
  · split
    · exact thenAdd_post hdepth ((readData_post _ hdepth hre).mapErr _) next
    · refine Res.Post.bind hre ?_
      rintro ⟨h, q1⟩ ⟨_, _, hr⟩
      refine .guard fun hs => Res.Post.bind (hr hs) fun q2 hq2 => .guard fun _ => ?_
      refine Res.Post.bind ((readToVec_post d q2 _).mapErr _) ?_
      rintro ⟨_, q3⟩ ⟨hq3, hq3l, _⟩
      exact (next q3 (by omega) hq3l).mono fun r => .skip (by omega)

theorem parse_post_main (d : Bytes) : ∀ f, SuperFuelEnough d f ∧ LoopFuelEnough d f
  | 0 => ⟨fun _ _ _ h => by omega, fun _ _ _ _ _ h => by omega⟩
  | f + 1 => ⟨superBox_fuelEnough_step (parse_post_main d f).2,
      loop_fuelEnough_step (parse_post_main d f).1 (parse_post_main d f).2⟩

/-- `parse` runs `superBox` with fuel `|x| + 2` at depth 0, position 0; `parse_wf`, `parse_size_bound` and
`parse_total_depth_bounded` of Props/C18 are read off this postcondition -/
theorem parse_post (x : Bytes) :
    (parse x).Post (fun r => r.1.Valid ∧ r.1.height ≤ 32 ∧ r.2 ≤ x.length ∧ r.1.isSuper ∧
      (r.1.QuirkFree → 8 * r.1.size ≤ 9 * r.2)) := by
  refine ((parse_post_main x (x.length + 2)).1 0 0 (Nat.zero_le _) (by omega)).mono ?_
  rintro ⟨b, e⟩ ⟨hsuper, hc⟩
  exact ⟨hc.valid, by have := hc.height; omega, hc.le, hsuper, hc.size⟩

end C2pa.C18
