import C2paModel.Model.C25
/-
C25 — association-list facts for `lookup`/`upsert`, well-formedness (unique keys, as in every
`serde_json::Map`), and the `mergeFields` loop characterised key by key.
-/
namespace C2pa.C25

def keys (kvs : Fields) : List String := kvs.map Prod.fst

@[simp] theorem keys_nil : keys [] = [] := rfl
@[simp] theorem keys_cons (k : String) (v : Json) (rest : Fields) :
    keys ((k, v) :: rest) = k :: keys rest := rfl

theorem keys_append (a b : Fields) : keys (a ++ b) = keys a ++ keys b :=
  List.map_append

theorem Json.induct {P : Json → Prop}
    (hnull : P .null) (hbool : ∀ b, P (.bool b)) (hnum : ∀ r, P (.num r)) (hstr : ∀ s, P (.str s))
    (harr : ∀ xs, (∀ x ∈ xs, P x) → P (.arr xs))
    (hobj : ∀ kvs : Fields, (∀ kv ∈ kvs, P kv.2) → P (.obj kvs)) : ∀ j, P j := by
  intro j
  refine Json.rec (motive_1 := P) (motive_2 := fun xs => ∀ x ∈ xs, P x)
    (motive_3 := fun kvs => ∀ kv ∈ kvs, P kv.2) (motive_4 := fun kv => P kv.2)
    hnull hbool hnum hstr harr hobj ?_ ?_ ?_ ?_ ?_ j
  · intro x hx; cases hx
  · intro h t ih1 ih2 x hx
    cases hx with
    | head => exact ih1
    | tail _ hm => exact ih2 x hm
  · intro kv hkv; cases hkv
  · intro h t ih1 ih2 kv hkv
    cases hkv with
    | head => exact ih1
    | tail _ hm => exact ih2 kv hm
  · intro k v ih; exact ih

/-! Well-formedness: unique keys at every object, hereditarily. -/

mutual
def WF : Json → Prop
  | .arr xs => WFList xs
  | .obj kvs => (keys kvs).Nodup ∧ WFFields kvs
  | _ => True
def WFList : List Json → Prop
  | [] => True
  | x :: xs => WF x ∧ WFList xs
def WFFields : Fields → Prop
  | [] => True
  | (_, v) :: rest => WF v ∧ WFFields rest
end

theorem WFFields_iff (kvs : Fields) : WFFields kvs ↔ ∀ kv ∈ kvs, WF kv.2 := by
  induction kvs with
  | nil => rw [WFFields]; exact iff_of_true trivial nofun
  | cons h t ih => rw [WFFields, ih, List.forall_mem_cons]

theorem WF_obj (kvs : Fields) : WF (.obj kvs) ↔ (keys kvs).Nodup ∧ ∀ kv ∈ kvs, WF kv.2 := by
  rw [WF, WFFields_iff]

theorem lookup_eq_none_iff (k : String) (kvs : Fields) : lookup k kvs = none ↔ k ∉ keys kvs := by
  induction kvs with
  | nil => simp [lookup]
  | cons h t ih =>
    obtain ⟨k', v⟩ := h
    by_cases hk : k' = k
    · simp [lookup, hk]
    · have : ¬ k = k' := fun e => hk e.symm
      simp [lookup, hk, ih, this]

theorem lookup_isSome_iff (k : String) (kvs : Fields) : (lookup k kvs).isSome ↔ k ∈ keys kvs := by
  rw [← Option.ne_none_iff_isSome, Ne, lookup_eq_none_iff, Classical.not_not]

theorem lookup_mem {k : String} {kvs : Fields} {v : Json} (h : lookup k kvs = some v) :
    (k, v) ∈ kvs := by
  induction kvs with
  | nil => simp [lookup] at h
  | cons hd t ih =>
    obtain ⟨k', v'⟩ := hd
    by_cases hk : k' = k
    · simp [lookup, hk] at h; subst hk; subst h; exact List.mem_cons_self
    · simp [lookup, hk] at h; exact List.mem_cons_of_mem _ (ih h)

theorem lookup_of_mem {k : String} {v : Json} {kvs : Fields} (hnd : (keys kvs).Nodup)
    (h : (k, v) ∈ kvs) : lookup k kvs = some v := by
  induction kvs with
  | nil => cases h
  | cons hd t ih =>
    obtain ⟨k', v'⟩ := hd
    simp only [keys_cons, List.nodup_cons] at hnd
    cases h with
    | head => simp [lookup]
    | tail _ hm =>
      have hne : k' ≠ k := fun e => hnd.1 (e ▸ List.mem_map_of_mem (f := Prod.fst) hm)
      simp [lookup, hne, ih hnd.2 hm]

theorem lookup_append (k : String) (a b : Fields) :
    lookup k (a ++ b) = match lookup k a with | some v => some v | none => lookup k b := by
  induction a with
  | nil => simp [lookup]
  | cons hd t ih =>
    obtain ⟨k0, v0⟩ := hd
    by_cases hk : k0 = k
    · simp [lookup, hk]
    · simp [lookup, hk, ih]

theorem fields_ext (a b : Fields) (hnd : (keys a).Nodup) (hk : keys a = keys b)
    (hl : ∀ k, lookup k a = lookup k b) : a = b := by
  induction a generalizing b with
  | nil =>
    cases b with
    | nil => rfl
    | cons hd t => simp [keys] at hk
  | cons hd t ih =>
    obtain ⟨k, v⟩ := hd
    cases b with
    | nil => simp [keys] at hk
    | cons hd' t' =>
      obtain ⟨k', v'⟩ := hd'
      simp only [keys_cons, List.cons.injEq] at hk
      obtain ⟨hkk, hkt⟩ := hk
      subst hkk
      simp only [keys_cons, List.nodup_cons] at hnd
      have hv : v = v' := by
        have := hl k
        simp [lookup] at this
        exact this
      subst hv
      congr 1
      apply ih _ hnd.2 hkt
      intro k0
      by_cases h0 : k = k0
      · subst h0
        rw [(lookup_eq_none_iff _ _).2 hnd.1, (lookup_eq_none_iff _ _).2 (hkt ▸ hnd.1)]
      · have := hl k0
        simpa [lookup, h0] using this

theorem WF_obj_lookup (kvs : Fields) :
    WF (.obj kvs) ↔ (keys kvs).Nodup ∧ ∀ k v, lookup k kvs = some v → WF v := by
  rw [WF_obj]
  exact and_congr_right fun hnd =>
    ⟨fun h _ _ hl => h _ (lookup_mem hl), fun h kv hkv => h kv.1 kv.2 (lookup_of_mem hnd hkv)⟩

theorem lookup_upsert_self (k : String) (v : Json) (kvs : Fields) :
    lookup k (upsert k v kvs) = some v := by
  induction kvs with
  | nil => simp [upsert, lookup]
  | cons h t ih =>
    obtain ⟨k', v'⟩ := h
    by_cases hk : k' = k
    · simp [upsert, lookup, hk]
    · simp [upsert, lookup, hk, ih]

theorem lookup_upsert_ne {k k' : String} (v : Json) (kvs : Fields) (hne : k' ≠ k) :
    lookup k' (upsert k v kvs) = lookup k' kvs := by
  induction kvs with
  | nil => simp [upsert, lookup, hne.symm]
  | cons h t ih =>
    obtain ⟨k'', v''⟩ := h
    by_cases hk : k'' = k
    · subst hk
      have : ¬ k'' = k' := fun e => hne e.symm
      simp [upsert, lookup, this]
    · by_cases hk' : k'' = k'
      · subst hk'
        simp [upsert, lookup, hk]
      · simp [upsert, lookup, hk, hk', ih]

theorem upsert_of_lookup {k : String} {v : Json} {kvs : Fields} (h : lookup k kvs = some v) :
    upsert k v kvs = kvs := by
  induction kvs with
  | nil => simp [lookup] at h
  | cons hd t ih =>
    obtain ⟨k', v'⟩ := hd
    by_cases hk : k' = k
    · simp [lookup, hk] at h; simp [upsert, hk, h]
    · simp [lookup, hk] at h; simp [upsert, hk, ih h]

/-- `Map::insert` keeps the key order: a present key stays in place, a new one goes to the end -/
theorem keys_upsert (k : String) (v : Json) (kvs : Fields) :
    keys (upsert k v kvs) = if k ∈ keys kvs then keys kvs else keys kvs ++ [k] := by
  induction kvs with
  | nil => rfl
  | cons hd t ih =>
    obtain ⟨k', v'⟩ := hd
    by_cases hk : k' = k
    · simp [upsert, hk]
    · have : ¬ k = k' := fun e => hk e.symm
      simp only [upsert, if_neg hk, keys_cons, ih, List.mem_cons, this, false_or]
      split <;> rfl

theorem mem_keys_upsert (k k' : String) (v : Json) (kvs : Fields) :
    k' ∈ keys (upsert k v kvs) ↔ k' ∈ keys kvs ∨ k' = k := by
  rw [keys_upsert]
  split
  · exact ⟨Or.inl, fun h => h.elim id (· ▸ ‹_›)⟩
  · simp

theorem nodup_keys_upsert (k : String) (v : Json) {kvs : Fields} (h : (keys kvs).Nodup) :
    (keys (upsert k v kvs)).Nodup := by
  rw [keys_upsert]
  split
  · exact h
  · rename_i hm
    exact List.nodup_append.2 ⟨h, by simp, by
      intro a ha b hb
      simp only [List.mem_singleton] at hb
      subst hb; intro e; subst e; exact hm ha⟩

theorem mergeDepth_null_left (o : Json) (d : Nat) : mergeDepth .null o d = o :=
  mergeDepth.eq_2 _ _ d nofun

theorem mergeDepth_obj_lt (tkvs okvs : Fields) (d : Nat) (hd : d < mergeMaxDepth) :
    mergeDepth (.obj tkvs) (.obj okvs) d = .obj (mergeFields tkvs okvs d) := by
  rw [mergeDepth.eq_1, if_pos hd]

theorem mergeDepth_obj_ge (tkvs okvs : Fields) (d : Nat) (hd : ¬ d < mergeMaxDepth) :
    mergeDepth (.obj tkvs) (.obj okvs) d = .obj okvs := by
  rw [mergeDepth.eq_1, if_neg hd]

/-- Value of key `k` after the loop: untouched when the overlay has no `k`, otherwise the
merge of the old value (or `Null`, as `entry(k).or_insert(Null)`) with the overlay's value. -/
theorem lookup_mergeFields (tkvs okvs : Fields) (d : Nat) (k : String)
    (hnd : (keys okvs).Nodup) :
    lookup k (mergeFields tkvs okvs d) =
      match lookup k okvs with
      | none => lookup k tkvs
      | some ov => some (mergeDepth ((lookup k tkvs).getD .null) ov (d + 1)) := by
  induction okvs generalizing tkvs with
  | nil => simp [mergeFields, lookup]
  | cons hd t ih =>
    obtain ⟨k0, ov0⟩ := hd
    simp only [keys_cons, List.nodup_cons] at hnd
    rw [mergeFields.eq_2, ih _ hnd.2]
    by_cases hk : k0 = k
    · subst hk
      have hn : lookup k0 t = none := (lookup_eq_none_iff _ _).2 hnd.1
      simp [lookup, hn, lookup_upsert_self]
    · have hne : k ≠ k0 := fun e => hk e.symm
      simp [lookup, hk, lookup_upsert_ne _ _ hne]

theorem mem_keys_mergeFields (tkvs okvs : Fields) (d : Nat) (k : String) :
    k ∈ keys (mergeFields tkvs okvs d) ↔ k ∈ keys tkvs ∨ k ∈ keys okvs := by
  induction okvs generalizing tkvs with
  | nil => simp [mergeFields]
  | cons hd t ih =>
    obtain ⟨k0, ov0⟩ := hd
    rw [mergeFields.eq_2, ih, mem_keys_upsert]
    simp only [keys_cons, List.mem_cons, or_assoc]

theorem nodup_keys_mergeFields (tkvs okvs : Fields) (d : Nat) (h : (keys tkvs).Nodup) :
    (keys (mergeFields tkvs okvs d)).Nodup := by
  induction okvs generalizing tkvs with
  | nil => simpa [mergeFields] using h
  | cons hd t ih =>
    obtain ⟨k0, ov0⟩ := hd
    rw [mergeFields.eq_2]
    exact ih _ (nodup_keys_upsert _ _ h)

theorem keys_mergeFields (tkvs okvs : Fields) (d : Nat) (hnd : (keys okvs).Nodup) :
    keys (mergeFields tkvs okvs d) = keys tkvs ++ (keys okvs).filter (fun k => decide (k ∉ keys tkvs)) := by
  induction okvs generalizing tkvs with
  | nil => simp [mergeFields]
  | cons hd t ih =>
    obtain ⟨k0, ov0⟩ := hd
    simp only [keys_cons, List.nodup_cons] at hnd
    rw [mergeFields.eq_2, ih _ hnd.2]
    by_cases hm : k0 ∈ keys tkvs
    · rw [keys_upsert, if_pos hm]
      simp [hm]
    · rw [keys_upsert, if_neg hm]
      simp only [keys_cons, List.filter_cons, hm, not_false_eq_true, decide_true, if_true,
        List.append_assoc, List.singleton_append]
      congr 2
      apply List.filter_congr
      intro x hx
      have hne : x ≠ k0 := fun e => hnd.1 (e ▸ hx)
      simp [hne]

theorem mergeFields_fix (r os : Fields) (d : Nat)
    (h : ∀ kv ∈ os, ∃ x, lookup kv.1 r = some x ∧ mergeDepth x kv.2 (d + 1) = x) :
    mergeFields r os d = r := by
  induction os with
  | nil => simp [mergeFields]
  | cons hd t ih =>
    obtain ⟨k0, ov0⟩ := hd
    obtain ⟨x, hx1, hx2⟩ := h (k0, ov0) List.mem_cons_self
    rw [mergeFields.eq_2, hx1]
    simp only [Option.getD_some, hx2, upsert_of_lookup hx1]
    exact ih (fun kv hkv => h kv (List.mem_cons_of_mem _ hkv))

end C2pa.C25
