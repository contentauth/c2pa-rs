import C2paModel.Model.C07
import C2paModel.Lemmas.C07A
/-
Layer-B lemmas for PNG: the wrapper is invertible and length-regular (so the layer-A
theorems apply to PNG stores), and which kind of segment a chunk name gives.
-/
namespace C2pa.C07.Png

open C2pa.C07

theorem be32_length (n : Nat) : (be32 n).length = 4 := rfl

theorem caBX_length : caBX.length = 4 := by decide

theorem sig_length : sig.length = 8 := rfl

theorem wrap_length (s : Bytes) : (wrap s).length = s.length + 12 := by
  simp [wrap, mkChunk, be32_length, caBX_length]; omega

/-! `fmt` is not reducible: stating a PNG fact through `fmt.wrap` and using it where `wrap` is
expected makes the unifier unfold `wrap`; rewrite with these equations instead. -/
theorem fmt_wrap : fmt.wrap = wrap := rfl
theorem fmt_unwrap : fmt.unwrap = unwrap := rfl
theorem fmt_pos : fmt.pos = pos := rfl

theorem pos_congr {c c' : List Seg} (h : strip c' = strip c) : fmt.pos c' = fmt.pos c := by
  rw [fmt_pos]; unfold pos; rw [h]

theorem wrap_shape (s : Bytes) :
    wrap s = (be32 s.length ++ caBX) ++ s ++ be32 (crc32 (caBX ++ s)) := by
  simp [wrap, mkChunk, List.append_assoc]

theorem unwrap_frame (h d t : Bytes) (hh : h.length = 8) (ht : t.length = 4) :
    unwrap (h ++ d ++ t) = some d := by
  unfold unwrap
  have hl : (h ++ d ++ t).length = d.length + 12 := by
    simp only [List.length_append, hh, ht]; omega
  rw [if_neg (by omega), show (h ++ d ++ t).length - 12 = d.length by omega, ← hh]
  exact congrArg some (slice_mid h d t)

/-- `unwrap ∘ wrap = id`: the hypothesis of `read_write` holds for PNG. -/
theorem unwrap_wrap (s : Bytes) : unwrap (wrap s) = some s := by
  rw [wrap_shape]
  exact unwrap_frame _ _ _ (by simp [be32_length, caBX_length]) (be32_length _)

theorem kindOf_manifest (n : Bytes) : (kindOf n == .manifest) = (n == caBX) := by
  unfold kindOf
  cases n == caBX
  · cases n == iTXt <;> rfl
  · rfl

theorem kindOf_ne_header (n : Bytes) : (kindOf n != .header) = true := by
  unfold kindOf
  cases n == caBX
  · cases n == iTXt <;> rfl
  · rfl

end C2pa.C07.Png
