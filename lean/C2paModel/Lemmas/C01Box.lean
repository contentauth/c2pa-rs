import C2paModel.Model.C01
import C2paModel.Props.C13
/-
C01 — what a successful `verifyBox` (model of `BoxHash::verify_stream_hash`) guarantees.

The name loops are independent of the data: `spansOf` computes, entry by entry, the span
`(start, len)` that is hashed and whether the entry is the C2PA entry. A successful verification
means (`verifyBox_ok`): the spans exist, every source box was consumed, the boxes cover the asset
(unless the map is nothing but the C2PA box), and for every entry that is not skipped the bytes of
its span are the signed preimage.

The box-hash statements that need nothing else stand at the end of the file; `boxhash_binds` and
`tamper_detected_box` are in Props/C01.lean.
-/
namespace C2pa.C01
open C2pa.C13

def spansOf (src : List SrcBox) : List BoxEntry → Nat → Except VErr (List NameSt)
  | [], _ => .ok []
  | bm :: rest, idx =>
    match nameLoop src bm.names.length bm.names { idx := idx, start := 0, len := 0, skip := false } with
    | .error e => .error e
    | .ok st =>
      match spansOf src rest st.idx with
      | .error e => .error e
      | .ok sts => .ok (st :: sts)

/-- the number of source boxes the assertion consumes -/
def nameCount : List BoxEntry → Nat
  | [] => 0
  | bm :: rest => bm.names.length + nameCount rest

def slice (a : List UInt8) (s l : Nat) : List UInt8 := (a.drop s).take l

theorem slice_getElem? (a : List UInt8) (s l x : Nat) (h1 : s ≤ x) (h2 : x < s + l) :
    (slice a s l)[x - s]? = a[x]? := by
  unfold slice
  rw [List.getElem?_take, if_pos (by omega), List.getElem?_drop]
  congr 1
  omega

/-- the entry is not hashed: it is the C2PA entry or carries `excluded: true` -/
def skipped (bm : BoxEntry) (st : NameSt) : Bool := st.skip || bm.excluded.getD false

/-- the entry is not hashed, stated on the signed assertion alone -/
def entrySkipped (bm : BoxEntry) : Bool := decide (bm.names = ["C2PA"]) || bm.excluded.getD false

/-- what a successful run guarantees about one entry: whether it is hashed can be read off the
signed assertion alone, and if it is, the bytes of its span are the signed preimage -/
def EntryOk (a : List UInt8) (bm : BoxEntry) (st : NameSt) : Prop :=
  skipped bm st = entrySkipped bm ∧
    (entrySkipped bm = false → st.start + st.len ≤ a.length ∧ slice a st.start st.len = bm.pre)

def AllOk (a : List UInt8) (boxes : List BoxEntry) (sts : List NameSt) : Prop :=
  sts.length = boxes.length ∧ ∀ p ∈ boxes.zip sts, EntryOk a p.1 p.2

theorem AllOk.cons {a : List UInt8} {bm : BoxEntry} {st : NameSt} {bs : List BoxEntry}
    {sts : List NameSt} (he : EntryOk a bm st) (h : AllOk a bs sts) :
    AllOk a (bm :: bs) (st :: sts) :=
  ⟨congrArg Nat.succ h.1, fun p hp => by
    rcases List.mem_cons.1 hp with rfl | hp
    · exact he
    · exact h.2 p hp⟩

theorem compareHash_ok {pre : List UInt8} {o : Outcome} (h : compareHash pre o = .ok) :
    ∃ prog, o = .ok pre prog := by
  unfold compareHash at h
  cases o with
  | ok abs prog =>
    by_cases he : abs = pre
    · exact ⟨prog, by rw [he]⟩
    · simp [he] at h
  | err e p => simp at h
  | panic p => simp at h

theorem compareHash_hash_err {pre : List UInt8} {o : Outcome} {e : C13.Err}
    (h : compareHash pre o = .err (.hash e)) : ∃ p, o = .err e p := by
  cases o with
  | ok abs prog =>
    simp only [compareHash] at h
    split at h <;> cases h
  | err e' p => cases h; exact ⟨p, rfl⟩
  | panic p => cases h

theorem hashModel_one_range {alg : String} {a : List UInt8} {s l buf : Nat} {abs : List UInt8}
    {prog : List (Nat × Nat)}
    (h : hashModel alg a (some [⟨s, l, none⟩]) false buf none = .ok abs prog) :
    s + l ≤ a.length ∧ abs = slice a s l := by
  refine ⟨hashModel_ok_within h ⟨s, l, none⟩ (List.mem_singleton.2 rfl), ?_⟩
  -- a one-entry list is sorted: the inclusion specification is the bytes of the entry
  rw [incl_digest alg a _ buf none abs prog (List.cons_ne_nil _ _) h]
  show entryBytes a ⟨s, l, none⟩ ++ [] = slice a s l
  rw [List.append_nil, entryBytes]
  split
  · next hl => rw [show l = 0 from hl]; rfl
  · rfl

/-! ### what one iteration of the name loop does -/

/-- `st1` is the state after the first name: it has consumed the source box `sb`. A span that has
not begun (`st.len = 0`) begins with `sb`; one that has is extended to the end of `sb`. -/
theorem nameLoop_step {src : List SrcBox} {nN : Nat} {name : String} {rest : List String}
    {st st' : NameSt} (h : nameLoop src nN (name :: rest) st = .ok st') :
    ∃ sb st1, src[st.idx]? = some sb ∧ sb.names.head? = some name ∧ st1.idx = st.idx + 1 ∧
      (st.len = 0 → st1.start = sb.start ∧ st1.len = sb.len ∧
          st1.skip = (st.skip || decide (name = "C2PA")) ∧ (name = "C2PA" → nN = 1)) ∧
      (st.len ≠ 0 → st1.start = st.start ∧ st1.len = sb.start - st.start + sb.len ∧
          st.start ≤ sb.start ∧ st1.skip = st.skip) ∧
      nameLoop src nN rest st1 = .ok st' := by
  -- `fun_cases` wants a variable for the list of names
  generalize hn : name :: rest = names at h
  revert h
  fun_cases nameLoop src nN names st with
  | case1 => cases hn
  | case5 rest _ sb hs hl0 hn1 hn0 =>
    cases hn
    exact fun h => ⟨sb, _, hs, hn0, rfl, fun _ => ⟨rfl, rfl, (Bool.or_true _).symm,
      fun _ => Decidable.of_not_not hn1⟩, fun hne => absurd hl0 hne, h⟩
  | case6 rest _ sb hs name hn0 hl0 hc =>
    cases hn
    exact fun h => ⟨sb, _, hs, hn0, rfl, fun _ => ⟨rfl, rfl,
      by rw [decide_eq_false hc, Bool.or_false], fun k => absurd k hc⟩, fun hne => absurd hl0 hne, h⟩
  | case9 rest _ sb hs name hn0 hl0 hlt =>
    cases hn
    exact fun h => ⟨sb, { st with idx := st.idx + 1, len := sb.start - st.start + sb.len }, hs, hn0,
      rfl, fun h0 => absurd h0 hl0, fun _ => ⟨rfl, rfl, Nat.le_of_not_lt hlt, rfl⟩, h⟩
  | _ => exact nofun

theorem nameLoop_idx (src : List SrcBox) (nN : Nat) :
    ∀ (names : List String) (st st' : NameSt), nameLoop src nN names st = .ok st' →
      st'.idx = st.idx + names.length
  | [], st, st', h => by
    simp only [nameLoop, Except.ok.injEq] at h
    subst h; simp
  | name :: rest, st, st', h => by
    obtain ⟨sb, st1, _, _, hi, _, _, hr⟩ := nameLoop_step h
    have := nameLoop_idx src nN rest st1 st' hr
    simp only [List.length_cons]
    omega

theorem nameLoop_skip_keep (src : List SrcBox) (nN : Nat) (hn : nN ≠ 1) :
    ∀ (names : List String) (st st' : NameSt), nameLoop src nN names st = .ok st' →
      st'.skip = st.skip
  | [], st, st', h => by
    simp only [nameLoop, Except.ok.injEq] at h
    subst h; rfl
  | name :: rest, st, st', h => by
    obtain ⟨sb, st1, _, _, _, h0, h1, hr⟩ := nameLoop_step h
    rw [nameLoop_skip_keep src nN hn rest st1 st' hr]
    by_cases hl : st.len = 0
    · obtain ⟨_, _, hs, hc⟩ := h0 hl
      rw [hs]
      by_cases hcn : name = "C2PA"
      · exact absurd (hc hcn) hn
      · simp [hcn]
    · exact (h1 hl).2.2.2

/-- the entry is skipped as "the C2PA box" exactly when its name list is `["C2PA"]`: a property
of the signed assertion alone, not of the asset's box map -/
theorem nameLoop_skip (src : List SrcBox) (names : List String) (idx : Nat) (st' : NameSt)
    (h : nameLoop src names.length names { idx := idx, start := 0, len := 0, skip := false } = .ok st') :
    st'.skip = decide (names = ["C2PA"]) := by
  match names, h with
  | [], h =>
    simp only [nameLoop, Except.ok.injEq] at h
    subst h; simp
  | [x], h =>
    obtain ⟨sb, st1, _, _, _, h0, _, hr⟩ := nameLoop_step h
    simp only [nameLoop, Except.ok.injEq] at hr
    subst hr
    obtain ⟨_, _, hs, _⟩ := h0 rfl
    rw [hs]; simp
  | x :: y :: rest, h =>
    rw [nameLoop_skip_keep src _ (by simp) _ _ _ h]
    simp

/-! ### the box loop and the whole verification, inverted -/

theorem boxLoop_ok (src : List SrcBox) (calg : Option String) (a : List UInt8) (buf : Nat)
    (boxes : List BoxEntry) (idx : Nat) : ∀ idx', boxLoop src calg a buf boxes idx = .ok idx' →
      idx' = idx + nameCount boxes ∧ ∃ sts, spansOf src boxes idx = .ok sts ∧ AllOk a boxes sts := by
  have step : ∀ {bm rest idx st idx'}, nameLoop src bm.names.length bm.names
        { idx := idx, start := 0, len := 0, skip := false } = .ok st →
      (skipped bm st = false → st.start + st.len ≤ a.length ∧ slice a st.start st.len = bm.pre) →
      (idx' = st.idx + nameCount rest ∧ ∃ sts, spansOf src rest st.idx = .ok sts ∧ AllOk a rest sts) →
      idx' = idx + nameCount (bm :: rest) ∧
        ∃ sts, spansOf src (bm :: rest) idx = .ok sts ∧ AllOk a (bm :: rest) sts :=
    fun hn he ⟨hi, sts, h1, h3⟩ =>
      have hsk : skipped _ _ = entrySkipped _ := by
        simp only [skipped, entrySkipped, nameLoop_skip src _ _ _ hn]
      ⟨by rw [hi, nameLoop_idx src _ _ _ _ hn, nameCount, Nat.add_assoc],
        _ :: sts, by simp only [spansOf, hn, h1], h3.cons ⟨hsk, fun h => he (hsk.trans h)⟩⟩
  fun_induction boxLoop src calg a buf boxes idx with
  | case1 idx => intro idx' h; cases h; exact ⟨rfl, [], rfl, rfl, nofun⟩
  | case2 => intro idx' h; cases h
  | case3 bm rest idx st hn hsk ih =>
    exact fun idx' h => step hn (fun k => Bool.noConfusion (hsk.symm.trans k)) (ih idx' h)
  | case4 => intro idx' h; cases h
  | case5 => intro idx' h; cases h
  | case6 bm rest idx st hn hsk alg halg hc ih =>
    obtain ⟨prog, ho⟩ := compareHash_ok hc
    obtain ⟨hle, hsl⟩ := hashModel_one_range ho
    exact fun idx' h => step hn (fun _ => ⟨hle, hsl.symm⟩) (ih idx' h)

/-- the first source index (PNGh skip rule): the `idx0` of `verifyBox` as a function of its
inputs -/
def idx0 (boxes : List BoxEntry) (src : List SrcBox) : Nat :=
  match src.head? with
  | none => 0
  | some first =>
    if first.names.head? = some "PNGh" &&
        (match boxes.head? with
         | some b => (match b.names.head? with | some n => n != "PNGh" | none => false)
         | none => false)
    then 1 else 0

theorem idx0_eq_zero_or_one (boxes : List BoxEntry) (src : List SrcBox) : idx0 boxes src = 0 ∨ idx0 boxes src = 1 := by
  unfold idx0
  cases src.head? with
  | none => exact Or.inl rfl
  | some first =>
    dsimp only
    exact (Decidable.em _).elim (fun h => Or.inr (if_pos h)) (fun h => Or.inl (if_neg h))

/-- `verifyBox … = .ok` inverted once, into facts about `spansOf`, `nameCount` and `coverLoop`: every
box-hash statement below starts from this and never unfolds `verifyBox` again. -/
theorem verifyBox_ok (boxes : List BoxEntry) (calg : Option String) (src : List SrcBox)
    (a : List UInt8) (buf : Nat) (h : verifyBox boxes calg (some src) a buf = .ok) :
    src ≠ [] ∧
    ∃ sts, spansOf src boxes (idx0 boxes src) = .ok sts ∧
      idx0 boxes src + nameCount boxes = src.length ∧
      AllOk a boxes sts ∧
      (onlyC2pa src = true ∨ coverLoop src 0 = some a.length) := by
  unfold verifyBox at h
  by_cases hb : boxes.isEmpty = true
  · simp [hb] at h
  · rw [if_neg hb] at h
    simp only at h
    cases hh : src.head? with
    | none => simp [hh] at h
    | some first =>
      have hs' : src ≠ [] := by
        intro he; rw [he] at hh; cases hh
      simp only [hh] at h
      split at h
      · simp at h
      · rename_i idx heq
        have hl : boxLoop src calg a buf boxes (idx0 boxes src) = .ok idx := by
          unfold idx0
          rw [hh]
          exact heq
        obtain ⟨h2, sts, h1, h3⟩ := boxLoop_ok src calg a buf boxes _ _ hl
        by_cases hi : idx ≠ src.length
        · simp [hi] at h
        · rw [if_neg hi] at h
          have hi' : idx = src.length := Decidable.of_not_not hi
          refine ⟨hs', sts, h1, by rw [← h2, hi'], h3, ?_⟩
          by_cases ho : onlyC2pa src = true
          · exact Or.inl ho
          · rw [if_neg ho] at h
            by_cases hc : coverLoop src 0 = some a.length
            · exact Or.inr hc
            · simp [hc] at h

theorem verifyBox_cover {boxes : List BoxEntry} {calg : Option String} {src : List SrcBox}
    {a : List UInt8} {buf : Nat} (hno : onlyC2pa src = false)
    (h : verifyBox boxes calg (some src) a buf = .ok) : coverLoop src 0 = some a.length := by
  obtain ⟨_, _, _, _, _, hc⟩ := verifyBox_ok boxes calg src a buf h
  exact hc.resolve_left (by rw [hno]; exact Bool.false_ne_true)

/-! ### coverage: every source box consumed by an entry lies inside that entry's span

The boxes cover the asset (`coverLoop_mem`), the entries consume all boxes behind `idx0`, so the
spans cover the asset as soon as every consumed box lies inside its entry's span (`Inside`). An entry
with `k` names consumes the boxes `(src.drop i).take k` for some `i`; its span runs from the start of
the first non-empty one to the end of the *last* one, so it holds them all when none of them ends
before an earlier one (`EndsMono`, `nameLoop_inside`, `spansOf_inside`): trivially for single-name
entries, and on tiling maps (next section). The one position range outside every span is a PNG
signature box that the assertion does not list (`idx0 = 1`, `inSkippedPngh`). -/

def Inside (b : SrcBox) (st : NameSt) : Prop :=
  b.len = 0 ∨ (st.start ≤ b.start ∧ b.start + b.len ≤ st.start + st.len)

def EndsMono (bs : List SrcBox) : Prop :=
  bs.Pairwise fun b b' => b.start + b.len ≤ b'.start + b'.len

/-- The one place where the shape of the box map enters. `done` are the boxes the entry has
consumed before `st`. -/
theorem nameLoop_inside (src : List SrcBox) (nN : Nat) :
    ∀ (names : List String) (st st' : NameSt) (done : List SrcBox),
      nameLoop src nN names st = .ok st' →
      EndsMono (done ++ (src.drop st.idx).take names.length) → (∀ b ∈ done, Inside b st) →
      ∀ b ∈ done ++ (src.drop st.idx).take names.length, Inside b st'
  | [], st, st', done, h, _, hd => by
    simp only [nameLoop, Except.ok.injEq] at h
    subst h
    simpa using hd
  | name :: rest, st, st', done, h, hm, hd => by
    obtain ⟨sb, st1, hs, _, hidx, h0, h1, hr⟩ := nameLoop_step h
    obtain ⟨hlt, rfl⟩ := List.getElem?_eq_some_iff.1 hs
    rw [List.drop_eq_getElem_cons hlt, List.length_cons, List.take_succ_cons, ← hidx,
      List.append_cons] at hm ⊢
    refine nameLoop_inside src nN rest st1 st' _ hr hm fun b hb => ?_
    -- the new span ends with the new box, which ends no earlier than the boxes before it
    have hle := (List.pairwise_append.1 (List.pairwise_append.1 hm).1).2.2
    unfold Inside
    by_cases hl : st.len = 0
    · obtain ⟨e1, e2, _⟩ := h0 hl
      rw [e1, e2]
      rcases List.mem_append.1 hb with hb | hb
      · exact (hd b hb).elim .inl fun h => .inl (by omega)
      · cases List.mem_singleton.1 hb; exact .inr ⟨Nat.le_refl _, Nat.le_refl _⟩
    · obtain ⟨e1, e2, e3, _⟩ := h1 hl
      rw [e1, e2]
      rcases List.mem_append.1 hb with hb | hb
      · have := hle b hb _ (List.mem_singleton_self _)
        exact (hd b hb).imp_right fun h => ⟨h.1, by omega⟩
      · cases List.mem_singleton.1 hb; exact .inr ⟨e3, by omega⟩

theorem spansOf_inside (src : List SrcBox) (boxes : List BoxEntry) (idx : Nat) :
    ∀ (sts : List NameSt),
      (∀ bm ∈ boxes, ∀ i, EndsMono ((src.drop i).take bm.names.length)) →
      spansOf src boxes idx = .ok sts →
      ∀ b ∈ (src.drop idx).take (nameCount boxes), ∃ p ∈ boxes.zip sts, Inside b p.2 := by
  fun_induction spansOf src boxes idx with
  | case1 => intro sts _ h; cases h; nofun
  | case2 | case3 => intro sts _ h; cases h
  | case4 bm rest idx st hn sts' hr ih =>
    intro sts hm h b hb; cases h
    rw [nameCount, List.take_add, List.drop_drop, ← nameLoop_idx src _ _ _ st hn] at hb
    rcases List.mem_append.1 hb with hb | hb
    · exact ⟨(bm, st), List.mem_cons_self, nameLoop_inside src _ _ _ st [] hn
        (hm bm List.mem_cons_self idx) nofun b hb⟩
    · obtain ⟨p, hp, h⟩ := ih sts' (fun b hb => hm b (List.mem_cons_of_mem _ hb)) hr b hb
      exact ⟨p, List.mem_cons_of_mem _ hp, h⟩

/-- entries that list a single name each (what `BoxHash::generate_box_hash_from_stream` writes
with `minimal_form = false`, the only form the SDK signs with) have no two boxes to compare -/
theorem EndsMono.of_single {src : List SrcBox} {boxes : List BoxEntry}
    (h1 : ∀ bm ∈ boxes, bm.names.length = 1) :
    ∀ bm ∈ boxes, ∀ i, EndsMono ((src.drop i).take bm.names.length) := fun bm hb i => by
  rw [h1 bm hb]
  cases src.drop i with
  | nil => exact .nil
  | cons c cs => exact List.pairwise_singleton _ c

theorem coverLoop_mem : ∀ (src : List SrcBox) (e n : Nat), coverLoop src e = some n →
    e ≤ n ∧ ∀ x, e ≤ x → x < n → ∃ sb ∈ src, sb.start ≤ x ∧ x < sb.start + sb.len
  | [], e, n, h => by
    simp only [coverLoop, Option.some.injEq] at h
    subst h
    exact ⟨Nat.le_refl _, fun x h1 h2 => absurd h2 (Nat.not_lt_of_le h1)⟩
  | b :: bs, e, n, h => by
    rw [coverLoop] at h
    by_cases hg : b.start > e
    · simp [hg] at h
    · rw [if_neg hg] at h
      obtain ⟨hle, ih⟩ := coverLoop_mem bs _ n h
      refine ⟨by omega, fun x h1 h2 => ?_⟩
      by_cases hx : x < max e (min (b.start + b.len) u64Max)
      · exact ⟨b, List.mem_cons_self, by omega, by omega⟩
      · obtain ⟨sb, hm, hc⟩ := ih x (Nat.le_of_not_lt hx) h2
        exact ⟨sb, List.mem_cons_of_mem _ hm, hc⟩

/-- position `x` lies in the PNG signature box that the assertion does not list -/
def inSkippedPngh (boxes : List BoxEntry) (src : List SrcBox) (x : Nat) : Bool :=
  idx0 boxes src == 1 && (match src.head? with | some b => decide (x < b.start + b.len) | none => false)

theorem inSkippedPngh_of_mem {boxes : List BoxEntry} {src : List SrcBox} {sb : SrcBox} {x : Nat}
    (hm : sb ∈ src.take (idx0 boxes src)) (hx : x < sb.start + sb.len) :
    inSkippedPngh boxes src x = true := by
  cases src with
  | nil => cases hm
  | cons b bs =>
    rcases idx0_eq_zero_or_one boxes (b :: bs) with h0 | h0 <;> rw [h0] at hm
    · cases hm
    · cases List.mem_singleton.1 hm
      simp [inSkippedPngh, h0, hx]

/-- **Coverage without a layout hypothesis.** When the entries have consumed all source boxes from
`idx0` on, none of them a box that ends before an earlier one, and the boxes cover `[0, n)`, every
position below `n` lies in the span of some entry, or in the PNG signature the assertion does not
list. -/
theorem spans_cover_closed (boxes : List BoxEntry) (src : List SrcBox) (sts : List NameSt) (n : Nat)
    (hm : ∀ bm ∈ boxes, ∀ i, EndsMono ((src.drop i).take bm.names.length))
    (hs : spansOf src boxes (idx0 boxes src) = .ok sts)
    (hl : idx0 boxes src + nameCount boxes = src.length) (hcov : coverLoop src 0 = some n)
    (x : Nat) (hx : x < n) (hp : inSkippedPngh boxes src x = false) :
    ∃ p ∈ boxes.zip sts, p.2.start ≤ x ∧ x < p.2.start + p.2.len := by
  obtain ⟨sb, hsb, h1, h2⟩ := (coverLoop_mem src 0 n hcov).2 x (Nat.zero_le _) hx
  rw [← List.take_append_drop (idx0 boxes src) src] at hsb
  rcases List.mem_append.1 hsb with hh | ht
  · rw [inSkippedPngh_of_mem hh h2] at hp; cases hp
  · rw [← List.take_of_length_le (i := nameCount boxes) (l := src.drop (idx0 boxes src))
      (by rw [List.length_drop]; omega)] at ht
    obtain ⟨p, hp, h0 | ⟨ha, hb⟩⟩ := spansOf_inside src boxes _ sts hm hs sb ht
    · omega
    · exact ⟨p, hp, by omega, by omega⟩

/-! ### tiling box maps -/

/-- handler box map well-formedness (the `Tiles` of Props/C12.lean, from which `boxmap_wf` follows, on
`SrcBox`): the boxes tile `[s, e)` in order; here each also has at least one name (a clause that no
proof in this file or in Props/C01 uses). No `u64` bound is part of it: theorems that want one state
`e ≤ u64Max` -/
def Tiles : List SrcBox → Nat → Nat → Prop
  | [], s, e => s = e
  | b :: bs, s, e => b.start = s ∧ b.names ≠ [] ∧ Tiles bs (s + b.len) e

theorem tiles_le : ∀ (src : List SrcBox) (s e : Nat), Tiles src s e → s ≤ e
  | [], _, _, h => Nat.le_of_eq h
  | b :: bs, s, e, h => Nat.le_trans (Nat.le_add_right s b.len) (tiles_le bs _ e h.2.2)

theorem tiles_endsMono : ∀ (src : List SrcBox) (s e : Nat), Tiles src s e →
    (∀ b ∈ src, s ≤ b.start) ∧ EndsMono src
  | [], _, _, _ => ⟨nofun, .nil⟩
  | b :: bs, s, e, h => by
    obtain ⟨hs, hm⟩ := tiles_endsMono bs _ e h.2.2
    refine ⟨fun c hc => ?_, List.pairwise_cons.2 ⟨fun c hc => ?_, hm⟩⟩
    · rcases List.mem_cons.1 hc with rfl | hc
      · exact Nat.le_of_eq h.1.symm
      · exact Nat.le_trans (Nat.le_add_right s b.len) (hs c hc)
    · have := hs c hc; have := h.1; omega

theorem EndsMono.of_tiles {src : List SrcBox} {n : Nat} (hw : Tiles src 0 n) (i k : Nat) :
    EndsMono ((src.drop i).take k) :=
  (tiles_endsMono src 0 n hw).2.sublist ((List.take_sublist _ _).trans (List.drop_sublist _ _))

theorem tiles_coverLoop : ∀ (src : List SrcBox) (s n : Nat), Tiles src s n → n ≤ u64Max →
    coverLoop src s = some n
  | [], s, n, h, _ => congrArg some h
  | b :: bs, s, n, h, hn => by
    have := tiles_le bs _ n h.2.2
    rw [coverLoop, if_neg (by rw [h.1]; exact Nat.lt_irrefl s), h.1,
      Nat.min_eq_left (by omega), Nat.max_eq_right (Nat.le_add_right s b.len)]
    exact tiles_coverLoop bs _ n h.2.2 hn

/-- With a tiling box map, when every source box has been consumed by the entries, every
position of the asset (outside an unlisted PNG signature) lies in the span of some entry. -/
theorem spans_cover (src : List SrcBox) (n : Nat) (hw : Tiles src 0 n) (hn : n ≤ u64Max)
    (boxes : List BoxEntry) (sts : List NameSt)
    (hs : spansOf src boxes (idx0 boxes src) = .ok sts)
    (hl : idx0 boxes src + nameCount boxes = src.length) (x : Nat) (hx : x < n)
    (hp : inSkippedPngh boxes src x = false) :
    ∃ p ∈ boxes.zip sts, p.2.start ≤ x ∧ x < p.2.start + p.2.len :=
  spans_cover_closed boxes src sts n (fun _ _ i => EndsMono.of_tiles hw i _) hs hl
    (tiles_coverLoop src 0 n hw hn) x hx hp

/-! ### same box map: two verified assets agree inside every hashed span -/

/-- position `x` lies in the span of an entry that is not hashed -/
def unprotected (boxes : List BoxEntry) (sts : List NameSt) (x : Nat) : Bool :=
  (boxes.zip sts).any fun p => skipped p.1 p.2 && decide (p.2.start ≤ x) && decide (x < p.2.start + p.2.len)

theorem verified_agree (boxes : List BoxEntry) (calg calg' : Option String) (src : List SrcBox)
    (a a' : List UInt8) (buf buf' : Nat)
    (h : verifyBox boxes calg (some src) a buf = .ok)
    (h' : verifyBox boxes calg' (some src) a' buf' = .ok) :
    ∃ sts, spansOf src boxes (idx0 boxes src) = .ok sts ∧
      idx0 boxes src + nameCount boxes = src.length ∧
      ∀ x, (∃ p ∈ boxes.zip sts, p.2.start ≤ x ∧ x < p.2.start + p.2.len) →
        unprotected boxes sts x = false → a[x]? = a'[x]? := by
  obtain ⟨_, sts, hs, hl, hok, _⟩ := verifyBox_ok boxes calg src a buf h
  obtain ⟨_, sts', hs', _, hok', _⟩ := verifyBox_ok boxes calg' src a' buf' h'
  rw [hs] at hs'
  cases hs'
  refine ⟨sts, hs, hl, ?_⟩
  rintro x ⟨⟨bm, st⟩, hb, hc1, hc2⟩ hu
  have hz := hok.2
  have hns : skipped bm st = false := by
    have := List.any_eq_false.1 hu (bm, st) hb
    simpa [hc1, hc2] using this
  have hne := (hz _ hb).1.symm.trans hns
  have e1 := ((hz _ hb).2 hne).2
  have e2 := ((hok'.2 _ hb).2 hne).2
  rw [← slice_getElem? a st.start st.len x hc1 hc2, ← slice_getElem? a' st.start st.len x hc1 hc2,
    e1, e2]

/-! ### the box-hash statements

No hypothesis on the shape of the box map, except in `boxhash_agree_mono` (`EndsMono` and coverage),
which `boxhash_binds_single` and `boxhash_binds` (Props/C01) discharge. -/

/-- **What a verified box hash fixes, on any box map**: every entry of the signed assertion that
is not the C2PA entry and not marked `excluded` has a span inside the asset whose bytes are the
signed preimage of that entry. -/
theorem boxhash_protected (boxes : List BoxEntry) (calg : Option String) (src : List SrcBox)
    (a : List UInt8) (buf : Nat) (h : verifyBox boxes calg (some src) a buf = .ok) :
    ∃ sts, spansOf src boxes (idx0 boxes src) = .ok sts ∧ sts.length = boxes.length ∧
      ∀ p ∈ boxes.zip sts, entrySkipped p.1 = false →
        p.2.start + p.2.len ≤ a.length ∧ slice a p.2.start p.2.len = p.1.pre := by
  obtain ⟨_, sts, hs, _, hok, _⟩ := verifyBox_ok boxes calg src a buf h
  exact ⟨sts, hs, hok.1, fun p hp => (hok.2 p hp).2⟩

/-- the bytes of the asset that the assertion's hashes cover, entry by entry in order -/
def hashedContent (a : List UInt8) (boxes : List BoxEntry) (sts : List NameSt) : List UInt8 :=
  (boxes.zip sts).flatMap fun p => if entrySkipped p.1 then [] else slice a p.2.start p.2.len

/-- the signed preimages (H-free) of the hashed entries, in order -/
def signedContent (boxes : List BoxEntry) : List UInt8 :=
  boxes.flatMap fun bm => if entrySkipped bm then [] else bm.pre

theorem hashedContent_eq (a : List UInt8) (boxes : List BoxEntry) (sts : List NameSt)
    (hl : sts.length = boxes.length)
    (h : ∀ p ∈ boxes.zip sts, entrySkipped p.1 = false → slice a p.2.start p.2.len = p.1.pre) :
    hashedContent a boxes sts = signedContent boxes := by
  unfold hashedContent signedContent
  -- read `boxes` as the first components of the zipped list
  conv => rhs; rw [← List.map_fst_zip (l₁ := boxes) (l₂ := sts) (Nat.le_of_eq hl.symm), List.flatMap_map]
  apply Data.flatMap_congr_mem
  intro p hp
  cases hsk : entrySkipped p.1
  · rw [if_neg Bool.false_ne_true, if_neg Bool.false_ne_true]; exact h p hp hsk
  · rfl

/-- Two assets that verify against the same signed box hash,
each under the box map its own handler run produced (different boundaries, different lengths
allowed), carry the same protected content: the concatenation of the hashed spans of either
asset is the concatenation of the signed preimages. -/
theorem boxhash_binds_any_layout (boxes : List BoxEntry) (calg calg' : Option String)
    (src src' : List SrcBox) (a a' : List UInt8) (buf buf' : Nat)
    (h : verifyBox boxes calg (some src) a buf = .ok)
    (h' : verifyBox boxes calg' (some src') a' buf' = .ok) :
    ∃ sts sts', spansOf src boxes (idx0 boxes src) = .ok sts ∧
      spansOf src' boxes (idx0 boxes src') = .ok sts' ∧
      hashedContent a boxes sts = signedContent boxes ∧
      hashedContent a' boxes sts' = signedContent boxes := by
  obtain ⟨sts, hs, hl, hp⟩ := boxhash_protected boxes calg src a buf h
  obtain ⟨sts', hs', hl', hp'⟩ := boxhash_protected boxes calg' src' a' buf' h'
  exact ⟨sts, sts', hs, hs', hashedContent_eq a boxes sts hl (fun p m k => (hp p m k).2),
    hashedContent_eq a' boxes sts' hl' (fun p m k => (hp' p m k).2)⟩

theorem verifyBox_box_count (boxes : List BoxEntry) (calg : Option String) (src : List SrcBox)
    (a : List UInt8) (buf : Nat) (h : verifyBox boxes calg (some src) a buf = .ok) :
    src.length = idx0 boxes src + nameCount boxes := by
  obtain ⟨_, _, _, hl, _, _⟩ := verifyBox_ok boxes calg src a buf h
  exact hl.symm

theorem idx0_append (boxes : List BoxEntry) (src extra : List SrcBox) (hs : src ≠ []) :
    idx0 boxes (src ++ extra) = idx0 boxes src := by
  cases src with
  | nil => exact absurd rfl hs
  | cons b bs => rfl

/-- **Extra boxes are rejected (general form of F5's second half).** If an asset verifies under
the box map `src`, no asset verifies under a box map that continues `src` with further boxes:
a chunk / segment appended or inserted after the listed ones is covered by no hash. -/
theorem boxhash_extra_box_rejected_all (boxes : List BoxEntry) (calg calg' : Option String)
    (src extra : List SrcBox) (a a' : List UInt8) (buf buf' : Nat) (he : extra ≠ [])
    (h : verifyBox boxes calg (some src) a buf = .ok) :
    verifyBox boxes calg' (some (src ++ extra)) a' buf' ≠ .ok := by
  intro h'
  have hs : src ≠ [] := (verifyBox_ok boxes calg src a buf h).1
  have c1 := verifyBox_box_count boxes calg src a buf h
  have c2 := verifyBox_box_count boxes calg' (src ++ extra) a' buf' h'
  rw [idx0_append boxes src extra hs, List.length_append] at c2
  have : extra.length = 0 := by omega
  exact he (List.eq_nil_of_length_eq_zero this)

/-- **The length is fixed (general form of F5's first half).** Under one box map that is not
just the manifest store, all assets that verify have the same length: appended or truncated
bytes that leave the box map unchanged are rejected. -/
theorem boxhash_length_fixed (boxes : List BoxEntry) (calg calg' : Option String)
    (src : List SrcBox) (a a' : List UInt8) (buf buf' : Nat) (hno : onlyC2pa src = false)
    (h : verifyBox boxes calg (some src) a buf = .ok)
    (h' : verifyBox boxes calg' (some src) a' buf' = .ok) : a.length = a'.length :=
  Option.some.inj ((verifyBox_cover hno h).symm.trans (verifyBox_cover hno h'))

theorem boxhash_append_rejected_all (boxes : List BoxEntry) (calg calg' : Option String)
    (src : List SrcBox) (a extra : List UInt8) (buf buf' : Nat) (hno : onlyC2pa src = false)
    (he : extra ≠ []) (h : verifyBox boxes calg (some src) a buf = .ok) :
    verifyBox boxes calg' (some src) (a ++ extra) buf' ≠ .ok := by
  intro h'
  have := boxhash_length_fixed boxes calg calg' src a (a ++ extra) buf buf' hno h h'
  rw [List.length_append] at this
  have : extra.length = 0 := by omega
  exact he (List.eq_nil_of_length_eq_zero this)

/-- **Every byte is accounted for (single-name entries, any box map).** For an assertion in the
form the SDK signs (one name per entry) and an asset that is not just the manifest store, a
successful verification means: every position of the asset lies in the PNG signature the
assertion does not list, or in the span of an entry; that entry is the C2PA entry / marked
`excluded`, or the bytes of its span are exactly the signed preimage. No hypothesis on the box
map: overlapping maps (JPEG `RSTn` inside `SOS`) are included. -/
theorem boxhash_every_byte (boxes : List BoxEntry) (calg : Option String) (src : List SrcBox)
    (a : List UInt8) (buf : Nat) (h1 : ∀ bm ∈ boxes, bm.names.length = 1)
    (hno : onlyC2pa src = false) (h : verifyBox boxes calg (some src) a buf = .ok) :
    ∃ sts, spansOf src boxes (idx0 boxes src) = .ok sts ∧
      ∀ x, x < a.length → inSkippedPngh boxes src x = true ∨
        ∃ p ∈ boxes.zip sts, p.2.start ≤ x ∧ x < p.2.start + p.2.len ∧
          (entrySkipped p.1 = true ∨
            (p.2.start + p.2.len ≤ a.length ∧ slice a p.2.start p.2.len = p.1.pre)) := by
  obtain ⟨sts, hs, _, hp⟩ := boxhash_protected boxes calg src a buf h
  refine ⟨sts, hs, ?_⟩
  intro x hx
  cases hpn : inSkippedPngh boxes src x
  · right
    obtain ⟨⟨bm, st⟩, hz, hx1, hx2⟩ := spans_cover_closed boxes src sts a.length
      (EndsMono.of_single h1) hs (verifyBox_box_count boxes calg src a buf h).symm
      (verifyBox_cover hno h) x hx hpn
    refine ⟨(bm, st), hz, hx1, hx2, ?_⟩
    cases hsk : entrySkipped bm
    · right; exact hp (bm, st) hz hsk
    · left; rfl
  · left; rfl

/-- Two assets that verify against the same assertion under the same box map agree at every
position outside the C2PA / excluded entries and the unlisted PNG signature, provided the boxes
cover the asset and among the boxes any one entry can consume none ends before an earlier one
(`EndsMono`): the span of a grouped entry then contains all its boxes. -/
theorem boxhash_agree_mono (boxes : List BoxEntry) (calg calg' : Option String) (src : List SrcBox)
    (a a' : List UInt8) (buf buf' : Nat)
    (hm : ∀ bm ∈ boxes, ∀ i, EndsMono ((src.drop i).take bm.names.length))
    (hcov : coverLoop src 0 = some a.length)
    (h : verifyBox boxes calg (some src) a buf = .ok)
    (h' : verifyBox boxes calg' (some src) a' buf' = .ok) :
    ∃ sts, spansOf src boxes (idx0 boxes src) = .ok sts ∧
      ∀ x, x < a.length → unprotected boxes sts x = false → inSkippedPngh boxes src x = false →
        a[x]? = a'[x]? := by
  obtain ⟨sts, hs, hl, hag⟩ := verified_agree boxes calg calg' src a a' buf buf' h h'
  exact ⟨sts, hs, fun x hx hu hp =>
    hag x (spans_cover_closed boxes src sts a.length hm hs hl hcov x hx hp) hu⟩

/-- Two assets that verify against the same single-name assertion
under the same box map (any shape) have the same length and agree at every position outside
the C2PA / excluded entries and the unlisted PNG signature. -/
theorem boxhash_binds_single (boxes : List BoxEntry) (calg calg' : Option String) (src : List SrcBox)
    (a a' : List UInt8) (buf buf' : Nat) (h1 : ∀ bm ∈ boxes, bm.names.length = 1)
    (hno : onlyC2pa src = false)
    (h : verifyBox boxes calg (some src) a buf = .ok)
    (h' : verifyBox boxes calg' (some src) a' buf' = .ok) :
    a.length = a'.length ∧
    ∃ sts, spansOf src boxes (idx0 boxes src) = .ok sts ∧
      ∀ x, x < a.length → unprotected boxes sts x = false → inSkippedPngh boxes src x = false →
        a[x]? = a'[x]? :=
  ⟨boxhash_length_fixed boxes calg calg' src a a' buf buf' hno h h',
    boxhash_agree_mono boxes calg calg' src a a' buf buf' (EndsMono.of_single h1)
      (verifyBox_cover hno h) h h'⟩

end C2pa.C01
