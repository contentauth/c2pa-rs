import C2paModel.Lemmas.C18Ser
/-
C18 — the SDK's constructors (`JUMBFDescriptionBox::new`, `set_salt`,
`JUMBFEmbeddedFileDescriptionBox::new`): when the box they make is readable, and that it is rejected
otherwise; the accessor path of re-serialisation; the writer's `u32` size arithmetic. (The theorems about
`CAIManifest::from` / `write_box_payload` are in Props/C18.)
-/
namespace C2pa.C18

theorem cstringNew_of_mem {s : Bytes} (h : (0 : UInt8) ∈ s) : cstringNew s = [] := by
  simp [cstringNew, h]

theorem cstringNew_of_not_mem {s : Bytes} (h : (0 : UInt8) ∉ s) : cstringNew s = s := by
  simp [cstringNew, h]

/-- **When the description box `JUMBFDescriptionBox::new` makes is `Valid`**, the invariant of every
description box the reader returns (with content boxes as in `new_roundtrip` it is then read back). -/
theorem new_valid_iff (label uuid : Bytes) :
    (Desc.new label uuid).Valid ↔
      uuid.length = 16 ∧ strNonEmpty label = true ∧ (0 : UInt8) ∉ label := by
  by_cases h0 : (0 : UInt8) ∈ label
  · simp [Desc.Valid, Desc.new, cstringNew_of_mem h0, strNonEmpty_nil, h0]
  · simp only [Desc.Valid, Desc.Valid0, Desc.new, cstringNew_of_not_mem h0]
    constructor
    · rintro ⟨⟨hu, _, _, _⟩, hl⟩
      exact ⟨hu, hl, h0⟩
    · rintro ⟨hu, hl, _⟩
      refine ⟨⟨hu, by decide, h0, by decide, by simp, by decide, by simp, by decide⟩, hl⟩

theorem setSalt_eq_some {d d' : Desc} {s : Bytes} (h : d.setSalt s = some d') :
    16 ≤ s.length ∧ d' = { d with salt := some s, toggles := 19 } := by
  unfold Desc.setSalt at h
  split at h
  · cases h
  · simp at h; exact ⟨by omega, h.symm⟩

theorem new_setSalt_valid {label uuid s : Bytes} {d' : Desc}
    (hv : (Desc.new label uuid).Valid) (h : (Desc.new label uuid).setSalt s = some d') : d'.Valid := by
  obtain ⟨_, rfl⟩ := setSalt_eq_some h
  obtain ⟨⟨hu, _, h0, _⟩, hl⟩ := hv
  -- what is left of `Valid` speaks of the toggles only: `19 = 0b10011` has the two low bits and
  -- bit 4 (salt) set, bits 2 (id) and 3 (signature) clear, and `new` leaves id and signature empty
  refine ⟨⟨hu, ?_, h0, ?_, ?_, ?_, ?_, ?_⟩, hl⟩ <;> simp [Desc.new] <;> decide

theorem new_withSalt_valid {label uuid : Bytes} (p : Option Bytes)
    (hv : (Desc.new label uuid).Valid) : ((Desc.new label uuid).withSalt p).Valid := by
  cases p with
  | none => exact hv
  | some s =>
    show (((Desc.new label uuid).setSalt s).getD (Desc.new label uuid)).Valid
    cases h : (Desc.new label uuid).setSalt s with
    | none => exact hv
    | some d' => exact new_setSalt_valid hv h

theorem withSalt_label (d : Desc) (p : Option Bytes) : (d.withSalt p).label = d.label := by
  cases p with
  | none => rfl
  | some s =>
    show ((d.setSalt s).getD d).label = d.label
    unfold Desc.setSalt
    split <;> rfl

/-- a super box whose description box is written shorter than the reader's minimum of 26 bytes (no
label: 16 + 1 + nothing) is not readable, whatever follows -/
theorem short_desc_unreadable (desc : Desc) (cs : List Box) (post : Bytes)
    (hshort : (descPayload desc).length < 18) (hs : (Box.super desc cs).size < 4294967296) :
    parse ((Box.super desc cs).ser ++ post) = .err .unexpectedEof := by
  have hat : At ((Box.super desc cs).ser ++ post) 0 (be32 (Box.super desc cs).size ++ (be32 JUMB ++
      (be32 (8 + (descPayload desc).length) ++ (be32 JUMD ++ (descPayload desc ++ (serList cs ++ post)))))) :=
    ⟨Nat.zero_le _, by rw [Box.ser_eq]; simp [Box.tag, Box.body, serDesc]⟩
  generalize hn : (Box.super desc cs).size = n at hs hat
  simp only [Box.size] at hn
  rw [parse, superBox, if_neg (by decide), readHeader_at hat hs (by decide) (by omega)]
  simp only [mapErr_ok, bind_ok]
  rw [if_neg (by decide), if_neg (by simp), if_neg (by simp only [Nat.zero_add]; omega),
    readHeader_at hat.header (by omega) (by decide) (by omega)]
  simp only [mapErr_ok, bind_ok]
  -- `read_desc_box` refuses the declared size (8 + payload < 26) before it reads anything
  rw [if_neg (by simp), readDesc, if_pos (by omega)]
  rfl

/-- a description box made by `new` from a label that is empty, not a `str`, or contains a NUL is
written without its label, and the box that contains it is **not readable**: the reader finds a
description box shorter than the minimum and reports `UnexpectedEof`. -/
theorem new_unreadable (label uuid : Bytes) (cs : List Box) (post : Bytes) (hu : uuid.length = 16)
    (hbad : (0 : UInt8) ∈ label ∨ strNonEmpty label = false)
    (hs : (Box.super (Desc.new label uuid) cs).size < 4294967296) :
    parse ((Box.super (Desc.new label uuid) cs).ser ++ post) = .err .unexpectedEof := by
  have hl : strNonEmpty (cstringNew label) = false := by
    by_cases h0 : (0 : UInt8) ∈ label
    · rw [cstringNew_of_mem h0]; exact strNonEmpty_nil
    · rw [cstringNew_of_not_mem h0]
      rcases hbad with h | h
      · exact absurd h h0
      · exact h
  exact short_desc_unreadable _ cs post (by simp [descPayload, Desc.new, hl, optBytes, hu]) hs

theorem takeWhile_ne_zero (m : Bytes) (h : (0 : UInt8) ∉ m) : m.takeWhile (· ≠ 0) = m := by
  simpa using List.takeWhile_append_of_pos (p := fun x : UInt8 => decide (x ≠ 0)) (l₁ := m) (l₂ := [])
    fun a ha => decide_eq_true fun e => h (e ▸ ha)

theorem toRustStr_of_not_mem {m : Bytes} (h0 : (0 : UInt8) ∉ m) :
    toRustStr m = if utf8Valid m then m else [] := by
  unfold toRustStr
  simp only [takeWhile_ne_zero m h0]

theorem utf8Valid_nil : utf8Valid ([] : Bytes) = true := by decide

/-- what `Store::get_assertion_from_jumbf_store` + `add_assertion_to_jumbf_store` do with the media
type of an embedded-file assertion (`media_type()` = `toRustStr`, then `new(media_type, None)`) is the
identity on the written bytes of a box with toggles 0, for **every** media-type byte string without NUL
(whatever its case, alphabet or UTF-8 validity) and whatever the file name was -/
theorem bfdb_accessor_ser (m : Bytes) (fn : Option Bytes) (h0 : (0 : UInt8) ∉ m) :
    (bfdbNew (toRustStr m) none).ser = (Box.bfdb 0 m fn).ser := by
  rw [toRustStr_of_not_mem h0]
  by_cases hu : utf8Valid m = true
  · simp [hu, bfdbNew, cstringNew_of_not_mem h0, Box.ser]
  · have hu' : utf8Valid m = false := by simpa using hu
    have hs : strNonEmpty m = false := by simp [strNonEmpty, hu']
    simp [hu', bfdbNew, cstringNew, Box.ser, bfdbPayload, hs, strNonEmpty_nil]

theorem labelStr_of_valid {d : Desc} (hv : d.Valid) : labelStr d.label = d.label := by
  have := hv.2
  unfold strNonEmpty at this
  simp at this
  simp [labelStr, this.2]

/-! ### the writer's `u32` arithmetic does not overflow below 4 GiB -/

theorem uadd_ok {a b : Nat} (h : a + b < 4294967296) : uadd a b = .ok (a + b) := by
  unfold uadd; rw [if_neg (by omega)]

theorem asU32_of_lt {n : Nat} (h : n < 4294967296) : asU32 n = n := by
  unfold asU32; exact Nat.mod_eq_of_lt h

/-- `8 + (len as u32)`: the size of every box that is not a super box -/
theorem uadd8_asU32 {n : Nat} (h : 8 + n < 4294967296) : uadd 8 (asU32 n) = .ok (8 + n) := by
  rw [asU32_of_lt (by omega), uadd_ok h]

mutual
theorem Box.size32_ok : (b : Box) → b.size < 4294967296 → b.size32 = .ok b.size
  | .super d cs, h => by
    simp only [Box.size] at h
    have hl := sizeList32_ok 0 cs (by omega)
    cases cs with
    | nil =>
      simp only [sizeList] at h
      simp (disch := omega) only [Box.size32, Box.size, sizeList, asU32_of_lt, uadd_ok, bind_ok,
        List.isEmpty_nil, if_true, Nat.zero_add, Nat.add_zero]
    | cons c rest =>
      simp (disch := omega) only [Box.size32, Box.size, asU32_of_lt, uadd_ok, bind_ok, hl,
        List.isEmpty_cons, Bool.false_eq_true, if_false, Nat.zero_add, Nat.add_assoc]
  | .leaf _ _, h => uadd8_asU32 h
  | .uuid _ _, h => uadd8_asU32 h
  | .bfdb _ _ _, h => uadd8_asU32 h
theorem sizeList32_ok : (acc : Nat) → (cs : List Box) → acc + sizeList cs < 4294967296 →
    sizeList32 acc cs = .ok (acc + sizeList cs)
  | acc, [], _ => by simp [sizeList32, sizeList]
  | acc, b :: bs, h => by
    simp only [sizeList] at h
    simp (disch := omega) only [sizeList32, sizeList, b.size32_ok (by omega), bind_ok, uadd_ok,
      sizeList32_ok (acc + b.size) bs (by omega), Nat.add_assoc]
end

end C2pa.C18
