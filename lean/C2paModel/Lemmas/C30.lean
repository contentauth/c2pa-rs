import C2paModel.Model.C30
/-
C30 — helper lemmas: escape/unescape, requote, attribute-list editing, padding lengths.
-/
namespace C2pa.C30

theorem unescGo_some_append (name t : Str) (hn : ∀ c ∈ name, c ≠ ';' ∧ c ≠ '&') :
    ∀ acc, unescGo (some acc) (name ++ t) = unescGo (some (name.reverse ++ acc)) t := by
  induction name with
  | nil => exact fun _ => rfl
  | cons c cs ih =>
    intro acc
    obtain ⟨⟨h1, h2⟩, hcs⟩ := List.forall_mem_cons.1 hn
    rw [List.cons_append, unescGo, if_neg h1, if_neg h2, ih hcs, List.reverse_cons, List.append_assoc]
    rfl

theorem unescGo_ref (name r t : Str) (hn : ∀ c ∈ name, c ≠ ';' ∧ c ≠ '&') (hr : resolve name = some r) :
    unescGo none ('&' :: (name ++ ';' :: t)) = (unescGo none t).map (r ++ ·) := by
  rw [unescGo, if_pos rfl, unescGo_some_append name _ hn, unescGo, if_pos rfl, List.append_nil,
    List.reverse_reverse, hr]

theorem unescGo_eQuot (t : Str) : unescGo none (eQuot ++ t) = (unescGo none t).map ('"' :: ·) :=
  unescGo_ref ['q', 'u', 'o', 't'] ['"'] t (by decide) rfl

theorem escChar_no_specials (c : Char) :
    ∀ x ∈ escChar c, x ≠ '"' ∧ x ≠ '<' ∧ x ≠ '>' ∧ x ≠ '\'' := by
  fun_cases escChar c
  case case6 h1 h2 _ h4 h5 =>
    intro x hx
    rw [List.mem_singleton.1 hx]
    exact ⟨h5, h1, h2, h4⟩
  all_goals decide +kernel

theorem unescGo_escChar (c : Char) (t : Str) :
    unescGo none (escChar c ++ t) = (unescGo none t).map (c :: ·) := by
  fun_cases escChar c
  case case1 h => subst h; exact unescGo_ref ['l', 't'] ['<'] t (by decide) rfl
  case case2 h => subst h; exact unescGo_ref ['g', 't'] ['>'] t (by decide) rfl
  case case3 h => subst h; exact unescGo_ref ['a', 'm', 'p'] ['&'] t (by decide) rfl
  case case4 h => subst h; exact unescGo_ref ['a', 'p', 'o', 's'] ['\''] t (by decide) rfl
  case case5 h => subst h; exact unescGo_eQuot t
  case case6 h3 _ _ => rw [List.singleton_append, unescGo, if_neg h3]

theorem unescGo_escape (s : Str) : unescGo none (escape s) = some s := by
  induction s with
  | nil => simp [escape, unescGo]
  | cons c cs ih => simp [escape, unescGo_escChar, ih]

theorem digitVal_quote (radix : Nat) : digitVal radix '"' = none := by
  simp [digitVal]

theorem parseDigits_quote (radix : Nat) (s : Str) (h : '"' ∈ s) :
    ∀ acc, parseDigits radix acc s = none := by
  intro acc
  fun_induction parseDigits radix acc s
  case case1 => cases h
  case case2 => rfl
  case case3 hd _ _ ih =>
    exact ih ((List.mem_cons.1 h).resolve_left fun e => by rw [← e, digitVal_quote] at hd; cases hd)
  case case4 => rfl

theorem fromStrRadix_quote (radix : Nat) (s : Str) (h : '"' ∈ s) : fromStrRadix radix s = none := by
  fun_cases fromStrRadix radix s
  case case3 => exact parseDigits_quote radix _ h 0
  all_goals rfl

theorem parseCode_quote (s : Str) (h : '"' ∈ s) : parseCode s = none := by
  fun_cases parseCode s
  case case1 hex => exact fromStrRadix_quote 16 hex ((List.mem_cons.1 h).resolve_left (by decide))
  case case2 => exact fromStrRadix_quote 10 s h

theorem parseNumber_quote (s : Str) (h : '"' ∈ s) : parseNumber s = none := by
  unfold parseNumber
  rw [parseCode_quote s h]

theorem resolveNamed_quote (s : Str) (h : '"' ∈ s) : resolveNamed s = none := by
  fun_cases resolveNamed s
  case case6 => rfl
  -- the five names hold no `"`
  all_goals (rename_i hs; subst hs; revert h; decide)

theorem resolve_quote (s : Str) (h : '"' ∈ s) : resolve s = none := by
  fun_cases resolve s
  case case1 num =>
    rw [parseNumber_quote num ((List.mem_cons.1 h).resolve_left (by decide))]; rfl
  case case2 => exact resolveNamed_quote s h

theorem unescGo_some_quote (cs : Str) : ∀ acc : Str, '"' ∈ acc → unescGo (some acc) cs = none := by
  induction cs with
  | nil => intro acc _; rfl
  | cons c cs ih =>
    intro acc h
    unfold unescGo
    split
    · have : '"' ∈ acc.reverse := List.mem_reverse.2 h
      simp [resolve_quote _ this]
    · split
      · rfl
      · exact ih (c :: acc) (List.mem_cons_of_mem _ h)

/-- In a reference a `"` is fatal either way: kept, the name does not resolve
(`unescGo_some_quote`); rewritten, its `&` ends the reference. Outside, `&quot;` reads as `"`. -/
theorem unescGo_requote (r : Str) : ∀ st : Option Str, unescGo st (requote r) = unescGo st r := by
  induction r with
  | nil => exact fun _ => rfl
  | cons c cs ih =>
    intro st
    by_cases hq : c = '"'
    · subst hq
      cases st with
      | none => simp [requote, unescGo_eQuot, ih, unescGo]
      | some acc =>
        rw [unescGo, if_neg (by decide), if_neg (by decide),
          unescGo_some_quote cs ('"' :: acc) (List.mem_cons_self ..)]
        rfl
    · simp only [requote, hq, if_false, List.singleton_append]
      cases st <;> simp only [unescGo, ih]

theorem unescape_requote (r : Str) : unescape (requote r) = unescape r :=
  unescGo_requote r none

theorem requote_of_no_quote (r : Str) (h : '"' ∉ r) : requote r = r := by
  induction r with
  | nil => rfl
  | cons c cs ih =>
    have hc : c ≠ '"' := fun e => h (e ▸ List.mem_cons_self ..)
    have hcs : '"' ∉ cs := fun m => h (List.mem_cons_of_mem _ m)
    simp [requote, hc, ih hcs]

theorem requote_append (a b : Str) : requote (a ++ b) = requote a ++ requote b := by
  induction a with
  | nil => rfl
  | cons c cs ih => simp [requote, ih]

theorem requote_no_quote (r : Str) : '"' ∉ requote r := by
  induction r with
  | nil => simp [requote]
  | cons c cs ih =>
    by_cases hc : c = '"'
    · subst hc; simp only [requote, if_true, List.mem_append, not_or]; exact ⟨by decide, ih⟩
    · simp only [requote, hc, if_false, List.mem_append, not_or]
      exact ⟨by simpa using fun e => hc e.symm, ih⟩

theorem requote_idem (r : Str) : requote (requote r) = requote r :=
  requote_of_no_quote _ (requote_no_quote r)

/-- what the attribute loop of `add_xmp_key` writes for an attribute with another key
(`editAttr_of_ne`): the same key, the value passed through `double_quotable` -/
def reqAttr (a : Attr) : Attr := { key := a.key, val := requote a.val }

theorem editAttr_key (k ev : Str) (a : Attr) : (editAttr k ev a).key = a.key := by
  unfold editAttr; split
  · rename_i h; exact h.symm
  · rfl

theorem editAttr_of_ne (k ev : Str) (a : Attr) (h : a.key ≠ k) : editAttr k ev a = reqAttr a := by
  simp [editAttr, h, reqAttr]

theorem editAttr_of_eq (k ev : Str) (a : Attr) (h : a.key = k) : editAttr k ev a = ⟨k, ev⟩ := by
  simp [editAttr, h]

theorem forall_mem_editAttrs {P : Attr → Prop} (k ev : Str) (as : List Attr) (hnew : P ⟨k, ev⟩)
    (hold : ∀ a ∈ as, P (editAttr k ev a)) : ∀ a ∈ editAttrs k ev as, P a := by
  intro a ha
  unfold editAttrs at ha
  have hmap : ∀ a ∈ as.map (editAttr k ev), P a := by
    intro a ha
    obtain ⟨b, hb, rfl⟩ := List.mem_map.1 ha
    exact hold b hb
  split at ha
  · exact hmap a ha
  · rcases List.mem_append.1 ha with h | h
    · exact hmap a h
    · rw [List.mem_singleton.1 h]; exact hnew

theorem findAttr_eq (k : Str) (as : List Attr) : findAttr k as = as.find? (·.key = k) := by
  induction as with
  | nil => rfl
  | cons a as ih => by_cases h : a.key = k <;> simp [findAttr, h, ih]

theorem findAttr_append (k : Str) (as bs : List Attr) :
    findAttr k (as ++ bs) = (findAttr k as).or (findAttr k bs) := by
  simp only [findAttr_eq, List.find?_append]

theorem findAttr_none_iff (k : Str) (as : List Attr) :
    findAttr k as = none ↔ as.any (fun a => a.key = k) = false := by
  simp [findAttr_eq]

theorem findAttr_key {k : Str} {as : List Attr} {a : Attr} (h : findAttr k as = some a) : a.key = k := by
  rw [findAttr_eq] at h; simpa using List.find?_some h

theorem findAttr_map_edit (k ev k' : Str) (as : List Attr) :
    findAttr k' (as.map (editAttr k ev)) = (findAttr k' as).map (editAttr k ev) := by
  simp only [findAttr_eq, List.find?_map, Function.comp_def, editAttr_key]

theorem findAttr_editAttrs_self (k ev : Str) (as : List Attr) :
    findAttr k (editAttrs k ev as) = some ⟨k, ev⟩ := by
  unfold editAttrs
  split
  · rename_i h
    cases hf : findAttr k as with
    | none => rw [(findAttr_none_iff k as).1 hf] at h; cases h
    | some a => rw [findAttr_map_edit, hf, Option.map_some, editAttr_of_eq _ _ _ (findAttr_key hf)]
  · rename_i h
    rw [findAttr_append, findAttr_map_edit, (findAttr_none_iff k as).2 (Bool.eq_false_iff.2 h)]
    simp [findAttr]

theorem findAttr_editAttrs_other (k ev k' : Str) (hk : k' ≠ k) (as : List Attr) :
    findAttr k' (editAttrs k ev as) = (findAttr k' as).map reqAttr := by
  have hmap : findAttr k' (as.map (editAttr k ev)) = (findAttr k' as).map reqAttr := by
    rw [findAttr_map_edit]
    cases hf : findAttr k' as with
    | none => rfl
    | some a => rw [Option.map_some, Option.map_some, editAttr_of_ne _ _ _ (findAttr_key hf ▸ hk)]
  unfold editAttrs
  split
  · exact hmap
  · rw [findAttr_append, hmap]
    simp [findAttr, Ne.symm hk]

theorem filter_map_edit (k ev : Str) (as : List Attr) :
    (as.map (editAttr k ev)).filter (fun a => !decide (a.key = k)) =
      (as.filter (fun a => !decide (a.key = k))).map reqAttr := by
  rw [List.filter_map]
  simp only [Function.comp_def, editAttr_key]
  exact List.map_congr_left fun a ha => editAttr_of_ne k ev a (by simpa using (List.mem_filter.1 ha).2)

theorem filter_editAttrs (k ev : Str) (as : List Attr) :
    (editAttrs k ev as).filter (fun a => !decide (a.key = k)) =
      (as.filter (fun a => !decide (a.key = k))).map reqAttr := by
  unfold editAttrs
  split
  · exact filter_map_edit k ev as
  · rw [List.filter_append, filter_map_edit]; simp

theorem map_key_edit (k ev : Str) (as : List Attr) :
    (as.map (editAttr k ev)).map (·.key) = as.map (·.key) := by
  simp only [List.map_map, Function.comp_def, editAttr_key]

theorem any_key_iff (k : Str) (as : List Attr) :
    as.any (fun a => decide (a.key = k)) = true ↔ k ∈ as.map (·.key) := by
  simp [List.any_eq_true, List.mem_map]

theorem dupKeys_false_iff (as : List Attr) : dupKeys as = false ↔ (as.map (·.key)).Nodup := by
  induction as with
  | nil => simp [dupKeys]
  | cons a as ih =>
    rw [dupKeys, Bool.or_eq_false_iff, ih, List.map_cons, List.nodup_cons, ← any_key_iff,
      Bool.not_eq_true]

theorem dupKeys_editAttrs (k ev : Str) (as : List Attr) (h : dupKeys as = false) :
    dupKeys (editAttrs k ev as) = false := by
  rw [dupKeys_false_iff] at h ⊢
  unfold editAttrs
  split
  · rw [map_key_edit]; exact h
  · rename_i hn
    rw [List.map_append, map_key_edit]
    have hk : k ∉ as.map (·.key) := fun m => hn ((any_key_iff k as).2 m)
    refine List.nodup_append.2 ⟨h, List.pairwise_singleton _ _, fun a ha b hb e => ?_⟩
    rw [e, List.mem_singleton.1 hb] at ha
    exact hk ha

theorem any_editAttrs (k ev : Str) (as : List Attr) :
    (editAttrs k ev as).any (fun a => decide (a.key = k)) = true := by
  unfold editAttrs
  split
  · rename_i h; simpa only [List.any_map, Function.comp_def, editAttr_key] using h
  · simp

theorem editAttr_idem (k ev : Str) (a : Attr) : editAttr k ev (editAttr k ev a) = editAttr k ev a := by
  by_cases h : a.key = k
  · simp [editAttr, h]
  · simp [editAttr, h, requote_idem]

theorem editAttrs_of_any (k ev : Str) (as : List Attr)
    (h : as.any (fun a => decide (a.key = k)) = true) : editAttrs k ev as = as.map (editAttr k ev) := by
  unfold editAttrs; rw [if_pos h]

theorem editAttrs_idem (k ev : Str) (as : List Attr) :
    editAttrs k ev (editAttrs k ev as) = editAttrs k ev as := by
  rw [editAttrs_of_any k ev _ (any_editAttrs k ev as)]
  unfold editAttrs
  split
  · simp [List.map_map, Function.comp_def, editAttr_idem]
  · have hlast : editAttr k ev ({ key := k, val := ev } : Attr) = { key := k, val := ev } := by
      simp [editAttr]
    simp [List.map_append, List.map_map, Function.comp_def, editAttr_idem, hlast]

theorem utf8Len_append (a b : Str) : utf8Len (a ++ b) = utf8Len a + utf8Len b := by
  induction a with
  | nil => simp [utf8Len]
  | cons c cs ih => simp [utf8Len, ih, Nat.add_assoc]

theorem utf8Len_replicate_space (n : Nat) : utf8Len (List.replicate n ' ') = n := by
  induction n with
  | zero => rfl
  | succ n ih =>
    have : Char.utf8Size ' ' = 1 := by decide
    simp [List.replicate_succ, utf8Len, ih, this, Nat.add_comm]

theorem utf8Len_padChunks (r : Nat) : utf8Len (padChunks r) = r := by
  fun_induction padChunks r
  case case1 => rfl
  case case2 r hr chunk r' ih =>
    rw [utf8Len_append, utf8Len_replicate_space]
    split
    · show min r 99 + 0 = r
      omega
    · rename_i h0
      show min r 99 + (1 + utf8Len (padChunks (r' - 1))) = r
      rw [ih h0]
      omega

theorem utf8Len_padding (n : Nat) : utf8Len (padding n) = max n 1 := by
  have hnl : Char.utf8Size '\n' = 1 := by decide
  unfold padding
  split
  · rename_i h; simp [utf8Len, hnl]; omega
  · rename_i h
    simp only [utf8Len, utf8Len_append, utf8Len_padChunks, hnl]
    omega

theorem utf8Len_xmpEnd : utf8Len xmpEnd = 19 := by decide

theorem blank_padChunks (r : Nat) : ∀ c ∈ padChunks r, c = ' ' ∨ c = '\n' := by
  fun_induction padChunks r
  case case1 => exact nofun
  case case2 r hr chunk r' ih =>
    intro c hc
    rcases List.mem_append.1 hc with hc | hc
    · exact .inl (List.eq_of_mem_replicate hc)
    · split at hc
      · cases hc
      · rename_i h0
        rcases List.mem_cons.1 hc with hc | hc
        · exact .inr hc
        · exact ih h0 c hc

theorem blank_padding (n : Nat) : ∀ c ∈ padding n, c = ' ' ∨ c = '\n' := by
  unfold padding
  split
  · intro c hc; simp at hc; exact Or.inr hc
  · intro c hc
    simp only [List.mem_cons, List.mem_append, List.not_mem_nil, or_false] at hc
    rcases hc with hc | hc | hc
    · exact Or.inr hc
    · exact blank_padChunks _ c hc
    · exact Or.inr hc

theorem padding_max_one (n : Nat) : padding (max n 1) = padding n := by
  unfold padding
  by_cases h : n = 0
  · subst h; rfl
  · have : max n 1 = n := by omega
    rw [this]

end C2pa.C30
