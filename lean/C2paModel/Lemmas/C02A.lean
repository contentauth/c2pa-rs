import C2paModel.Model.C02
/-
C02, layer A (assertion loop of `verify_internal`). The tracking list is read as a multiset: `cnt` and
`ucnt`, defined here, count boxes and declared URIs by (label, instance). The model's recursions
`findBox`, `findManifest`, `eraseKey` and these two counters are core's `find?`, `eraseP`, `count`,
`countP` (the `*_eq_*` equations and `map_key_eraseKey`), and the facts about them are read off core's
lemmas. Then: what a failure-free log and a passing ingredient reference say.
-/
namespace C2pa.C02
open C2pa.C18

/-- number of assertion boxes with (label, instance) `k` -/
def cnt (k : Key) : List AssertionBox → Nat
  | [] => 0
  | a :: as => (if a.key = k then 1 else 0) + cnt k as

/-- number of hashed URIs with (label, instance) `k` that reach the removal from the tracking list -/
def ucnt (k : Key) : List HashedUri → Nat
  | [] => 0
  | u :: us => (if u.key = k ∧ u.target ≠ .malformed then 1 else 0) + ucnt k us

theorem ucnt_cons (k : Key) (u : HashedUri) (us : List HashedUri) :
    ucnt k (u :: us) = (if u.key = k ∧ u.target ≠ .malformed then 1 else 0) + ucnt k us := rfl

theorem findBox_eq_find? (k : Key) : ∀ as : List AssertionBox, findBox k as = as.find? (·.key = k)
  | [] => rfl
  | a :: as => by
    rw [findBox, List.find?_cons, findBox_eq_find? k as]
    by_cases h : a.key = k <;> simp [h]

theorem findManifest_eq_find? (l : String) : ∀ ms : List Manifest, findManifest l ms = ms.find? (·.label = l)
  | [] => rfl
  | m :: ms => by
    rw [findManifest, List.find?_cons, findManifest_eq_find? l ms]
    by_cases h : m.label = l <;> simp [h]

theorem ucnt_eq_countP (k : Key) : ∀ l : List HashedUri,
    ucnt k l = l.countP (fun u => u.key = k ∧ u.target ≠ .malformed)
  | [] => rfl
  | u :: us => by
    rw [ucnt, List.countP_cons, ucnt_eq_countP k us, Nat.add_comm]
    by_cases h : u.key = k ∧ u.target ≠ .malformed <;> simp [h]

theorem eraseKey_eq_eraseP (k : Key) : ∀ t : List AssertionBox, eraseKey k t = t.eraseP (·.key = k)
  | [] => rfl
  | a :: as => by
    rw [eraseKey, List.eraseP_cons, eraseKey_eq_eraseP k as]
    by_cases h : a.key = k <;> simp [h]

theorem cnt_eq_count (k : Key) : ∀ t : List AssertionBox, cnt k t = (t.map (·.key)).count k
  | [] => rfl
  | a :: as => by
    rw [cnt, List.map_cons, List.count_cons, cnt_eq_count k as, Nat.add_comm]
    simp only [beq_iff_eq]

theorem map_key_eraseKey (k : Key) : ∀ t : List AssertionBox,
    (eraseKey k t).map (·.key) = (t.map (·.key)).erase k
  | [] => rfl
  | a :: as => by
    rw [eraseKey, List.map_cons, List.erase_cons]
    by_cases h : a.key = k
    · simp [h]
    · simp [h, map_key_eraseKey k as]

theorem findBox_some {k : Key} {as : List AssertionBox} {a : AssertionBox}
    (h : findBox k as = some a) : a ∈ as ∧ a.key = k := by
  rw [findBox_eq_find?] at h
  exact ⟨List.mem_of_find?_eq_some h, by simpa using List.find?_some h⟩

theorem findManifest_some {l : String} {ms : List Manifest} {m : Manifest}
    (h : findManifest l ms = some m) : m ∈ ms ∧ m.label = l := by
  rw [findManifest_eq_find?] at h
  exact ⟨List.mem_of_find?_eq_some h, by simpa using List.find?_some h⟩

theorem findBox_of_mem {k : Key} : ∀ {t : List AssertionBox} {a : AssertionBox}, a ∈ t → a.key = k →
    ∃ a', findBox k t = some a'
  | t, a, ha, hk => by
    rw [findBox_eq_find?]
    exact Option.isSome_iff_exists.1 (List.find?_isSome.2 ⟨a, ha, decide_eq_true hk⟩)

theorem cnt_pos_iff {k : Key} {l : List AssertionBox} : 1 ≤ cnt k l ↔ ∃ a ∈ l, a.key = k := by
  rw [cnt_eq_count]
  exact List.count_pos_iff.trans (by simp)

theorem ucnt_pos_iff {k : Key} {l : List HashedUri} :
    1 ≤ ucnt k l ↔ ∃ u ∈ l, u.key = k ∧ u.target ≠ .malformed := by
  rw [ucnt_eq_countP]
  exact List.countP_pos_iff.trans (by simp)

theorem ucnt_pos_of_mem {k : Key} : ∀ {l : List HashedUri} {u : HashedUri}, u ∈ l → u.key = k →
    u.target ≠ .malformed → 1 ≤ ucnt k l
  | _, u, h, hk, ht => ucnt_pos_iff.2 ⟨u, h, hk, ht⟩

theorem cnt_eraseKey (k k' : Key) (t : List AssertionBox) :
    cnt k' (eraseKey k t) = cnt k' t - (if k = k' then 1 else 0) := by
  rw [cnt_eq_count, cnt_eq_count, map_key_eraseKey, List.count_erase]
  simp only [beq_iff_eq]

theorem cnt_eraseKey_eq (k k' : Key) : ∀ (t : List AssertionBox),
    cnt k' (eraseKey k t) = cnt k' t - (if k = k' ∧ 1 ≤ cnt k t then 1 else 0) := fun t => by
    rw [cnt_eraseKey]
    by_cases hk : k = k'
    · subst hk; by_cases h1 : 1 ≤ cnt k t
      · rw [if_pos rfl, if_pos ⟨rfl, h1⟩]
      · -- no box of key `k`: the truncated subtraction of `cnt_eraseKey` takes 1 off 0
        rw [if_pos rfl, if_neg (fun h => h1 h.2)]; omega
    · rw [if_neg hk, if_neg (fun h => hk h.1)]

/-- the tracking list is the multiset difference "boxes minus declared URIs", key by key -/
theorem cnt_track_eq (k : Key) : ∀ (us : List HashedUri) (t : List AssertionBox),
    cnt k (track us t) = cnt k t - ucnt k us
  | [], t => rfl
  | hu :: us, t => by
    rw [track, cnt_track_eq k us, ucnt]
    by_cases hm : hu.target = .malformed
    · rw [if_pos hm, if_neg (fun h => h.2 hm), Nat.zero_add]
    · rw [if_neg hm, cnt_eraseKey, Nat.sub_sub]
      simp only [hm, ne_eq, not_false_eq_true, and_true]

theorem mem_eraseKey {k : Key} {a : AssertionBox} {t : List AssertionBox} (h : a ∈ eraseKey k t) : a ∈ t := by
  rw [eraseKey_eq_eraseP] at h
  exact List.mem_of_mem_eraseP h

theorem mem_track {a : AssertionBox} : ∀ {us : List HashedUri} {t : List AssertionBox},
    a ∈ track us t → a ∈ t
  | [], _, h => h
  | hu :: us, t, h => by
    unfold track at h
    by_cases hm : hu.target = .malformed
    · simp only [hm, if_true] at h
      exact mem_track h
    · simp only [hm, if_false] at h
      exact mem_eraseKey (mem_track h)

theorem eq_findBox_of_cnt_le_one {k : Key} : ∀ {t : List AssertionBox} {a a' : AssertionBox},
    findBox k t = some a' → a ∈ t → a.key = k → cnt k t ≤ 1 → a = a'
  | x :: xs, a, a', hf, ha, hk, hc => by
    unfold findBox at hf
    unfold cnt at hc
    by_cases hx : x.key = k
    · simp only [hx, if_true] at hf hc
      have hxa : x = a' := by simpa using hf
      rcases List.mem_cons.1 ha with rfl | hm
      · exact hxa
      · have := cnt_pos_iff.2 ⟨a, hm, hk⟩
        omega
    · simp only [hx, if_false, Nat.zero_add] at hf hc
      rcases List.mem_cons.1 ha with rfl | hm
      · exact absurd hk hx
      · exact eq_findBox_of_cnt_le_one hf hm hk hc

theorem ucnt_le_one {k : Key} {us : List HashedUri} (h : (us.map (·.key)).Nodup) : ucnt k us ≤ 1 := by
  have := List.nodup_iff_count.1 h k
  rw [List.count_eq_countP, List.countP_map] at this
  rw [ucnt_eq_countP]
  exact Nat.le_trans (List.countP_mono_left fun u _ hu => by simpa using (of_decide_eq_true hu).1) this

/-! ### a failure-free claim verification, taken apart -/

/-- what one round of the assertion loop requires when it logs nothing -/
def UriOk (reds : List Redaction) (m : Manifest) (hu : HashedUri) : Prop :=
  hu.target ≠ .malformed ∧ (∀ l, hu.target = .manifest l → l = m.label) ∧
  (redactedBy reds m.label hu.key = true ∨
    ∃ a, findBox hu.key m.assertions = some a ∧ a.body = hu.pre)

/-- the comparison of `uriFailures` behind its target test, with the two failures left free -/
theorem compared_nil_iff {red : Bool} {o : Option AssertionBox} {pre : Bytes} {f g : Failure} :
    (if red then [] else match o with
      | none => [f]
      | some a => if a.body = pre then [] else [g]) = [] ↔ (red = true ∨ ∃ a, o = some a ∧ a.body = pre) := by
  cases red <;> cases o <;> simp

theorem uriFailures_nil_iff (reds : List Redaction) (m : Manifest) (hu : HashedUri) :
    uriFailures reds m hu = [] ↔ UriOk reds m hu := by
  unfold uriFailures UriOk
  cases ht : hu.target with
  | malformed => simp
  | relative =>
    simp only [List.nil_append, ne_eq, reduceCtorEq, not_false_eq_true, false_implies, implies_true, true_and]
    exact compared_nil_iff
  | manifest l =>
    simp only [ne_eq, reduceCtorEq, not_false_eq_true, Target.manifest.injEq, true_and, forall_eq']
    by_cases hl : l = m.label
    · simp only [hl, if_true, List.nil_append, true_and]
      exact compared_nil_iff
    · simp [hl]

theorem checkSig_nil_iff (dec : Dec) (m : Manifest) :
    checkSig dec m = [] ↔ (dec.sigOf m.sigBox).signed = m.claim := by
  unfold checkSig payloadUsed
  split <;> simp [*]

theorem verifyClaim_nil_iff (dec : Dec) (reds : List Redaction) (m : Manifest) :
    (verifyClaim dec reds m).log = [] ↔
      (dec.sigOf m.sigBox).signed = m.claim ∧
      (∀ hu ∈ dec.decl m.claim, UriOk reds m hu) ∧
      track (dec.decl m.claim) m.assertions = [] := by
  simp only [verifyClaim, List.append_eq_nil_iff, List.flatMap_eq_nil_iff, List.map_eq_nil_iff,
    checkSig_nil_iff, uriFailures_nil_iff, and_assoc]

theorem verifyClaim_stop_iff (dec : Dec) (reds : List Redaction) (m : Manifest) :
    (verifyClaim dec reds m).stop = true ↔ track (dec.decl m.claim) m.assertions ≠ [] := by
  unfold verifyClaim
  cases track (dec.decl m.claim) m.assertions <;> simp

theorem verifyClaim_nil_not_stop {dec : Dec} {reds : List Redaction} {m : Manifest}
    (h : (verifyClaim dec reds m).log = []) : (verifyClaim dec reds m).stop = false := by
  have := ((verifyClaim_nil_iff dec reds m).1 h).2.2
  cases hs : (verifyClaim dec reds m).stop with
  | false => rfl
  | true => exact absurd this ((verifyClaim_stop_iff dec reds m).1 hs)

/-! ### an ingredient reference that passes the hash comparisons -/

theorem refFailures_log_nil_not_stop {reds : List Redaction} {r : IngRef} {t : Manifest}
    (h : (refFailures reds r t).log = []) : (refFailures reds r t).stop = false := by
  unfold refFailures at h ⊢
  by_cases hr : hasRed reds r.target = true
  · simp only [hr, Bool.not_true, Bool.false_eq_true, if_false] at h ⊢
    by_cases hv : t.version > 1
    · simp only [hv, if_true] at h ⊢
      cases hs : r.sigPre with
      | none => simp [hs] at h
      | some s => simp
    · simp [hv]
  · simp [hr]

/-- what a reference that passes the hash comparisons of `ingredient_checks` was compared with:
the manifest hash when no redaction mentions the target, the signature hash when one does (and
the referenced claim is v2+) -/
theorem refFailures_log_nil {reds : List Redaction} {r : IngRef} {t : Manifest}
    (h : (refFailures reds r t).log = []) :
    (hasRed reds r.target = false →
      r.manifestPre = .box t.body ∨ r.manifestPre = .claim t.claim) ∧
    (hasRed reds r.target = true → t.version > 1 → r.sigPre = some t.sigBox) := by
  unfold refFailures at h
  constructor
  · intro hr
    simp only [hr, Bool.not_false, if_true] at h
    by_cases e : r.manifestPre = .box t.body ∨ r.manifestPre = .claim t.claim
    · exact e
    · rw [if_neg e] at h; cases h
  · intro hr hv
    simp only [hr, Bool.not_true, Bool.false_eq_true, if_false, hv, if_true] at h
    cases hs : r.sigPre with
    | none => rw [hs] at h; cases h
    | some s =>
      rw [hs] at h
      by_cases e : t.sigBox = s
      · rw [e]
      · simp only [e, if_false] at h; cases h

end C2pa.C02
