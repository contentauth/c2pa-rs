import C2paModel.Lemmas.C18Base
/-
C18 — Boolean equality on trees and results, used to evaluate concrete witnesses in the kernel.
-/
namespace C2pa.C18

mutual
/-- Boolean equality of trees (the derive handler does not cover nested inductives) -/
def Box.beq : Box → Box → Bool
  | .super d cs, .super d' cs' => decide (d = d') && beqList cs cs'
  | .leaf k x, .leaf k' x' => decide (k = k') && decide (x = x')
  | .uuid u x, .uuid u' x' => decide (u = u') && decide (x = x')
  | .bfdb t m f, .bfdb t' m' f' => decide (t = t') && decide (m = m') && decide (f = f')
  | _, _ => false
def beqList : List Box → List Box → Bool
  | [], [] => true
  | a :: as, b :: bs => a.beq b && beqList as bs
  | _, _ => false
end

mutual
theorem Box.beq_sound : (a b : Box) → a.beq b = true → a = b
  | .super d cs, b, h => by
    cases b with
    | super d' cs' =>
      simp [Box.beq] at h
      rw [h.1, beqList_sound cs cs' h.2]
    | _ => simp [Box.beq] at h
  | .leaf k x, b, h => by
    cases b with
    | leaf k' x' => simp [Box.beq] at h; rw [h.1, h.2]
    | _ => simp [Box.beq] at h
  | .uuid u x, b, h => by
    cases b with
    | uuid u' x' => simp [Box.beq] at h; rw [h.1, h.2]
    | _ => simp [Box.beq] at h
  | .bfdb t m f, b, h => by
    cases b with
    | bfdb t' m' f' => simp [Box.beq] at h; rw [h.1.1, h.1.2, h.2]
    | _ => simp [Box.beq] at h
theorem beqList_sound : (as bs : List Box) → beqList as bs = true → as = bs
  | [], [], _ => rfl
  | a :: as, b :: bs, h => by
    simp [beqList] at h
    rw [a.beq_sound b h.1, beqList_sound as bs h.2]
  | [], _ :: _, h => by simp [beqList] at h
  | _ :: _, [], h => by simp [beqList] at h
end

def isOk (r : Res (Box × Nat)) (b : Box) (e : Nat) : Bool :=
  match r with
  | .ok (b', e') => b'.beq b && e' == e
  | _ => false

theorem isOk_sound {r : Res (Box × Nat)} {b : Box} {e : Nat} (h : isOk r b e = true) : r = .ok (b, e) := by
  unfold isOk at h
  split at h
  · simp at h; rw [Box.beq_sound _ _ h.1, h.2]
  · cases h

def isErr (r : Res (Box × Nat)) (er : Err) : Bool :=
  match r with
  | .err e => e == er
  | _ => false

theorem isErr_sound {r : Res (Box × Nat)} {er : Err} (h : isErr r er = true) : r = .err er := by
  unfold isErr at h
  split at h
  · simp at h; rw [h]
  · cases h

end C2pa.C18
