import C2paModel.Model.C27
import C2paModel.Lemmas.List
import C2paModel.Lemmas.Split
/-
Lemmas about the address parsers, the byte-string helpers and the host normalisation of
Model/C27.lean.
-/
namespace C2pa.C27

/-- A mask of `j` ones above `k` zeros keeps the bits of `s` from position `k` up: the bit tests of
the code become the numeric ranges of the statement. -/
theorem and_prefix_mask (s j k : Nat) (hs : s < 2 ^ (j + k)) :
    s &&& ((2 ^ j - 1) * 2 ^ k) = s / 2 ^ k * 2 ^ k := by
  have hlt : s / 2 ^ k < 2 ^ j := Nat.div_lt_of_lt_mul (by rw [← Nat.pow_add, Nat.add_comm]; exact hs)
  have h1 : (s &&& ((2 ^ j - 1) * 2 ^ k)) / 2 ^ k = s / 2 ^ k := by
    rw [Nat.and_div_two_pow, Nat.mul_div_cancel _ (Nat.two_pow_pos k), Nat.and_two_pow_sub_one_eq_mod,
      Nat.mod_eq_of_lt hlt]
  have h2 : (s &&& ((2 ^ j - 1) * 2 ^ k)) % 2 ^ k = 0 := by
    rw [Nat.and_mod_two_pow, Nat.mul_mod_left, Nat.and_zero]
  have h3 := Nat.div_add_mod (s &&& ((2 ^ j - 1) * 2 ^ k)) (2 ^ k)
  rw [h1, h2, Nat.add_zero, Nat.mul_comm] at h3
  exact h3.symm

/-- `100.64.0.0/10` on the second octet -/
theorem mask_c0 (b : Nat) (hb : b < 256) : (b &&& 0xc0 = 64) ↔ (64 ≤ b ∧ b ≤ 127) := by
  rw [(and_prefix_mask b 2 6 hb : b &&& 0xc0 = b / 64 * 64)]; omega

/-- `ff00::/8` -/
theorem mask_ff00 (s : Nat) (hs : s < 65536) : (s &&& 0xff00 = 0xff00) ↔ 0xff00 ≤ s := by
  rw [(and_prefix_mask s 8 8 hs : s &&& 0xff00 = s / 256 * 256)]; omega

/-- `fc00::/7` -/
theorem mask_fe00 (s : Nat) (hs : s < 65536) :
    (s &&& 0xfe00 = 0xfc00) ↔ (0xfc00 ≤ s ∧ s ≤ 0xfdff) := by
  rw [(and_prefix_mask s 7 9 hs : s &&& 0xfe00 = s / 512 * 512)]; omega

/-- `fe80::/10` -/
theorem mask_ffc0 (s : Nat) (hs : s < 65536) :
    (s &&& 0xffc0 = 0xfe80) ↔ (0xfe80 ≤ s ∧ s ≤ 0xfebf) := by
  rw [(and_prefix_mask s 10 6 hs : s &&& 0xffc0 = s / 64 * 64)]; omega

/-- Decimal digits of an octet, no leading zeros. -/
def renderDec (n : Nat) : Bytes :=
  if n < 10 then [48 + n]
  else if n < 100 then [48 + n / 10, 48 + n % 10]
  else [48 + n / 100, 48 + n / 10 % 10, 48 + n % 10]

/-- `a.b.c.d` -/
def dotted (a b c d : Nat) : Bytes :=
  renderDec a ++ 46 :: (renderDec b ++ 46 :: (renderDec c ++ 46 :: renderDec d))

theorem renderDec_digits : ∀ n, n < 256 → (renderDec n).all isDigit = true := by decide +kernel
theorem renderDec_val : ∀ n, n < 256 → dec3Val (renderDec n) = some n := by decide +kernel
theorem renderDec_ne_nil (n : Nat) : renderDec n ≠ [] := by
  unfold renderDec
  split
  · simp
  · split <;> simp

theorem readDec3_render (n : Nat) (hn : n < 256) (rest : Bytes)
    (hrest : ∀ x ∈ rest.head?, isDigit x = false) :
    readDec3 (renderDec n ++ rest) = some (n, rest) := by
  obtain ⟨h1, h2⟩ := Data.span_append isDigit (renderDec n) rest
    (List.all_eq_true.1 (renderDec_digits n hn)) hrest
  unfold readDec3
  rw [h1, h2, renderDec_val n hn]

theorem readV4_dotted (a b c d : Nat) (ha : a < 256) (hb : b < 256) (hc : c < 256) (hd : d < 256) :
    readV4 (dotted a b c d) = some ((a, b, c, d), []) := by
  have dot : ∀ t : Bytes, ∀ x ∈ (46 :: t).head?, isDigit x = false := fun _ _ hx => by cases hx; rfl
  unfold readV4 dotted
  simp only [readSep, Nat.lt_irrefl, if_false]
  rw [readDec3_render a ha _ (dot _)]
  simp only [show (1 : Nat) > 0 by decide, show (2 : Nat) > 0 by decide, show (3 : Nat) > 0 by decide,
    if_true, expect]
  rw [readDec3_render b hb _ (dot _)]
  simp only [if_true]
  rw [readDec3_render c hc _ (dot _)]
  simp only [if_true]
  have := readDec3_render d hd [] nofun
  rw [List.append_nil] at this
  rw [this]

theorem parseIp_dotted (a b c d : Nat) (ha : a < 256) (hb : b < 256) (hc : c < 256) (hd : d < 256) :
    parseIp (dotted a b c d) = some (.v4 a b c d) := by
  unfold parseIp
  rw [readV4_dotted a b c d ha hb hc hd]
  rfl

theorem lower_id (s : Bytes) (h : ∀ x ∈ s, ¬ (65 ≤ x ∧ x ≤ 90)) : lower s = s := by
  unfold lower
  induction s with
  | nil => rfl
  | cons y ys ih =>
    have hy := h y (List.mem_cons_self ..)
    simp only [List.map_cons, lowerByte, hy, if_false]
    rw [ih (fun x hx => h x (List.mem_cons_of_mem _ hx))]

theorem lower_lower (s : Bytes) : lower (lower s) = lower s :=
  lower_id _ fun x hx => by
    obtain ⟨b, _, rfl⟩ := List.mem_map.1 hx
    unfold lowerByte
    split <;> omega

theorem stripSuffix1_concat (c : Nat) (s : Bytes) : stripSuffix1 c (s ++ [c]) = some s := by
  simp [stripSuffix1]

theorem stripSuffix1_none (c : Nat) (s : Bytes) (h : s.getLast? ≠ some c) : stripSuffix1 c s = none := by
  simp [stripSuffix1, h]

theorem stripPrefix_some_iff (p s r : Bytes) : stripPrefix p s = some r ↔ s = p ++ r := by
  unfold stripPrefix
  split
  · rename_i hp
    obtain ⟨t, rfl⟩ := List.isPrefixOf_iff_prefix.1 hp
    simp
  · rename_i hp
    exact ⟨nofun, fun e => absurd (List.isPrefixOf_iff_prefix.2 ⟨r, e.symm⟩) hp⟩

theorem stripPrefix_none_iff (p s : Bytes) : stripPrefix p s = none ↔ ∀ r, s ≠ p ++ r := by
  rw [Option.eq_none_iff_forall_ne_some]
  exact forall_congr' fun r => not_congr (stripPrefix_some_iff p s r)

theorem stripBrackets_other (s : Bytes) (h : s.head? ≠ some 91) : stripBrackets s = s := by
  unfold stripBrackets
  split
  · exact absurd rfl h
  · rfl

theorem stripBrackets_bracketed (s : Bytes) : stripBrackets (91 :: (s ++ [93])) = s := by
  simp [stripBrackets, stripSuffix1_concat]

theorem stripBrackets_of_last (s : Bytes) (h : s.getLast? ≠ some 93) : stripBrackets s = s := by
  unfold stripBrackets
  split
  · rename_i t
    rw [stripSuffix1_none 93 t fun e => h (by rw [List.getLast?_cons, e]; rfl)]
    rfl
  · rfl

/-- A host text that `normalize_host` hands back as it is: lower case already, no opening bracket,
no trailing dot. -/
def Clean (s : Bytes) : Prop := lower s = s ∧ s.head? ≠ some 91 ∧ s.getLast? ≠ some 46

theorem normalizeHost_plain (s : Bytes) (hl : lower s = s) (h91 : s.head? ≠ some 91)
    (h46 : s.getLast? ≠ some 46) : normalizeHost s = s := by
  simp only [normalizeHost, stripBrackets_other s h91, stripSuffix1_none 46 s h46, Option.getD_none, hl]

theorem normalizeHost_dot (s : Bytes) (hl : lower s = s) : normalizeHost (s ++ [46]) = s := by
  simp only [normalizeHost, stripBrackets_of_last (s ++ [46]) (by simp), stripSuffix1_concat,
    Option.getD_some, hl]

theorem normalizeHost_brackets (s : Bytes) (hl : lower s = s) (h46 : s.getLast? ≠ some 46) :
    normalizeHost (91 :: (s ++ [93])) = s := by
  simp only [normalizeHost, stripBrackets_bracketed, stripSuffix1_none 46 s h46, Option.getD_none, hl]

theorem normalizeHost_clean {s : Bytes} (h : Clean s) :
    normalizeHost s = s ∧ normalizeHost (s ++ [46]) = s ∧ normalizeHost (91 :: (s ++ [93])) = s :=
  ⟨normalizeHost_plain s h.1 h.2.1 h.2.2, normalizeHost_dot s h.1, normalizeHost_brackets s h.1 h.2.2⟩

theorem dotted_digitDot (a b c d : Nat) (ha : a < 256) (hb : b < 256) (hc : c < 256) (hd : d < 256) :
    ∀ x ∈ dotted a b c d, isDigit x = true ∨ x = 46 := by
  intro x hx
  unfold dotted at hx
  simp only [List.mem_append, List.mem_cons] at hx
  rcases hx with h | rfl | h | rfl | h | rfl | h
  · exact Or.inl (List.all_eq_true.1 (renderDec_digits a ha) x h)
  · exact Or.inr rfl
  · exact Or.inl (List.all_eq_true.1 (renderDec_digits b hb) x h)
  · exact Or.inr rfl
  · exact Or.inl (List.all_eq_true.1 (renderDec_digits c hc) x h)
  · exact Or.inr rfl
  · exact Or.inl (List.all_eq_true.1 (renderDec_digits d hd) x h)

theorem dotted_last (a b c d : Nat) (hd : d < 256) :
    ∃ x, (dotted a b c d).getLast? = some x ∧ isDigit x = true := by
  have hne := renderDec_ne_nil d
  refine ⟨(renderDec d).getLast hne, ?_,
    List.all_eq_true.1 (renderDec_digits d hd) _ (List.getLast_mem hne)⟩
  have : dotted a b c d =
      (renderDec a ++ 46 :: (renderDec b ++ 46 :: (renderDec c ++ [46]))) ++ renderDec d := by
    simp [dotted]
  rw [this, List.getLast?_append, List.getLast?_eq_some_getLast hne]
  rfl

theorem digitDot_not_upper (x : Nat) (h : isDigit x = true ∨ x = 46) : ¬ (65 ≤ x ∧ x ≤ 90) := by
  rcases h with h | rfl
  · simp only [isDigit, Bool.and_eq_true, decide_eq_true_eq] at h; omega
  · omega

theorem dotted_clean (a b c d : Nat) (ha : a < 256) (hb : b < 256) (hc : c < 256) (hd : d < 256) :
    Clean (dotted a b c d) := by
  have hdd := dotted_digitDot a b c d ha hb hc hd
  obtain ⟨y, hy, hyd⟩ := dotted_last a b c d hd
  refine ⟨lower_id _ fun z hz => digitDot_not_upper z (hdd z hz), fun e => ?_, ?_⟩
  · exact absurd (hdd 91 (List.mem_of_mem_head? e)) (by decide)
  · rw [hy]; intro e; cases e; exact absurd hyd (by decide)

/-! ### what the address parsers consume and return

`ipv6IsNonGlobal` reads its argument with `headD` and a list pattern, and the `::` filler of
`readV6` uses truncated subtraction; the lemmas below show no default is ever reached: a parsed IPv6
address has exactly eight segments below 65536, a parsed IPv4 address four octets below 256. They
also record which bytes the parsers consume. -/

/-- bytes that can occur in a string `IpAddr::from_str` accepts -/
def ipChar (x : Nat) : Bool := isHexDigit x || x == 58 || x == 46

/-- What a parser consumed were address bytes: if only address bytes are left in `r`, then `s`
consisted of address bytes. (Composes by function composition.) -/
def Rest (s r : Bytes) : Prop := (∀ x ∈ r, ipChar x = true) → ∀ x ∈ s, ipChar x = true

theorem Rest.refl (s : Bytes) : Rest s s := id

theorem Rest.trans {s t r : Bytes} (h1 : Rest s t) (h2 : Rest t r) : Rest s r := h1 ∘ h2

theorem Rest.cons {x : Nat} {s r : Bytes} (hx : ipChar x = true) (h : Rest s r) : Rest (x :: s) r :=
  fun hr y hy => (List.mem_cons.1 hy).elim (· ▸ hx) (h hr y)

theorem Rest.all {s : Bytes} (h : Rest s []) : ∀ x ∈ s, ipChar x = true := h nofun

theorem rest_dropWhile (p : Nat → Bool) (hp : ∀ x, p x = true → ipChar x = true) (s : Bytes) :
    Rest s (s.dropWhile p) := fun hr x hx => by
  rw [← List.takeWhile_append_dropWhile (p := p) (l := s)] at hx
  exact (List.mem_append.1 hx).elim (fun h => hp x (List.all_eq_true.1 List.all_takeWhile x h)) (hr x)

/-- A parser step consumes address bytes only and returns a value satisfying `P`. -/
def Parses {α : Type} (f : Bytes → Option (α × Bytes)) (P : α → Prop) : Prop :=
  ∀ s v r, f s = some (v, r) → P v ∧ Rest s r

theorem isDigit_ipChar (x : Nat) (h : isDigit x = true) : ipChar x = true := by
  simp only [isDigit, Bool.and_eq_true, decide_eq_true_eq] at h
  simp [ipChar, isHexDigit, h]

theorem isHexDigit_ipChar (x : Nat) (h : isHexDigit x = true) : ipChar x = true := by
  simp [ipChar, h]

theorem hexDigitVal_lt (d : Nat) (h : isHexDigit d = true) : hexDigitVal d < 16 := by
  simp only [isHexDigit, Bool.or_eq_true, Bool.and_eq_true, decide_eq_true_eq] at h
  unfold hexDigitVal
  split
  · omega
  · split <;> omega

theorem digitsVal_lt (radix : Nat) (ds : Bytes) (h : ∀ d ∈ ds, hexDigitVal d < radix) :
    digitsVal radix ds < radix ^ ds.length := by
  simpa [digitsVal] using Data.foldl_horner_lt radix hexDigitVal ds 0 h

theorem hex4Val_lt (ds : Bytes) (v : Nat) (hall : ∀ d ∈ ds, isHexDigit d = true)
    (h : hex4Val ds = some v) : v < 65536 := by
  unfold hex4Val at h
  split at h; · cases h
  split at h; · cases h
  cases h
  calc _ < 16 ^ ds.length := digitsVal_lt 16 _ fun d hd => hexDigitVal_lt d (hall d hd)
    _ ≤ 16 ^ 4 := Nat.pow_le_pow_right (by decide) (by omega)

theorem parses_readHex4 : Parses readHex4 (· < 65536) := by
  intro s v r h
  unfold readHex4 at h
  split at h
  · rename_i w hw
    cases h
    exact ⟨hex4Val_lt _ _ (List.all_eq_true.1 List.all_takeWhile) hw,
      rest_dropWhile isHexDigit isHexDigit_ipChar s⟩
  · cases h

theorem dec3Val_le (ds : Bytes) (v : Nat) (h : dec3Val ds = some v) : v ≤ 255 := by
  unfold dec3Val at h
  by_cases h0 : ds.length = 0
  · simp [h0] at h
  · rw [if_neg h0] at h
    by_cases h3 : ds.length > 3
    · simp [h3] at h
    · rw [if_neg h3] at h
      by_cases hz : ds.head? = some 48 ∧ ds.length > 1
      · simp [hz] at h
      · rw [if_neg hz] at h
        by_cases hb : digitsVal 10 ds > 255
        · simp [hb] at h
        · rw [if_neg hb] at h
          have : v = digitsVal 10 ds := by simpa using h.symm
          omega

theorem parses_readDec3 : Parses readDec3 (· ≤ 255) := by
  intro s v r h
  unfold readDec3 at h
  split at h
  · rename_i w hw
    cases h
    exact ⟨dec3Val_le _ _ hw, rest_dropWhile isDigit isDigit_ipChar s⟩
  · cases h

theorem expect_some (c : Nat) (s r : Bytes) (h : expect c s = some r) : s = c :: r := by
  cases s with
  | nil => cases h
  | cons b t =>
    simp only [expect] at h
    split at h
    · cases h; rename_i hb; rw [hb]
    · cases h

theorem parses_readSep {α : Type} {f : Bytes → Option (α × Bytes)} {P : α → Prop} (sep i : Nat)
    (hsep : ipChar sep = true) (hf : Parses f P) : Parses (readSep sep i f) P := by
  intro s v r h
  unfold readSep at h
  split at h
  · split at h
    · rename_i s' he
      rw [expect_some _ _ _ he]
      exact ⟨(hf _ _ _ h).1, (hf _ _ _ h).2.cons hsep⟩
    · cases h
  · exact hf _ _ _ h

theorem parses_readV4 :
    Parses readV4 (fun v => v.1 ≤ 255 ∧ v.2.1 ≤ 255 ∧ v.2.2.1 ≤ 255 ∧ v.2.2.2 ≤ 255) := by
  have hd := fun i => parses_readSep 46 i (by decide) parses_readDec3
  intro s v r h
  unfold readV4 at h
  split at h; · cases h
  split at h; · cases h
  split at h; · cases h
  split at h; · cases h
  rename_i h0 _ _ _ h1 _ _ _ h2 _ _ _ h3
  cases h
  have k0 := hd 0 _ _ _ h0
  have k1 := hd 1 _ _ _ h1
  have k2 := hd 2 _ _ _ h2
  have k3 := hd 3 _ _ _ h3
  exact ⟨⟨k0.1, k1.1, k2.1, k3.1⟩, k0.2.trans (k1.2.trans (k2.2.trans k3.2))⟩

/-- `n` slots are still to fill and `i` are filled (`n + i = limit`): an embedded IPv4 address is
read only where two slots are left, so the groups returned never exceed `n`. -/
theorem readGroups_spec (limit : Nat) :
    ∀ n i s gs f r, n + i = limit → readGroups limit n i s = (gs, f, r) →
      (gs.length ≤ n ∧ ∀ x ∈ gs, x < 65536) ∧ Rest s r := by
  have hv4 := fun i => parses_readSep 58 i (by decide) parses_readV4
  have hhex := fun i => parses_readSep 58 i (by decide) parses_readHex4
  intro n
  induction n with
  | zero =>
    intro i s gs f r _ h
    cases h
    exact ⟨⟨Nat.le_refl _, fun x hx => by cases hx⟩, Rest.refl s⟩
  | succ n ih =>
    intro i s gs f r hlim h
    unfold readGroups at h
    split at h
    · rename_i a b c d s' hv
      cases h
      split at hv
      · obtain ⟨hp, hr⟩ := hv4 i _ _ _ hv
        obtain ⟨ha, hb, hc, hd⟩ : a ≤ 255 ∧ b ≤ 255 ∧ c ≤ 255 ∧ d ≤ 255 := hp
        refine ⟨⟨by simp; omega, ?_⟩, hr⟩
        intro x hx
        simp only [List.mem_cons, List.not_mem_nil, or_false] at hx
        rcases hx with rfl | rfl <;> omega
      · cases hv
    · split at h
      · rename_i g s' hg
        obtain ⟨hgl, hr⟩ := hhex i _ _ _ hg
        obtain ⟨⟨hlen, hall⟩, hr'⟩ := ih (i + 1) s' _ _ _ (by omega) rfl
        cases h
        refine ⟨⟨by simp; omega, ?_⟩, hr.trans hr'⟩
        intro x hx
        rcases List.mem_cons.1 hx with rfl | hx
        · exact hgl
        · exact hall x hx
      · cases h
        exact ⟨⟨Nat.zero_le _, fun x hx => by cases hx⟩, Rest.refl s⟩

theorem parses_readV6 : Parses readV6 (fun g => g.length = 8 ∧ ∀ x ∈ g, x < 65536) := by
  intro s g r h
  unfold readV6 at h
  cases hh : readGroups 8 8 0 s with | mk head rest1 =>
  obtain ⟨hv4, s1⟩ := rest1
  obtain ⟨⟨hlen, hall⟩, hr⟩ := readGroups_spec 8 8 0 s head hv4 s1 rfl hh
  simp only [hh] at h
  split at h
  · rename_i h8
    cases h
    exact ⟨⟨h8, hall⟩, hr⟩
  · split at h; · cases h
    split at h; · cases h
    split at h; · cases h
    rename_i s1' hx1 _ s2 hx2
    obtain ⟨⟨tlen, tall⟩, hr'⟩ :=
      readGroups_spec (8 - (head.length + 1)) (8 - (head.length + 1)) 0 s2 _ _ _ rfl rfl
    cases h
    refine ⟨⟨by simp only [List.length_append, List.length_replicate]; omega, ?_⟩, hr.trans ?_⟩
    · intro x hx
      simp only [List.mem_append, List.mem_replicate] at hx
      rcases hx with (hx | ⟨_, rfl⟩) | hx
      · exact hall x hx
      · omega
      · exact tall x hx
    · rw [expect_some _ _ _ hx1, expect_some _ _ _ hx2]
      exact (hr'.cons (by decide)).cons (by decide)

theorem parseIp_spec (s : Bytes) (ip : Ip) (h : parseIp s = some ip) :
    (∀ x ∈ s, ipChar x = true) ∧
      match ip with
      | .v4 a b c d => a ≤ 255 ∧ b ≤ 255 ∧ c ≤ 255 ∧ d ≤ 255
      | .v6 g => g.length = 8 ∧ ∀ x ∈ g, x < 65536 := by
  unfold parseIp at h
  split at h
  · rename_i hv
    obtain ⟨hp, hr⟩ := parses_readV4 _ _ _ hv
    split at h
    · rename_i he
      cases h
      rw [List.isEmpty_iff.1 he] at hr
      exact ⟨hr.all, hp⟩
    · cases h
  · split at h
    · rename_i hv
      obtain ⟨hp, hr⟩ := parses_readV6 _ _ _ hv
      split at h
      · rename_i he
        cases h
        rw [List.isEmpty_iff.1 he] at hr
        exact ⟨hr.all, hp⟩
      · cases h
    · cases h

theorem parseIp_v6_shape (s : Bytes) (g : List Nat) (h : parseIp s = some (.v6 g)) :
    g.length = 8 ∧ ∀ x ∈ g, x < 65536 :=
  (parseIp_spec s _ h).2

theorem parseIp_v4_le (s : Bytes) (a b c d : Nat) (h : parseIp s = some (.v4 a b c d)) :
    a ≤ 255 ∧ b ≤ 255 ∧ c ≤ 255 ∧ d ≤ 255 :=
  (parseIp_spec s _ h).2

theorem parseIp_none_of_mem (s : Bytes) (x : Nat) (hx : x ∈ s) (hbad : ipChar x = false) :
    parseIp s = none := by
  cases h : parseIp s with
  | none => rfl
  | some ip =>
    have := (parseIp_spec s ip h).1 x hx
    rw [hbad] at this; cases this

theorem eight_of_length (g : List Nat) (h : g.length = 8) :
    ∃ s0 s1 s2 s3 s4 s5 s6 s7, g = [s0, s1, s2, s3, s4, s5, s6, s7] := by
  rcases g with _ | ⟨s0, _ | ⟨s1, _ | ⟨s2, _ | ⟨s3, _ | ⟨s4, _ | ⟨s5, _ | ⟨s6, _ | ⟨s7, _ | ⟨s8, t⟩⟩⟩⟩⟩⟩⟩⟩⟩ <;>
    simp at h
  exact ⟨s0, s1, s2, s3, s4, s5, s6, s7, rfl⟩

theorem readV4_nondigit (x : Nat) (t : Bytes) (h : isDigit x = false) : readV4 (x :: t) = none := by
  simp [readV4, readSep, readDec3, h, dec3Val]

theorem readHex4_nonhex (x : Nat) (t : Bytes) (h : isHexDigit x = false) : readHex4 (x :: t) = none := by
  simp [readHex4, h, hex4Val]

theorem readHex4_ffff (t : Bytes) :
    readHex4 (102 :: 102 :: 102 :: 102 :: 58 :: t) = some (0xffff, 58 :: t) := by
  simp [readHex4, isHexDigit, hex4Val, digitsVal, hexDigitVal]

theorem parseIp_mapped (a b c d : Nat) (ha : a < 256) (hb : b < 256) (hc : c < 256) (hd : d < 256) :
    parseIp (bytesOf "::ffff:" ++ dotted a b c d) =
      some (.v6 [0, 0, 0, 0, 0, 0xffff, a * 256 + b, c * 256 + d]) := by
  have hd4 := readV4_dotted a b c d ha hb hc hd
  have hs : bytesOf "::ffff:" ++ dotted a b c d
      = 58 :: 58 :: 102 :: 102 :: 102 :: 102 :: 58 :: dotted a b c d := rfl
  rw [hs]
  unfold parseIp
  rw [readV4_nondigit 58 _ rfl]
  simp only
  have hv6 : readV6 (58 :: 58 :: 102 :: 102 :: 102 :: 102 :: 58 :: dotted a b c d) =
      some ([0, 0, 0, 0, 0, 0xffff, a * 256 + b, c * 256 + d], []) := by
    unfold readV6
    -- before `::` no group is read; after it `ffff`, then the dotted quad as the last two groups
    have hg0 : readGroups 8 8 0 (58 :: 58 :: 102 :: 102 :: 102 :: 102 :: 58 :: dotted a b c d) =
        ([], false, 58 :: 58 :: 102 :: 102 :: 102 :: 102 :: 58 :: dotted a b c d) := by
      simp [readGroups, readSep, readV4_nondigit 58 _ rfl, readHex4_nonhex 58 _ rfl]
    rw [hg0]
    simp only [List.length_nil, expect, if_true]
    have hg1 : readGroups 7 7 0 (102 :: 102 :: 102 :: 102 :: 58 :: dotted a b c d) =
        ([0xffff, a * 256 + b, c * 256 + d], true, []) := by
      simp [readGroups, readSep, readV4_nondigit 102 _ rfl, readHex4_ffff, expect, hd4]
    simp [hg1]
  rw [hv6]
  rfl

theorem splitOn_eq (c : Nat) : ∀ s : Bytes, splitOn c s = Data.splitSep c s
  | [] => rfl
  | b :: t => by
    rw [splitOn, Data.splitSep, splitOn_eq c t]
    split
    · rfl
    · cases Data.splitSep c t <;> rfl

theorem mem_splitOn (c : Nat) (s : Bytes) (x : Nat) (hx : x ∈ s) : x = c ∨ ∃ l ∈ splitOn c s, x ∈ l := by
  rw [splitOn_eq]; exact Data.mem_joinSep ((Data.join_split c s).symm ▸ hx)

theorem splitOn_all_digits (s : Bytes) (h : ∀ l ∈ splitOn 46 s, l.all isDigit = true) :
    s.all (fun b => isDigit b || b == 46) = true :=
  List.all_eq_true.2 fun x hx => by
    rcases mem_splitOn 46 s x hx with rfl | ⟨l, hl, hxl⟩
    · rfl
    · rw [List.all_eq_true.1 (h l hl) x hxl]
      rfl

end C2pa.C27
