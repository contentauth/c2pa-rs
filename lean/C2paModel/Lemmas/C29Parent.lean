import C2paModel.Lemmas.C29Sanitize
/-! C29 — `Path::parent` and `Path::ancestors`: the parent of a path that ends in two normal
names; every ancestor is the segments cut short. -/
namespace C2pa.C29

theorem dropSkips_cons_normal {n : Str} (h : NormalName n) (l : List Str) :
    dropSkips (n :: l) = n :: l := by
  simp [dropSkips, isSkip_false_of_normal h]

theorem parentSegs_snoc2 (Y : Segs) (a b : Str) (hY : Y ≠ []) (ha : NormalName a)
    (hb : NormalName b) : parentSegs (Y ++ [a, b]) = some (Y ++ [a]) := by
  cases Y with
  | nil => exact absurd rfl hY
  | cons s0 Y' =>
    simp only [List.cons_append, parentSegs]
    have : (Y' ++ [a, b]).reverse = b :: a :: Y'.reverse := by simp
    rw [this, dropSkips_cons_normal hb]
    simp only
    rw [dropSkips_cons_normal ha]
    simp

theorem dropSkips_suffix : ∀ l : List Str, dropSkips l <:+ l
  | [] => List.suffix_refl _
  | a :: l => by
    rw [dropSkips]
    split
    · exact (dropSkips_suffix l).trans (List.suffix_cons a l)
    · exact List.suffix_refl _

/-- `a` is `p` cut after one of its segments, or is made of `""` and `"."` only (`/`, `""`) -/
def Above (a p : Segs) : Prop := (a ≠ [] ∧ a <+: p) ∨ ∀ s ∈ a, isSkip s = true

theorem Above.refl (p : Segs) : Above p p := by
  by_cases h : p = []
  · exact .inr (h ▸ nofun)
  · exact .inl ⟨h, List.prefix_refl p⟩

theorem Above.trans {a b c : Segs} (h1 : Above a b) (h2 : Above b c) : Above a c := by
  rcases h1 with ⟨hne, hab⟩ | hs
  · rcases h2 with ⟨_, hbc⟩ | hs
    · exact .inl ⟨hne, hab.trans hbc⟩
    · exact .inr fun s hs' => hs s (hab.subset hs')
  · exact .inr hs

theorem parentSegs_above {p q : Segs} (h : parentSegs p = some q) : Above q p := by
  revert h
  fun_cases parentSegs p
  case case2 hr => rw [if_pos hr]; rintro ⟨⟩; exact .inr (by simp [isSkip])
  case case3 hr => rw [if_neg hr]; rintro ⟨⟩; exact .inl ⟨nofun, by simp⟩
  case case4 s ss last before hd _ _ =>
    rintro ⟨⟩
    -- `keep` is `ss` cut before its last name and the separators in front of it
    have h1 : dropSkips before <:+ ss.reverse :=
      (dropSkips_suffix before).trans ((List.suffix_cons last before).trans (hd ▸ dropSkips_suffix _))
    exact .inl ⟨nofun, (List.prefix_cons_inj s).2 (by simpa using List.reverse_prefix.2 h1)⟩
  case case7 hs hr => rw [if_neg hr, if_neg hs]; rintro ⟨⟩; exact .inr (by simp [isSkip])
  case case1 => exact nofun
  case case5 hr => rw [if_pos hr]; exact nofun
  case case6 hr => rw [if_neg hr, if_pos rfl]; exact nofun

theorem mem_ancF : ∀ (n : Nat) (p a : Segs), a ∈ ancF n p → Above a p
  | 0, _, _, h => nomatch h
  | n + 1, p, a, h => by
    rw [ancF] at h
    rcases List.mem_cons.1 h with rfl | h
    · exact Above.refl _
    · split at h
      · cases h
      · rename_i q hq; exact (mem_ancF n q a h).trans (parentSegs_above hq)

end C2pa.C29
