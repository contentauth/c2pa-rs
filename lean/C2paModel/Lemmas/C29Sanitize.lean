import C2paModel.Lemmas.C29Split
/-! C29 — plain names (`NormalName`; what `isSkip` and `single` make of a segment), then
`sanitize_archive_path`: what an accepted path looks like. -/
namespace C2pa.C29

/-- a `Component::Normal` name: non-empty, not `.`/`..`, no `/` -/
def NormalName (n : Str) : Prop := n ≠ [] ∧ n ≠ [46] ∧ n ≠ [46, 46] ∧ 47 ∉ n

theorem isSkip_iff {s : Str} : isSkip s = true ↔ s = [] ∨ s = [46] := by
  simp [isSkip]

theorem isSkip_eq_false {s : Str} : isSkip s = false ↔ s ≠ [] ∧ s ≠ [46] := by
  simp [isSkip]

theorem isSkip_false_of_normal {n : Str} (h : NormalName n) : isSkip n = false :=
  isSkip_eq_false.2 ⟨h.1, h.2.1⟩

theorem not_skip_of_normal {n : Str} (h : NormalName n) : ¬(n = [] ∨ n = [46]) :=
  fun hs => hs.elim h.1 h.2.1

theorem single_of_skip {s : Str} (h : isSkip s = true) : single s = none := by
  rcases isSkip_iff.1 h with rfl | rfl <;> rfl

theorem single_of_name {s : Str} (h : isSkip s = false) (h2 : s ≠ [46, 46]) :
    single s = some (.normal s) := by
  have ⟨h0, h1⟩ := isSkip_eq_false.1 h
  rw [single, if_neg h0, if_neg h1, if_neg h2]

theorem single_ne_root {s : Str} {c : Comp} (h : single s = some c) : c ≠ .root := by
  revert h
  fun_cases single s
  case case3 => intro h; cases h; nofun
  case case4 => intro h; cases h; nofun
  all_goals exact nofun

theorem single_normal {n : Str} (h : NormalName n) : single n = some (.normal n) :=
  single_of_name (isSkip_false_of_normal h) h.2.2.1

/-- The loop of `sanitize_archive_path` over the segments; a non-empty accumulator counts as a first
name. -/
theorem sanLoop_eq_some : ∀ (segs : Segs) (acc r : Str),
    sanLoop acc (segs.filterMap single) = some r →
    [46, 46] ∉ segs ∧
      r = joinSlash ((if acc = [] then [] else [acc]) ++ segs.filter fun x => !isSkip x) := by
  intro segs
  induction segs with
  | nil =>
    intro acc r h
    cases Option.some.inj h
    exact ⟨nofun, by split <;> simp_all [joinSlash]⟩
  | cons s ss ih =>
    intro acc r h
    cases hs : isSkip s with
    | true =>
      rw [List.filterMap_cons, single_of_skip hs] at h
      have ⟨hp, hr⟩ := ih acc r h
      exact ⟨fun hm => (List.mem_cons.1 hm).elim (fun e => by subst e; cases hs) hp,
        by rw [List.filter_cons, hs]; exact hr⟩
    | false =>
      by_cases h2 : s = [46, 46]
      · subst h2; cases h
      · rw [List.filterMap_cons, single_of_name hs h2] at h
        have ⟨hp, hr⟩ := ih _ r h
        refine ⟨fun hm => (List.mem_cons.1 hm).elim (fun e => h2 e.symm) hp, ?_⟩
        have hs0 : s ≠ [] := (isSkip_eq_false.1 hs).1
        rw [List.filter_cons, hs, hr]
        by_cases ha : acc = []
        · simp [ha, hs0]
        · simp [ha, joinSlash_glue]

theorem filterMap_single_normals (names : Segs) (h : ∀ n ∈ names, NormalName n) :
    names.filterMap single = names.map Comp.normal := by
  induction names with
  | nil => rfl
  | cons n ns ih =>
    rw [List.filterMap_cons, single_normal (h n (by simp)), ih fun m hm => h m (by simp [hm])]
    rfl

theorem rooted_normals (names : List Str) (hne : names ≠ []) (hN : ∀ n ∈ names, NormalName n) :
    rooted names = false := by
  match names, hne, hN with
  | [] :: _, _, hN => exact absurd rfl (hN [] (by simp)).1
  | [_ :: _], _, _ => rfl
  | (_ :: _) :: _ :: _, _, _ => rfl

theorem components_of_normals (names : Segs) (hne : names ≠ []) (h : ∀ n ∈ names, NormalName n) :
    components (joinSlash names) = names.map Comp.normal := by
  unfold components componentsSegs
  rw [splitSlash_joinSlash names hne (fun n hn => (h n hn).2.2.2), rooted_normals names hne h,
    filterMap_single_normals _ h]
  match names, hne with
  | n :: ns, _ => simp [(h n (by simp)).2.1]

/-- What `sanitize_archive_path` lets through: the segments of the path other than `""` and
`"."`, joined by `/`; there is at least one, none is `..` and none contains a backslash. -/
theorem sanitize_ok {p s : Str} (h : sanitize p = .ok s) :
    (splitSlash p).filter (fun x => !isSkip x) ≠ [] ∧
    (∀ n ∈ (splitSlash p).filter (fun x => !isSkip x), NormalName n ∧ 92 ∉ n) ∧
    s = joinSlash ((splitSlash p).filter fun x => !isSkip x) := by
  revert h
  fun_cases sanitize p
  case case5 h0 hbs r hl hr =>
    intro h
    cases h
    -- a leading `/` ends the loop with an error, a leading `.` leaves the accumulator empty
    have hl' : sanLoop [] ((splitSlash p).filterMap single) = some s := by
      unfold components componentsSegs at hl
      split at hl
      · cases hl
      · split at hl <;> exact hl
    obtain ⟨hpar, hacc⟩ := sanLoop_eq_some _ _ _ hl'
    have hN : ∀ n ∈ (splitSlash p).filter (fun x => !isSkip x), NormalName n ∧ 92 ∉ n := by
      intro n hn
      obtain ⟨hmem, hsk⟩ := List.mem_filter.1 hn
      have ⟨hn0, hn1⟩ := (isSkip_eq_false (s := n)).1 (by simpa using hsk)
      exact ⟨⟨hn0, hn1, fun e => hpar (e ▸ hmem), splitSlash_noslash p n hmem⟩,
        fun h92 => hbs (splitSlash_sub p n hmem 92 h92)⟩
    rw [if_pos rfl, List.nil_append] at hacc
    exact ⟨fun he => hr (by rw [hacc, he]; rfl), hN, hacc⟩
  all_goals exact nofun

theorem splitSlash_sanitized {p s : Str} (h : sanitize p = .ok s) : ∀ n ∈ splitSlash s, NormalName n := by
  obtain ⟨hne, hN, hs⟩ := sanitize_ok h
  rw [hs, splitSlash_joinSlash _ hne fun n hn => (hN n hn).1.2.2.2]
  exact fun n hn => (hN n hn).1

end C2pa.C29
