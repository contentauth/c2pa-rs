import C2paModel.Model.C16
/-
C16 — helper lemmas about `split_bmff_merkle_map` (`splitBoxes`): when the number of stored
groups equals the number of MerkleMaps (the validator's `mm_vec.len() != bmff_merkle_maps.len()`
test), every MerkleMap finds, under its own `local_id`, a group of exactly `count` boxes.
-/
namespace C2pa.C16

variable {α β : Type}

theorem lookup_mem (k : Nat) (g : β) (l : List (Nat × β)) (h : l.lookup k = some g) :
    (k, g) ∈ l := by
  obtain ⟨l₁, l₂, rfl, _⟩ := List.lookup_eq_some_iff.mp h
  exact List.mem_append_right _ List.mem_cons_self

theorem mapInsert_length_le (k : Nat) (v : β) (m : List (Nat × β)) :
    (mapInsert k v m).length ≤ m.length + 1 := by
  simp only [mapInsert, List.length_cons]
  have := List.length_filter_le (fun e : Nat × β => e.1 != k) m
  omega

theorem mapInsert_of_length (k : Nat) (v : β) (m : List (Nat × β))
    (h : (mapInsert k v m).length = m.length + 1) :
    mapInsert k v m = (k, v) :: m ∧ ∀ e ∈ m, e.1 ≠ k := by
  simp only [mapInsert, List.length_cons, Nat.add_right_cancel_iff] at h
  have hall : ∀ e ∈ m, (e.1 != k) = true := List.length_filter_eq_length_iff.mp h
  refine ⟨?_, fun e he => by simpa using hall e he⟩
  simp only [mapInsert]
  rw [List.filter_eq_self.mpr hall]

/-- Each MerkleMap grows the stored map by at most one entry, so the result has at most
`out.length + ms.length` entries; when it has exactly that many, every insertion was under a new
id: the entries of `out` are still found, and every MerkleMap finds the run of boxes cut for it. -/
theorem splitBoxes_spec (ms : List (Mdat α)) (cur : List (Box α))
    (out groups : List (Nat × List (Box α))) (h : splitBoxes ms cur out = some groups) :
    groups.length ≤ out.length + ms.length ∧
      (groups.length = out.length + ms.length →
        (∀ k g, out.lookup k = some g → groups.lookup k = some g) ∧
        (∀ m ∈ ms, ∃ g, groups.lookup m.localId = some g ∧ g.length = m.count)) := by
  fun_induction splitBoxes ms cur out generalizing groups with
  | case1 cur out => cases h; simp
  | case2 m ms cur out hc => cases h
  | case3 m ms cur out hc ih =>
    obtain ⟨hle, heq⟩ := ih groups h
    have hins := mapInsert_length_le m.localId (cur.take m.count) out
    refine ⟨by simp only [List.length_cons]; omega, fun hlen => ?_⟩
    simp only [List.length_cons] at hlen
    -- the map grew at this step, so the id was new and every earlier group survives
    obtain ⟨hshape, hnew⟩ := mapInsert_of_length m.localId (cur.take m.count) out (by omega)
    obtain ⟨hsurv, hms⟩ := heq (by omega)
    rw [hshape] at hsurv
    refine ⟨fun k g hk => hsurv k g ?_, fun m' hm' => ?_⟩
    · have hne : (k == m.localId) = false :=
        beq_eq_false_iff_ne.mpr fun e => hnew _ (lookup_mem k g out hk) e
      rw [List.lookup_cons, hne]
      exact hk
    · rcases List.mem_cons.mp hm' with rfl | hin
      · exact ⟨_, hsurv _ _ List.lookup_cons_self, by rw [List.length_take]; omega⟩
      · exact hms m' hin

theorem splitBoxes_group (ms : List (Mdat α)) (boxes : List (Box α))
    (groups : List (Nat × List (Box α))) (h : splitBoxes ms boxes [] = some groups)
    (hlen : ms.length = groups.length) (m : Mdat α) (hm : m ∈ ms) :
    ∃ g, groups.lookup m.localId = some g ∧ g.length = m.count := by
  obtain ⟨_, heq⟩ := splitBoxes_spec ms boxes [] groups h
  exact (heq (by simp [hlen])).2 m hm

end C2pa.C16
