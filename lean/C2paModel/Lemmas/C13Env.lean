import C2paModel.Lemmas.C13Build
import C2paModel.Lemmas.C13Run
/-
C13 — the environment parameter `spawnOk` (can worker threads be created?).
The environment-aware functions compute what the ordinary ones compute, with one exception:
when every spawn fails, a range that needs a second chunk stops with the I/O error of the failed
spawn (`…_cases`). Hence with `spawnOk = true` `hashModelE` is `hashModel`; with `spawnOk = false`
the run either never needed a worker (same outcome as `hashModel`) or stops with that I/O error,
nothing else (no panic of its own, no different digest); a chunk size of at least the stream length never
needs a worker.
`hashModel` and `hashModelE` are the same front end (`front`, Lemmas/C13Build) before the same
back end (`back`, Lemmas/C13Run) around `runPieces` / `runPiecesE` (`hashModel_eq`, `hashModelE_eq`).
-/
namespace C2pa.C13

variable {data : List UInt8} {buf T : Nat} {c : Option Nat}

theorem chunkLoopE_cases (b : Bool) : ∀ (fuel pos : Nat) (chunk : List UInt8) (left : Nat) (st : St),
    chunkLoopE b data buf T c fuel pos chunk left st =
        chunkLoop data buf T c fuel pos chunk left st ∨
      (b = false ∧ chunk.length < left ∧
        chunkLoopE b data buf T c fuel pos chunk left st = .error (.err .io st.prog)) := by
  intro fuel
  induction fuel with
  | zero => intro pos chunk left st; exact Or.inl rfl
  | succ fuel ih =>
    intro pos chunk left st
    unfold chunkLoopE chunkLoop
    by_cases h1 : left < chunk.length
    · rw [if_pos h1, if_pos h1]; exact Or.inl rfl
    · rw [if_neg h1, if_neg h1]
      dsimp only
      by_cases h2 : left - chunk.length = 0
      · rw [if_pos h2, if_pos h2]; exact Or.inl rfl
      · rw [if_neg h2, if_neg h2]
        cases b with
        | false => exact Or.inr ⟨rfl, by omega, rfl⟩
        | true =>
          left
          rw [if_neg (by decide)]
          cases readExact data pos (min (left - chunk.length) buf) with
          | none => rfl
          | some next =>
            dsimp only
            cases tick T c { st with absorbed := st.absorbed ++ chunk } with
            | error o => rfl
            | ok st2 => exact (ih _ _ _ _).resolve_right (fun h => Bool.noConfusion h.1)

theorem runPieceE_cases (b : Bool) (p : Piece) (st : St) :
    runPieceE b data buf T c p st = runPiece data buf T c p st ∨
      (b = false ∧ buf < p.hi - p.lo + 1 ∧
        ∃ prog, runPieceE b data buf T c p st = .error (.err .io prog)) := by
  unfold runPieceE runPiece
  cases tick T c st with
  | error o => exact Or.inl rfl
  | ok st1 =>
    dsimp only
    by_cases h1 : p.hi < p.lo
    · rw [if_pos h1, if_pos h1]; exact Or.inl rfl
    · rw [if_neg h1, if_neg h1]
      by_cases h2 : p.hi - p.lo + 1 > u64Max
      · rw [if_pos h2, if_pos h2]; exact Or.inl rfl
      · rw [if_neg h2, if_neg h2]
        by_cases hm : p.marker = true
        · rw [if_pos hm, if_pos hm]; exact Or.inl rfl
        · rw [if_neg hm, if_neg hm]
          cases hr : readExact data p.lo (min (p.hi - p.lo + 1) buf) with
          | none => exact Or.inl rfl
          | some chunk =>
            have hl := (readExact_some hr).2.2
            exact (chunkLoopE_cases b _ _ chunk _ st1).imp id
              fun ⟨hb, hlt, he⟩ => ⟨hb, by omega, _, he⟩

theorem runPiecesE_cases (b : Bool) : ∀ (ps : List Piece) (st : St),
    runPiecesE b data buf T c ps st = runPieces data buf T c ps st ∨
      (b = false ∧ (∃ p ∈ ps, buf < p.hi - p.lo + 1) ∧
        ∃ prog, runPiecesE b data buf T c ps st = .error (.err .io prog)) := by
  intro ps
  induction ps with
  | nil => intro st; exact Or.inl rfl
  | cons p ps ih =>
    intro st
    unfold runPiecesE runPieces
    rcases runPieceE_cases (data := data) (buf := buf) (T := T) (c := c) b p st with
      h | ⟨hb, hlt, prog, h⟩
    · rw [h]
      cases runPiece data buf T c p st with
      | error o => exact Or.inl rfl
      | ok st1 =>
        exact (ih st1).imp id fun ⟨hb, ⟨q, hq, hlt⟩, he⟩ => ⟨hb, ⟨q, List.mem_cons_of_mem _ hq, hlt⟩, he⟩
    · exact Or.inr ⟨hb, ⟨p, List.mem_cons_self .., hlt⟩, prog, by rw [h]⟩

theorem hashModel_eq (alg : String) (data : List UInt8) (hr : Option (List HashRange))
    (isExcl : Bool) (buf : Nat) (c : Option Nat) :
    hashModel alg data hr isExcl buf c =
      front alg data.length hr isExcl (back (fun T => runPieces data buf T c) buf) := rfl

theorem hashModelE_eq (b : Bool) (alg : String) (data : List UInt8) (hr : Option (List HashRange))
    (isExcl : Bool) (buf : Nat) (c : Option Nat) :
    hashModelE b alg data hr isExcl buf c =
      front alg data.length hr isExcl (back (fun T => runPiecesE b data buf T c) buf) := rfl

theorem hashModelE_cases (b : Bool) (alg : String) (data : List UInt8)
    (hr : Option (List HashRange)) (isExcl : Bool) (buf : Nat) (c : Option Nat) :
    hashModelE b alg data hr isExcl buf c = hashModel alg data hr isExcl buf c ∨
      (b = false ∧
        (1 ≤ data.length ∧ ∃ ps, buildPieces data.length hr isExcl = .ok ps ∧
          ∃ p ∈ ps, buf < p.hi - p.lo + 1) ∧
        ∃ prog, hashModelE b alg data hr isExcl buf c = .err .io prog) := by
  rw [hashModelE_eq, hashModel_eq]
  rcases front_cases alg data.length hr isExcl with ⟨o, _, e⟩ | ⟨_, h1, ps, hps, e⟩
  · rw [e, e]; exact .inl rfl
  · rw [e, e]
    unfold back
    cases totalOf buf ps 0 with
    | error s => exact .inl rfl
    | ok T =>
      dsimp only
      rcases runPiecesE_cases (data := data) (buf := buf) (T := T) (c := c) b ps {} with
        h | ⟨hf, hbig, prog, h⟩
      · rw [h]; exact .inl rfl
      · exact .inr ⟨hf, ⟨h1, ps, hps, hbig⟩, prog, by rw [h]; rfl⟩

theorem hashModelE_true (alg : String) (data : List UInt8) (hr : Option (List HashRange))
    (isExcl : Bool) (buf : Nat) (c : Option Nat) :
    hashModelE true alg data hr isExcl buf c = hashModel alg data hr isExcl buf c :=
  (hashModelE_cases true alg data hr isExcl buf c).resolve_right fun h => Bool.noConfusion h.1

theorem hashModelE_false (alg : String) (data : List UInt8) (hr : Option (List HashRange))
    (isExcl : Bool) (buf : Nat) (c : Option Nat) :
    hashModelE false alg data hr isExcl buf c = hashModel alg data hr isExcl buf c ∨
      ∃ prog, hashModelE false alg data hr isExcl buf c = .err .io prog :=
  (hashModelE_cases false alg data hr isExcl buf c).imp id fun h => h.2.2

theorem hashModelE_whole_buffer (b : Bool) (alg : String) (data : List UInt8)
    (hr : Option (List HashRange)) (isExcl : Bool) (buf : Nat) (c : Option Nat)
    (hlen : data.length ≤ u64Max) (hbuf : data.length ≤ buf) :
    hashModelE b alg data hr isExcl buf c = hashModel alg data hr isExcl buf c := by
  refine (hashModelE_cases b alg data hr isExcl buf c).resolve_right ?_
  rintro ⟨_, ⟨h1, ps, hb, p, hp, hlt⟩, _⟩
  obtain ⟨_, _, p3, p4⟩ := buildPieces_pieceOK h1 hlen hb p hp
  rcases p4 with hm | hlt'
  · have := p3 hm; omega
  · omega

end C2pa.C13
