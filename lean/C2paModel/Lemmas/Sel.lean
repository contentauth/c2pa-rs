import C2paModel.Lemmas.List
/-
Selecting the elements of a list by a predicate on positions: what a data hash with exclusion
ranges absorbs when no offset markers are hashed. C01 (`exclSpec` without markers) and C21 (`sel`)
each prove their selection equal to this one; the soundness of the update-manifest re-basing is in
both an instance of `selBy_splice`.
-/
namespace C2pa.Data
variable {α : Type}

/-- the elements of `d` at the positions where `e` is false, in order -/
def selBy (e : Nat → Bool) (d : List α) : List α :=
  (List.range d.length).flatMap fun x => if e x then [] else (d[x]?).toList

theorem selBy_congr {e e' : Nat → Bool} {d : List α} (h : ∀ x, x < d.length → e x = e' x) :
    selBy e d = selBy e' d :=
  flatMap_congr_mem fun x hx => by rw [h x (List.mem_range.1 hx)]

theorem selBy_eq_nil {e : Nat → Bool} {d : List α} (h : ∀ x, x < d.length → e x = true) :
    selBy e d = [] :=
  List.flatMap_eq_nil_iff.2 fun x hx => by rw [h x (List.mem_range.1 hx), if_pos rfl]

theorem selBy_append (e : Nat → Bool) (d1 d2 : List α) :
    selBy e (d1 ++ d2) = selBy e d1 ++ selBy (fun k => e (d1.length + k)) d2 := by
  unfold selBy
  rw [List.length_append, List.range_add, List.flatMap_append, List.flatMap_map]
  congr 1 <;> apply flatMap_congr_mem <;> intro x hx
  · rw [List.getElem?_append_left (List.mem_range.1 hx)]
  · rw [List.getElem?_append_right (Nat.le_add_right _ _), Nat.add_sub_cancel_left]

/-- A middle part `M` of which nothing is selected is replaced by another such part `M'`: the
selection stays the same when the predicate is unchanged before the part and, behind it, has moved
with the elements. -/
theorem selBy_splice (e e' : Nat → Bool) (pre M M' post : List α)
    (hlo : ∀ x, x < pre.length → e' x = e x)
    (hM' : ∀ k, k < M'.length → e' (pre.length + k) = true)
    (hM : ∀ k, k < M.length → e (pre.length + k) = true)
    (hhi : ∀ k, k < post.length → e' (pre.length + M'.length + k) = e (pre.length + M.length + k)) :
    selBy e' (pre ++ M' ++ post) = selBy e (pre ++ M ++ post) := by
  rw [selBy_append, selBy_append, selBy_append, selBy_append, List.length_append,
    List.length_append, selBy_eq_nil hM', selBy_eq_nil hM, List.append_nil, List.append_nil,
    selBy_congr hlo, selBy_congr hhi]

end C2pa.Data
