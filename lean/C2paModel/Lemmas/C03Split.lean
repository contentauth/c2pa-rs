import C2paModel.Lemmas.C03Base
/-
C03 — two container handlers obey the handler laws: prefix ++ framed manifest ++ suffix, and the
splice handler (removes the region the asset reports, writes the framed payload in its place;
`Splice.embed` really reads its asset argument).
-/
namespace C2pa.C03
open C2pa

theorem split_finalExcl (s : Split) (a : Asset) (j : List UInt8) (hw : 0 < (s.wrap j).length) :
    finalExcl (s.embed a j) = some [⟨(s.pre j.length).length, (s.wrap j).length⟩] :=
  exclusionsOf_single _ _ _ true hw (fun _ => by simp only [Split.embed, List.length_append]; omega)

/-- Both handlers are instances: write `P j ++ W j ++ Q j`, report the frame `W j` as the only C2PA
region, and keep `P`, `Q` and the frame length when a payload of the same length is re-embedded. -/
theorem laws_of_frame (E : Env) (src : Asset) (n0 : Nat) (P W Q : List UInt8 → List UInt8)
    (hemb : ∀ j, j.length = n0 →
      E.embed src j = ⟨P j ++ W j ++ Q j, [⟨(P j).length, (W j).length, .cai⟩]⟩)
    (hre : ∀ j j', j.length = n0 → j'.length = n0 →
      (E.embed (E.embed src j) j').bytes = P j ++ W j' ++ Q j)
    (hw : ∀ j, j.length = n0 → 0 < (W j).length)
    (hwl : ∀ j j', j.length = n0 → j'.length = n0 → (W j').length = (W j).length) :
    Laws E src n0 := by
  have hfe : ∀ j, j.length = n0 →
      finalExcl (E.embed src j) = some [⟨(P j).length, (W j).length⟩] := by
    intro j hj
    rw [hemb j hj]
    exact exclusionsOf_single _ _ _ true (hw j hj) (fun _ => by simp only [List.length_append]; omega)
  constructor
  · intro j hj
    refine ⟨_, hfe j hj, by simp, ?_⟩
    intro r hr
    rw [List.mem_singleton.1 hr, hemb j hj]
    simp only [List.length_append]
    omega
  · intro j hj
    have := hw j hj
    rw [hemb j hj]
    simp only [List.length_append]
    omega
  · intro j j' ex hj hj' hex
    rw [hfe j hj] at hex
    cases hex
    have hwe := hwl j j' hj hj'
    rw [hre j j' hj hj', hemb j hj]
    refine ⟨by simp only [List.length_append, hwe], fun x hx => Data.getElem?_outside_mid _ _ _ _ hwe x ?_⟩
    simp only [C13.included, C13.excluded, toHR, List.map_cons, List.map_nil, List.any_cons,
      List.any_nil, Bool.or_false, Bool.and_eq_true, decide_eq_true_eq, Bool.not_eq_true',
      Option.isNone_none, Bool.true_and, Bool.and_eq_false_iff, bne_eq_false_iff_eq,
      decide_eq_false_iff_not] at hx
    omega

/-- The split container obeys the laws once its frame is never empty and the frame's length depends
on the payload's length only: prefix, suffix and the reported region are functions of that length, so
a payload of equal length is written into the same place. -/
theorem split_laws {jm : DHash → List UInt8 → List UInt8} {H : List UInt8 → List UInt8}
    {sg : DHash → List UInt8} {ph : List UInt8} (s : Split) (src : Asset) (n0 : Nat)
    (hw : ∀ j, j.length = n0 → 0 < (s.wrap j).length)
    (hwl : ∀ j j', j.length = n0 → j'.length = n0 → (s.wrap j').length = (s.wrap j).length) :
    Laws ⟨s.embed, jm, H, sg, ph⟩ src n0 :=
  laws_of_frame _ src n0 (fun j => s.pre j.length) s.wrap (fun j => s.suf j.length)
    (fun _ _ => rfl) (fun j j' hj hj' => by simp only [Split.embed, hj, hj']) hw hwl

/-- The 10 bytes of padding suffice: the CBOR head of the region length grows by at most 8
bytes, which leaves 2 bytes for the head of the region start (0 when the start is unchanged, as
with every handler that probes the location where it later writes). -/
theorem split_fits (algLen n at0 at1 probe W : Nat) (hat : C15.hdr at1 ≤ C15.hdr at0 + 2) :
    ({ excl := [⟨at1, W⟩], algLen := algLen, hash := List.replicate n 0, pad := 0, pad2 := none } : DHash).size
      ≤ ({ excl := [⟨at0, probe⟩], algLen := algLen, hash := List.replicate n 0, pad := 10, pad2 := none } : DHash).size := by
  rw [size_le_placeholder algLen rfl]
  show 11 + C15.exclSize [⟨at1, W⟩] ≤ 11 + C15.exclSize [⟨at0, probe⟩] + 10
  have h1 : C15.hdr W ≤ 9 := C14.hdr_le W
  have h2 : 1 ≤ C15.hdr probe := C14.hdr_pos probe
  simp only [C15.exclSize, C15.rangeSize, List.map_cons, List.map_nil, List.sum_cons, List.sum_nil,
    List.length_cons, List.length_nil]
  omega

theorem placeholderDH_source (alg : String) (bytes : List UInt8) (at_ probe n : Nat)
    (hprobe : 0 < probe) :
    placeholderDH alg (Split.source bytes at_ probe) n =
      { excl := [⟨at_, probe⟩], algLen := alg.length, hash := List.replicate n 0, pad := 10,
        pad2 := none } := by
  unfold placeholderDH
  rw [show exclusionsOf _ (Split.source bytes at_ probe).locs false = some [⟨at_, probe⟩] from
    exclusionsOf_single _ _ _ false hprobe nofun]
  rfl

/-- On a source reporting the region `[at_, at_ + probe)`, an output on which the second pass finds
the single exclusion `(p, w)` has a DataHash that fits the placeholder (`split_fits`): the hypotheses
`fits` of `sign_then_verify_valid` and `hone` of `sign_then_state_valid`, for both containers. -/
theorem source_fits (alg : String) (bytes : List UInt8) (at_ probe n : Nat) (hprobe : 0 < probe)
    {out : Asset} {p w : Nat} (hfe : finalExcl out = some [⟨p, w⟩])
    (hat : C15.hdr p ≤ C15.hdr at_ + 2) :
    ∀ ex, finalExcl out = some ex →
      (rawDH alg ex (List.replicate n 0)).size ≤ (placeholderDH alg (Split.source bytes at_ probe) n).size ∧
      ex.length ≤ 1 := by
  intro ex hex
  cases hfe.symm.trans hex
  rw [placeholderDH_source alg bytes at_ probe n hprobe]
  exact ⟨split_fits alg.length n at_ p probe w hat, Nat.le_refl 1⟩

theorem splice_region_embed (s : Splice) (a : Asset) (j : List UInt8) :
    s.region (s.embed a j) = ((s.region a).1, (s.wrap j).length) := by
  simp [Splice.region, Splice.embed]

theorem splice_finalExcl (s : Splice) (a : Asset) (j : List UInt8) (hw : 0 < (s.wrap j).length)
    (ho : (s.region a).1 ≤ a.bytes.length) :
    finalExcl (s.embed a j) = some [⟨(s.region a).1, (s.wrap j).length⟩] :=
  exclusionsOf_single _ _ _ true hw (fun _ => by
    simp only [Splice.embed, List.length_append, List.length_take]; omega)

/-- re-embedding replaces: the second write sees the region the first one reported -/
theorem splice_embed_embed (s : Splice) (a : Asset) (j j' : List UInt8)
    (ho : (s.region a).1 ≤ a.bytes.length) :
    (s.embed (s.embed a j) j').bytes =
      a.bytes.take (s.region a).1 ++ s.wrap j' ++ a.bytes.drop ((s.region a).1 + (s.region a).2) := by
  have hlen : (a.bytes.take (s.region a).1).length = (s.region a).1 := by
    rw [List.length_take]; omega
  show (s.embed a j).bytes.take (s.region (s.embed a j)).1 ++ s.wrap j' ++
      (s.embed a j).bytes.drop ((s.region (s.embed a j)).1 + (s.region (s.embed a j)).2) = _
  rw [splice_region_embed]
  -- the first write is `taken ++ frame ++ dropped`: its prefix of that length and its rest behind
  -- the frame are the source's
  have h1 := List.take_left' (l₂ := s.wrap j ++ a.bytes.drop ((s.region a).1 + (s.region a).2)) hlen
  have h2 := List.drop_left' (l₁ := a.bytes.take (s.region a).1 ++ s.wrap j)
    (l₂ := a.bytes.drop ((s.region a).1 + (s.region a).2)) (by rw [List.length_append, hlen])
  rw [← List.append_assoc] at h1
  simp only [Splice.embed]
  rw [h1, h2]

/-- `ho` (the region the source reports starts inside the source) is
what makes the first write `take ++ frame ++ drop` with a prefix of the reported length, so that the
second write finds the frame where the first put it (`splice_embed_embed`). -/
theorem splice_laws {jm : DHash → List UInt8 → List UInt8} {H : List UInt8 → List UInt8}
    {sg : DHash → List UInt8} {ph : List UInt8} (s : Splice) (src : Asset) (n0 : Nat)
    (ho : (s.region src).1 ≤ src.bytes.length)
    (hw : ∀ j, j.length = n0 → 0 < (s.wrap j).length)
    (hwl : ∀ j j', j.length = n0 → j'.length = n0 → (s.wrap j').length = (s.wrap j).length) :
    Laws ⟨s.embed, jm, H, sg, ph⟩ src n0 :=
  laws_of_frame _ src n0 (fun _ => src.bytes.take (s.region src).1) s.wrap
    (fun _ => src.bytes.drop ((s.region src).1 + (s.region src).2))
    (fun _ _ => by simp only [Splice.embed, List.length_take, Nat.min_eq_left ho])
    (fun j j' _ _ => splice_embed_embed s src j j' ho) hw hwl

theorem splice_source_region (s : Splice) (bytes : List UInt8) (at_ probe : Nat) :
    s.region (Split.source bytes at_ probe) = (at_, probe) := by
  simp [Splice.region, Split.source]

end C2pa.C03
